import ColumnVerif.Conc.Invariants
/-!
# C15 (schedule-quantified part) — commit ids and the logger stream, over every interleaving

`Conc/Machine.lean` is the commit protocol as a small-step machine: any number of threads, any
number of chunks, any schedule. The theorems below hold in **every** world reachable from an
initial world (`Init w0`, `Reach cfg merge w0 w`), for an arbitrary merge function.

* M1  mutual exclusion of the chunk latch (helper for everything else);
* C15-a per chunk, commit ids strictly increase in apply order — *if* the id is drawn inside the
        latch section (`cfg.idInsideLatch = true`, read off the source by the skeleton extractor);
* C15-b ids are non-zero and globally distinct (both configurations);
* C15-c per chunk, the logger receives the commits in apply order, each exactly once;
* C15-d with the id drawn *before* the latch is taken (defect D2, fixed) there is a run that applies
        id 1 after id 2 on the same chunk: the hypothesis of C15-a is necessary.
-/
namespace ColumnVerif.Props.C15conc
open ColumnVerif.Conc

variable {cfg : ProtoCfg} {merge : Nat → Nat → Nat} {w0 w : W}

/-! ### M1 — mutual exclusion -/

/-- a thread whose pc is `held/loaded/wroteAcc/wroteA/wroteB/emitted c …` is the holder of `c` -/
theorem latch_holder (hi : Init w0) (hr : Reach cfg merge w0 w) {t c : Nat}
    (h : wchunk (w.pc t) = some c) : w.holder c = some t :=
  (reach_inv hi hr).m.whold t c h

/-- … and the holder of `c` is at such a pc -/
theorem holder_in_section (hi : Init w0) (hr : Reach cfg merge w0 w) {t c : Nat}
    (h : w.holder c = some t) : wchunk (w.pc t) = some c :=
  (reach_inv hi hr).m.hpc t c h

/-- at most one thread per chunk is inside the write-latch section -/
theorem latch_exclusive (hi : Init w0) (hr : Reach cfg merge w0 w) {t u c : Nat}
    (ht : wchunk (w.pc t) = some c) (hu : wchunk (w.pc u) = some c) : t = u :=
  (reach_inv hi hr).m.unique ht hu

/-- a writer excludes all readers of the chunk -/
theorem writer_excludes_readers (hi : Init w0) (hr : Reach cfg merge w0 w) {t c : Nat}
    (h : w.holder c = some t) : w.readers c = [] :=
  (reach_inv hi hr).m.excl t c h

/-- a thread at `rheld/readA/readAB c …` is a registered reader of `c`, and `c` has no writer -/
theorem reader_excludes_writer (hi : Init w0) (hr : Reach cfg merge w0 w) {t c : Nat}
    (h : rchunk (w.pc t) = some c) : t ∈ w.readers c ∧ w.holder c = none :=
  ⟨(reach_inv hi hr).m.rhold t c h, (reach_inv hi hr).m.rd_free h⟩

/-- no thread is inside the write section of `c` while another is inside a read section of `c` -/
theorem no_writer_while_reading (hi : Init w0) (hr : Reach cfg merge w0 w) {t u c : Nat}
    (ht : wchunk (w.pc t) = some c) (hu : rchunk (w.pc u) = some c) : False := by
  have a := latch_holder hi hr ht
  have b := (reader_excludes_writer hi hr hu).2
  rw [a] at b; simp at b

/-! ### C15-a — ids increase per chunk -/

/-- per chunk, ids strictly increase in apply order (`applied c` is most-recent-first) -/
theorem ids_increase_per_block (h : cfg.idInsideLatch = true) (hi : Init w0)
    (hr : Reach cfg merge w0 w) (c : Nat) : Desc (idsOf w c) :=
  (reach_invDesc h hi hr).desc c

/-- `Desc` says what it should: every later element of the list is smaller -/
theorem desc_iff_pairwise (l : List Nat) : Desc l ↔ l.Pairwise (· > ·) := by
  induction l with
  | nil => simp [Desc]
  | cons a l ih => simp only [Desc, List.pairwise_cons, ih]

/-! ### C15-b — ids are non-zero and globally distinct (any configuration) -/

/-- every applied id was drawn during this run: above the initial counter, at most the counter -/
theorem ids_fresh (hi : Init w0) (hr : Reach cfg merge w0 w) (c : Nat) :
    ∀ r ∈ w.applied c, w0.next < r.id ∧ r.id ≤ w.next :=
  (reach_inv hi hr).ids.rec_bound c

theorem ids_nonzero (hi : Init w0) (hr : Reach cfg merge w0 w) (c : Nat) :
    ∀ x ∈ idsOf w c, w0.next < x ∧ x ≠ 0 := by
  intro x hx
  unfold idsOf at hx
  obtain ⟨r, hr', rfl⟩ := List.mem_map.mp hx
  have := (ids_fresh hi hr c r hr').1
  exact ⟨this, by omega⟩

/-- two records (in any chunks) with the same id are in the same chunk and are the same record -/
theorem ids_distinct (hi : Init w0) (hr : Reach cfg merge w0 w) {c d : Nat} {r s : Rec}
    (hr' : r ∈ w.applied c) (hs : s ∈ w.applied d) (he : r.id = s.id) : c = d ∧ r = s :=
  (reach_inv hi hr).ids.rec_inj c d r hr' s hs he

/-- … and no id occurs twice in one chunk -/
theorem ids_nodup (hi : Init w0) (hr : Reach cfg merge w0 w) (c : Nat) : (idsOf w c).Nodup :=
  (reach_inv hi hr).ids.nodup c

/-- an id that a thread has drawn but not yet applied is in no record and with no other thread -/
theorem pending_id_unique (hi : Init w0) (hr : Reach cfg merge w0 w) {t u id : Nat}
    (ht : pendId (w.pc t) = some id) :
    (pendId (w.pc u) = some id → t = u) ∧ ∀ c, id ∉ idsOf w c := by
  have h := (reach_inv hi hr).ids
  refine ⟨fun hu => h.pend_inj t u id ht hu, ?_⟩
  intro c hmem
  unfold idsOf at hmem
  obtain ⟨r, hr', he⟩ := List.mem_map.mp hmem
  exact h.pend_fresh t id ht c r hr' he

/-! ### C15-c — the logger stream is the apply order -/

theorem owes_cases {p : PC} {c id : Nat} (hp : owes p = some (c, id)) :
    p = .wroteAcc c id ∨ p = .wroteA c id ∨ p = .wroteB c id := by
  cases p <;> cases hp <;> simp

/-- per chunk, what the logger has received (most recent first) is the list of applied ids —
    except for at most one commit that is applied and not yet handed over: its thread is
    at `wroteAcc/wroteA/wroteB c` -/
theorem stream_is_apply_order (hi : Init w0) (hr : Reach cfg merge w0 w) (c : Nat) :
    let s := (w.stream.filter (·.1 = c)).map (·.2)
    s = idsOf w c ∨
      ∃ t x, (w.pc t = .wroteAcc c x ∨ w.pc t = .wroteA c x ∨ w.pc t = .wroteB c x) ∧
        idsOf w c = x :: s := by
  intro s
  have h := (reach_inv hi hr).str
  rcases h.eq c with e | ⟨t, x, hp⟩
  · exact Or.inl e
  · exact Or.inr ⟨t, x, owes_cases hp, h.pend t c x hp⟩

/-- the exceptional case only occurs while a thread is in that window -/
theorem stream_eq_of_no_pending (hi : Init w0) (hr : Reach cfg merge w0 w) (c : Nat)
    (hn : ∀ t x, w.pc t ≠ .wroteAcc c x ∧ w.pc t ≠ .wroteA c x ∧ w.pc t ≠ .wroteB c x) :
    (w.stream.filter (·.1 = c)).map (·.2) = idsOf w c := by
  rcases stream_is_apply_order hi hr c with h | ⟨t, x, h, _⟩
  · exact h
  · have := hn t x
    rcases h with h | h | h <;> simp [h] at this

/-- when nobody is in the middle of anything, the logger has received exactly the applied commits
    of every chunk, in apply order -/
theorem stream_quiescent (hi : Init w0) (hr : Reach cfg merge w0 w) (hq : Quiescent w) (c : Nat) :
    (w.stream.filter (·.1 = c)).map (·.2) = idsOf w c := by
  apply stream_eq_of_no_pending hi hr c
  intro t x
  rw [hq t]
  simp

/-- every stream entry is an applied commit of its chunk -/
theorem stream_subset_applied (hi : Init w0) (hr : Reach cfg merge w0 w) (c id : Nat)
    (h : (c, id) ∈ w.stream) : id ∈ idsOf w c := by
  have hm : id ∈ (w.stream.filter (·.1 = c)).map (·.2) := by
    apply List.mem_map.mpr
    exact ⟨(c, id), List.mem_filter.mpr ⟨h, by simp⟩, rfl⟩
  rcases stream_is_apply_order hi hr c with e | ⟨t, x, _, e⟩
  · exact e ▸ hm
  · rw [e]; exact List.mem_cons_of_mem _ hm

/-- hence (C15-a + C15-c): per chunk, the ids the logger receives strictly increase -/
theorem stream_ids_increase (h : cfg.idInsideLatch = true) (hi : Init w0)
    (hr : Reach cfg merge w0 w) (c : Nat) : Desc ((w.stream.filter (·.1 = c)).map (·.2)) := by
  have hd := ids_increase_per_block h hi hr c
  rcases stream_is_apply_order hi hr c with e | ⟨t, x, _, e⟩
  · exact e ▸ hd
  · rw [e] at hd; exact hd.2

/-! ### C15-d — the hypothesis of C15-a is necessary (defect D2) -/

/-- With the id drawn before the latch is taken, two threads and one chunk suffice: thread 0 draws
    id 1, thread 1 draws id 2, thread 1 commits chunk 0, then thread 0 commits chunk 0. -/
theorem ids_out_of_order_counterexample (cfg : ProtoCfg) (h : cfg.idInsideLatch = false)
    (merge : Nat → Nat → Nat) :
    ∃ w0 w, Init w0 ∧ Reach cfg merge w0 w ∧ idsOf w 0 = [1, 2] ∧ ¬ Desc (idsOf w 0) := by
  refine ⟨Demo.w0, _, Demo.init_w0, Reach.refl
    |>.step (.beginEarlyId Demo.w0 0 0 [] rfl rfl h)
    |>.step (.beginEarlyId _ 1 0 [] rfl rfl h)
    |>.step (.acquire _ 1 0 (some 2) rfl rfl rfl)
    |>.step (.load _ 1 0 2 rfl)
    |>.step (.storeAcc _ 1 0 2 0 rfl)
    |>.step (.writeA _ 1 0 2 rfl)
    |>.step (.writeB _ 1 0 2 rfl)
    |>.step (.emit _ 1 0 2 rfl)
    |>.step (.release _ 1 0 2 rfl)
    |>.step (.acquire _ 0 0 (some 1) rfl rfl rfl)
    |>.step (.load _ 0 0 1 rfl)
    |>.step (.storeAcc _ 0 0 1 (merge 0 5) rfl), rfl, ?_⟩
  intro hd
  have : (2 : Nat) < 1 := hd.1 2 (by simp)
  omega

/-! ### non-vacuity -/

/-- a concrete initial world and a 13-step run under the good configuration: one commit applied
    and handed to the logger, and all of the above applies to it -/
example : ∃ w0 w, Init w0 ∧ Reach ProtoCfg.good (· + ·) w0 w ∧ idsOf w 0 = [1] ∧
    w.stream = [(0, 1)] ∧ Desc (idsOf w 0) := by
  obtain ⟨w, hr, hids, hs, _⟩ := Demo.run_good ProtoCfg.good rfl (· + ·)
  exact ⟨Demo.w0, w, Demo.init_w0, hr, hids, hs, ids_increase_per_block rfl Demo.init_w0 hr 0⟩

end ColumnVerif.Props.C15conc
