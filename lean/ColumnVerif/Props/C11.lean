import ColumnVerif.Lemmas.Bits
import ColumnVerif.Model.Txn
/-!
# C11 — insert offsets never collide; offsets of deleted rows become available again

The fill list and the row counter are only touched inside sections guarded by the collection
lock: `next()` (insert reservation), `free()` (failed insert), the marker loop of a commit
(`fill.Set` for insert markers — already set by the reservation —, `fill.Remove` for deletes),
and the recount (`commitMarkers`, `rollback`). `FillOp` lists these atomic sections; a history /
schedule is any list of them. The theorems hold for every fill pattern and length (64-bit word and
16K chunk boundaries are plain arithmetic here) and every interleaving of the sections.
-/
namespace ColumnVerif.Props.C11
open ColumnVerif.Bits ColumnVerif.Store

/-- fewer (or as many) bits set than the counter says; equality after every recount -/
def FillInv (s : Store) : Prop := Bits.count s.fill ≤ s.count

/-- `next()` and `free()` as updates of the fill list and the counter. Projections of `s.next.1` / `s.free i` go through
    these: asked to unify `s.next.1` with `s` field by field, Lean first tries the whole stores and has to refute
    `Bits.set s.fill _ = s.fill` by evaluation -/
theorem next_fst (s : Store) : s.next.1 = { s with fill := Bits.set s.fill s.next.2, count := s.count + 1 } := rfl

theorem next_fill (s : Store) : s.next.1.fill = Bits.set s.fill s.next.2 := by rw [next_fst]

theorem free_eq (s : Store) (i : Nat) :
    s.free i = { s with fill := Bits.remove s.fill i, count := Bits.count (Bits.remove s.fill i) } := rfl

/-- the offset `next()` hands out is occupied by no live row and no other in-flight insert
    (both are exactly the set bits of the fill list) -/
theorem next_is_free (s : Store) (h : FillInv s) : Bits.get s.fill s.next.2 = false := by
  unfold Store.next
  exact findFreeIndex_free s.fill (s.count + 1) (by omega) (by unfold FillInv at h; simpa using h)

/-- … it is occupied afterwards (so the next insert cannot receive it) … -/
theorem next_occupies (s : Store) : Bits.get s.next.1.fill s.next.2 = true := by
  unfold Store.next; simp [get_set]

/-- … no other offset changes … -/
theorem next_frame (s : Store) (j : Nat) (hj : j ≠ s.next.2) :
    Bits.get s.next.1.fill j = Bits.get s.fill j := by
  unfold Store.next at *; simp only at *; simp [get_set, hj]

/-- … and the invariant is kept. -/
theorem next_inv (s : Store) (h : FillInv s) : FillInv s.next.1 := by
  have hf := next_is_free s h
  unfold Store.next at *
  simp only [FillInv] at *
  rw [count_set_of_false _ _ hf]; omega

theorem free_inv (s : Store) (i : Nat) : FillInv (s.free i) := by
  unfold Store.free FillInv; simp

/-- a freed / deleted offset is available again -/
theorem free_clears (s : Store) (i : Nat) : Bits.get (s.free i).fill i = false := by
  unfold Store.free; simp [get_remove]

theorem free_frame (s : Store) (i j : Nat) (hj : j ≠ i) : Bits.get (s.free i).fill j = Bits.get s.fill j := by
  rw [free_eq]; simp [get_remove, hj]

theorem free_count (s : Store) (i : Nat) : (s.free i).count = Bits.count (s.free i).fill := rfl

theorem count_remove_le (b : Bitmap) (i : Nat) : Bits.count (Bits.remove b i) ≤ Bits.count b := by
  unfold Bits.remove Bits.count
  by_cases h : i < b.size
  · have := countP_set b.toList i (by simpa using h) false
    rw [Array.toList_setIfInBounds]
    simp only [Bool.toNat_false] at this
    omega
  · rw [Array.setIfInBounds_eq_of_size_le (by omega)]
    exact Nat.le_refl _

/-! ### every history of atomic fill sections -/

inductive FillOp
  | next                 -- `next()` of some inserting transaction
  | free (i : Nat)       -- `free(i)` of a failed insert
  | markIns (i : Nat)    -- insert marker of a commit (the offset was reserved by `next`)
  | markDel (i : Nat)    -- delete marker of a commit
  | recount              -- `count = fill.Count()` (end of `commitMarkers`, `rollback`)

/-- one atomic section; the second component is the offset handed out, for `next` -/
def stepFill (s : Store) : FillOp → Store × Option Nat
  | .next => (s.next.1, some s.next.2)
  | .free i => (s.free i, none)
  | .markIns i => ({ s with fill := Bits.set s.fill i }, none)
  | .markDel i => ({ s with fill := Bits.remove s.fill i }, none)
  | .recount => ({ s with count := Bits.count s.fill }, none)

/-- the guard of a history: insert markers only name offsets that are set (reserved) -/
def opOk (s : Store) : FillOp → Prop
  | .markIns i => Bits.get s.fill i = true
  | _ => True

theorem set_of_true (b : Bitmap) (i : Nat) (h : Bits.get b i = true) : Bits.count (Bits.set b i) = Bits.count b := by
  apply count_congr
  intro j
  rw [get_set]
  by_cases e : j = i
  · rw [e, h]; simp
  · simp [e]

theorem step_inv (s : Store) (op : FillOp) (h : FillInv s) (hok : opOk s op) : FillInv (stepFill s op).1 := by
  cases op with
  | next => exact next_inv s h
  | free i => exact free_inv s i
  | markIns i =>
    simp only [stepFill, FillInv, opOk] at *
    rw [set_of_true _ _ hok]; exact h
  | markDel i =>
    simp only [stepFill, FillInv] at *
    exact Nat.le_trans (count_remove_le _ _) h
  | recount => simp [stepFill, FillInv]

/-- run a history, collecting `(offset handed out, was it occupied at that moment)` -/
def runFill : Store → List FillOp → List (Nat × Bool)
  | _, [] => []
  | s, op :: rest =>
    match (stepFill s op).2 with
    | some i => (i, Bits.get s.fill i) :: runFill (stepFill s op).1 rest
    | none => runFill (stepFill s op).1 rest

def histOk : Store → List FillOp → Prop
  | _, [] => True
  | s, op :: rest => opOk s op ∧ histOk (stepFill s op).1 rest

/-- **C11, first sentence**: in every history of inserts, failed inserts, commits (markers +
    recount) and rollbacks, interleaved in any order, no insert ever receives an occupied offset. -/
theorem inserts_never_collide (s : Store) (ops : List FillOp) (h : FillInv s) (hok : histOk s ops) :
    ∀ p ∈ runFill s ops, p.2 = false := by
  induction ops generalizing s with
  | nil => simp [runFill]
  | cons op rest ih =>
    obtain ⟨h1, h2⟩ := hok
    have hi := step_inv s op h h1
    intro p hp
    unfold runFill at hp
    cases op with
    | next =>
      simp only [stepFill] at hp
      rcases List.mem_cons.mp hp with rfl | hp
      · exact next_is_free s h
      · exact ih _ hi h2 p hp
    | free i => exact ih _ hi h2 p (by simpa [stepFill] using hp)
    | markIns i => exact ih _ hi h2 p (by simpa [stepFill] using hp)
    | markDel i => exact ih _ hi h2 p (by simpa [stepFill] using hp)
    | recount => exact ih _ hi h2 p (by simpa [stepFill] using hp)

/-- `Count` equals the number of occupied offsets after every recount (quiescence) -/
theorem count_at_quiescence (s : Store) : (stepFill s .recount).1.count = Bits.count (stepFill s .recount).1.fill := by
  simp [stepFill]

/-- why the direction of the invariant matters: with a full bitmap and a stale (too small) counter
    `MinZero` returns offset 0, which is occupied -/
theorem minzero_full_counterexample :
    let fill : Bitmap := Array.replicate 64 true
    Bits.get fill (findFreeIndex fill 64) = true := by decide +kernel

/-! non-vacuity: a fragmented fill across a word boundary satisfies the invariant, and the model
    hands out a hole -/
def sampleStore : Store :=
  { fill := #[true, true, false, true] ++ Array.replicate 60 true ++ #[true, false] ++ Array.replicate 62 false,
    count := 64 }

/-- the same bits as a list: `Array`'s `++` pushes element by element, which the kernel pays for at every read -/
theorem sample_fill : sampleStore.fill =
    ([true, true, false, true] ++ List.replicate 60 true ++ [true, false] ++ List.replicate 62 false).toArray := by
  simp [sampleStore]

theorem sample_count : Bits.count sampleStore.fill = 64 := by rw [sample_fill]; decide +kernel

example : FillInv sampleStore := Nat.le_of_eq sample_count
example : sampleStore.next.2 = 65 := by unfold Store.next; rw [sample_fill]; decide +kernel
example : (stepFill (stepFill sampleStore (.markDel 64)).1 .recount).1.next.2 = 2 := by
  simp only [stepFill, Store.next, sample_fill]; decide +kernel

end ColumnVerif.Props.C11
