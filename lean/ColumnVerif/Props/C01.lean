import ColumnVerif.Lemmas.Step
/-!
# C01 — committed values read back exactly

The commit of one chunk applies, per column buffer, the operations addressed to that chunk in issue
order (`Buf.rangeOps`, proved equal to the issue-order filter in C05) to the column (`applyData`).
The theorems here say what every *slot* (presence bit + raw value) of the column holds afterwards:
the fold, in issue order, of the operations addressed to that offset over its previous content —
for every numeric width, any merge function, any number of operations, any offsets in any order.
Strings, records and enums are in `Props/C01str.lean`. What a typed reader returns is `Col.read`
(`read_of_slot`).
-/
namespace ColumnVerif.Props.C01
open ColumnVerif.Codec ColumnVerif.Store ColumnVerif.Bits

/-- bit-for-bit: the big-endian bytes a typed setter writes read back as the same number
    (`binary.BigEndian.Uint16/32/64` of `byte(v>>…)`), for every width -/
theorem numeric_bits_exact (n v : Nat) : beNat (natToBE n v) = v % 256 ^ n := beNat_natToBE n v

/-- numeric columns: after the chunk's pass every slot is the fold of the operations addressed to
    it (Put stores, Merge combines with the slot's content through the column's merge function,
    Delete clears the presence bit, anything else is ignored), in issue order; no panic -/
theorem num_slot_fold (hash : Bytes → Nat) (c : Col) (k : NumKind) (hk : c.kind = .num k) (chunk : Nat)
    (hc : chunk < c.nchunks) (ops : List Op) (hin : InBounds c ops) (i : Nat) :
    slot (applyData hash c chunk ops).col i =
      (ops.filter (fun o => o.idx = i)).foldl (slotEffect c.merge k.width) (slot c i) ∧
    (applyData hash c chunk ops).panic = false := by
  rw [applyData_slot hash c chunk ops i hc hin, applyData_panic, hk]
  exact ⟨rfl, decide_eq_false (by omega)⟩

/-- offsets no operation addresses keep their content (rows untouched by the transaction read as before) -/
theorem num_slot_untouched (hash : Bytes → Nat) (c : Col) (k : NumKind) (hk : c.kind = .num k) (chunk : Nat)
    (hc : chunk < c.nchunks) (ops : List Op) (hin : InBounds c ops) (i : Nat) (hi : ∀ o ∈ ops, o.idx ≠ i) :
    slot (applyData hash c chunk ops).col i = slot c i := by
  rw [(num_slot_fold hash c k hk chunk hc ops hin i).1, List.filter_eq_nil_iff.2 (fun o ho => by simpa using hi o ho)]
  rfl

/-- the last store decides: if the last operation addressed to `i` is a Put, the slot holds exactly
    its value and the row reads present — whatever came before (stale data of a previous occupant,
    earlier writes of the same transaction) -/
theorem num_last_put (hash : Bytes → Nat) (c : Col) (k : NumKind) (hk : c.kind = .num k) (chunk : Nat)
    (hc : chunk < c.nchunks) (pre post : List Op) (p : Op) (hin : InBounds c (pre ++ p :: post))
    (hp : p.typ = opPut) (hpost : ∀ o ∈ post, o.idx ≠ p.idx) :
    slot (applyData hash c chunk (pre ++ p :: post)).col p.idx = (true, valRaw p.val) := by
  rw [(num_slot_fold hash c k hk chunk hc _ hin p.idx).1, filter_idx_last pre post p hpost, List.foldl_append,
    List.foldl_cons, List.foldl_nil, slotEffect_put hp]

/-- what the typed reader returns (`load`): the raw slot when the presence bit is set -/
theorem read_of_slot (c : Col) (k : NumKind) (hk : c.kind = .num k) (i : Nat) :
    c.read i = if i / 16384 < c.nchunks ∧ (slot c i).1 = true then some (slot c i).2 else none :=
  read_slot c i (by rw [hk]; rfl) (by rw [hk]; nofun)

theorem slot_of_read (c : Col) (k : NumKind) (hk : c.kind = .num k) (i : Nat) (bs : Bytes) (h : c.read i = some bs) :
    (i / 16384 < c.nchunks ∧ (slot c i).1 = true) ∧ (slot c i).2 = bs := by
  rw [read_of_slot c k hk] at h
  split at h
  · exact ⟨‹_›, Option.some.inj h⟩
  · cases h

/-- a missing chunk is a Go panic (index out of range) — the reason `CreateColumn` must cover every
    allocated chunk (defect D6, repaired) -/
theorem missing_chunk_panics (hash : Bytes → Nat) (c : Col) (chunk : Nat) (h : c.nchunks ≤ chunk) (ops : List Op) :
    (applyData hash c chunk ops).panic = true := by
  rw [applyData_panic]; exact decide_eq_true h

/-- D11: a merge reads the raw slot without consulting the presence bit — the "previous occupant"
    leaks into the merged value -/
theorem merge_on_absent_counterexample :
    let c : Col := { name := "x", kind := .num .u16, nchunks := 1, bits := #[false, false], data := #[[0, 100], []],
                     merge := fun v d => natToBE 2 (beNat v + beNat d) }
    (slot (applyData (fun _ => 0) c 0 [⟨opMerge, 0, .fixed 1 [0, 5]⟩]).col 0) = (true, [0, 105]) := by decide

/-! non-vacuity -/
def sampleCol : Col :=
  { name := "x", kind := .num .i16, nchunks := 1, bits := #[true, false, false, false], data := #[[0, 7], [], [], []],
    merge := fun v d => natToBE 2 (beNat v + beNat d) }
def sampleOps : List Op :=
  [⟨opMerge, 0, .fixed 1 [0, 1]⟩, ⟨opPut, 2, .fixed 1 [255, 255]⟩, ⟨opPut, 0, .fixed 1 [0, 9]⟩, ⟨opDelete, 2, .fixed 0 []⟩,
   ⟨opMerge, 0, .fixed 1 [0, 1]⟩]

example : InBounds sampleCol sampleOps := by decide
example : (applyData (fun _ => 0) sampleCol 0 sampleOps).col.read 0 = some [0, 10] := by decide
example : (applyData (fun _ => 0) sampleCol 0 sampleOps).col.read 2 = none := by decide

end ColumnVerif.Props.C01
