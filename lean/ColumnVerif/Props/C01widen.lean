import ColumnVerif.Model.Widen
import ColumnVerif.Lemmas.Wire
import ColumnVerif.Lemmas.TTL
/-!
C01, the any-size integer readers: a signed (unsigned) integer of 16, 32 or 64 bits, written as an operation of
its own width, is read by `Reader.Int` (`Reader.Uint`) as the same number, for every value; the slot an `int` /
`uint` column keeps for it is the 64-bit two's-complement form of that number; an 8-byte value is kept as it is.
-/
namespace ColumnVerif.Props.C01widen
open ColumnVerif.Codec ColumnVerif.Wire

/-- the operation value the typed writers produce for a signed integer of `w` bytes -/
def encInt (w : Nat) (v : Int) : Bytes := natToBE w (v % (256 ^ w : Nat)).toNat

theorem encInt_length (w : Nat) (v : Int) : (encInt w v).length = w := natToBE_length w _

theorem signed_residue (M : Nat) (v : Int) (lo : -(M : Int) ≤ 2 * v) (hi : 2 * v < (M : Int)) :
    (v % (M : Int)).toNat < M ∧
    (if 2 * (v % (M : Int)).toNat < M then ((v % (M : Int)).toNat : Int) else ((v % (M : Int)).toNat : Int) - (M : Int)) = v := by
  by_cases hv : 0 ≤ v
  · rw [Int.emod_eq_of_lt hv (by omega), if_pos (by omega)]
    omega
  · have : v % (M : Int) = v + (M : Int) := by
      rw [← Int.add_emod_right]
      exact Int.emod_eq_of_lt (by omega) (by omega)
    rw [this, if_neg (by omega)]
    omega

theorem beInt_encInt (w : Nat) (v : Int)
    (lo : -((256 ^ w : Nat) : Int) ≤ 2 * v) (hi : 2 * v < ((256 ^ w : Nat) : Int)) :
    beInt (encInt w v) = v := by
  obtain ⟨hlt, hv⟩ := signed_residue (256 ^ w) v lo hi
  unfold beInt encInt
  rw [natToBE_length, beNat_natToBE, Nat.mod_eq_of_lt hlt]
  exact hv

theorem anyWidth_of_length {bs : Bytes} {w : Nat} (hw : w = 2 ∨ w = 4 ∨ w = 8) (h : bs.length = w) :
    anyWidth bs = true := by
  unfold anyWidth
  rw [h]
  rcases hw with rfl | rfl | rfl <;> rfl

/-- **C01 (any-size signed reader).** An int16 / int32 / int64 value written at its own width reads back, through
    `Reader.Int`, as the same number. -/
theorem readIntAny_encInt (w : Nat) (hw : w = 2 ∨ w = 4 ∨ w = 8) (v : Int)
    (lo : -((256 ^ w : Nat) : Int) ≤ 2 * v) (hi : 2 * v < ((256 ^ w : Nat) : Int)) :
    readIntAny (encInt w v) = some v := by
  unfold readIntAny
  rw [if_pos (anyWidth_of_length hw (encInt_length w v)), beInt_encInt w v lo hi]

/-- the range of a signed type of `w` bytes, `[-h, h)` with `256 ^ w = 2 * h`, in the form `readIntAny_encInt` asks for -/
theorem signed_range {M : Nat} {h v : Int} (hM : (M : Int) = 2 * h) (lo : -h ≤ v) (hi : v < h) :
    -(M : Int) ≤ 2 * v ∧ 2 * v < (M : Int) := by omega

theorem readIntAny_int16 (v : Int) (lo : -32768 ≤ v) (hi : v < 32768) : readIntAny (encInt 2 v) = some v :=
  have h := signed_range (M := 256 ^ 2) (by decide) lo hi
  readIntAny_encInt 2 (.inl rfl) v h.1 h.2

theorem readIntAny_int32 (v : Int) (lo : -2147483648 ≤ v) (hi : v < 2147483648) :
    readIntAny (encInt 4 v) = some v :=
  have h := signed_range (M := 256 ^ 4) (by decide) lo hi
  readIntAny_encInt 4 (.inr (.inl rfl)) v h.1 h.2

theorem readIntAny_int64 (v : Int) (lo : -9223372036854775808 ≤ v) (hi : v < 9223372036854775808) :
    readIntAny (encInt 8 v) = some v :=
  have h := signed_range (M := 256 ^ 8) (by decide) lo hi
  readIntAny_encInt 8 (.inr (.inr rfl)) v h.1 h.2

/-- **C01 (any-size unsigned reader).** A uint16 / uint32 / uint64 value written at its own width reads back,
    through `Reader.Uint`, as the same number. -/
theorem readUintAny_value (w : Nat) (hw : w = 2 ∨ w = 4 ∨ w = 8) (n : Nat) (h : n < 256 ^ w) :
    readUintAny (natToBE w n) = some n := by
  unfold readUintAny
  rw [if_pos (anyWidth_of_length hw (natToBE_length w n)), beNat_natToBE, Nat.mod_eq_of_lt h]

/-- a width the readers do not know panics -/
theorem readAny_other_width (bs : Bytes) (h2 : bs.length ≠ 2) (h4 : bs.length ≠ 4) (h8 : bs.length ≠ 8) :
    readIntAny bs = none ∧ readUintAny bs = none := by
  have : anyWidth bs = false := by simp [anyWidth, h2, h4, h8]
  simp [readIntAny, readUintAny, this]

theorem slot64_eq_encInt (v : Int) : slot64 v = encInt 8 v := rfl

/-- **C01 (narrow put into an `int` column).** The slot kept for a narrower signed value is the 8-byte form of the
    same number: reading the slot as a 64-bit integer gives the value put. -/
theorem widen_signed_reads (w : Nat) (hw : w = 2 ∨ w = 4 ∨ w = 8) (v : Int)
    (lo : -((256 ^ w : Nat) : Int) ≤ 2 * v) (hi : 2 * v < ((256 ^ w : Nat) : Int)) :
    ∃ slot, widenInt true (encInt w v) = some slot ∧ slot.length = 8 ∧ beInt slot = v := by
  have hle : (256 ^ w : Nat) ≤ 256 ^ 8 := Nat.pow_le_pow_right (by decide) (by omega)
  refine ⟨slot64 v, ?_, natToBE_length 8 _, ?_⟩
  · show (readIntAny (encInt w v)).map slot64 = _
    rw [readIntAny_encInt w hw v lo hi]; rfl
  · rw [slot64_eq_encInt]
    exact beInt_encInt 8 v (by omega) (by omega)

/-- **C01 (narrow put into a `uint` column).** -/
theorem widen_unsigned_reads (w : Nat) (hw : w = 2 ∨ w = 4 ∨ w = 8) (n : Nat) (h : n < 256 ^ w) :
    ∃ slot, widenInt false (natToBE w n) = some slot ∧ slot.length = 8 ∧ beNat slot = n := by
  have hle : (256 ^ w : Nat) ≤ 256 ^ 8 := Nat.pow_le_pow_right (by decide) (by omega)
  refine ⟨slot64 (n : Int), ?_, natToBE_length 8 _, ?_⟩
  · show (readUintAny (natToBE w n)).map (fun n => slot64 (n : Int)) = _
    rw [readUintAny_value w hw n h]; rfl
  · rw [slot64_eq_encInt]
    unfold encInt
    rw [Int.emod_eq_of_lt (Int.natCast_nonneg n) (by omega), Int.toNat_natCast, beNat_natToBE, Nat.mod_eq_of_lt (by omega)]

theorem beInt_emod (bs : Bytes) :
    beInt bs % ((256 ^ bs.length : Nat) : Int) = (beNat bs : Int) % ((256 ^ bs.length : Nat) : Int) := by
  unfold beInt
  split
  · rfl
  · exact Int.sub_emod_right _ _

/-- an operation of the column's own width is kept bit for bit -/
theorem widen_full_width (signed : Bool) (bs : Bytes) (h : bs.length = 8) : widenInt signed bs = some bs := by
  have hwd : anyWidth bs = true := anyWidth_of_length (.inr (.inr rfl)) h
  have hb : (beNat bs : Int) < ((256 ^ 8 : Nat) : Int) := by
    have := ColumnVerif.Store.beNat_lt bs
    rw [h] at this
    exact Int.ofNat_lt.2 this
  -- the slot of any number congruent to `beNat bs` is `bs`
  have hid : ∀ x : Int, x % ((256 ^ 8 : Nat) : Int) = (beNat bs : Int) % ((256 ^ 8 : Nat) : Int) → slot64 x = bs := by
    intro x hx
    rw [slot64_eq_encInt]
    unfold encInt
    rw [hx, Int.emod_eq_of_lt (Int.natCast_nonneg _) hb, Int.toNat_natCast, ← h]
    exact ColumnVerif.Store.natToBE_beNat bs
  unfold widenInt readIntAny readUintAny
  rw [if_pos hwd, if_pos hwd]
  cases signed
  · exact congrArg some (hid _ rfl)
  · exact congrArg some (hid _ (by have := beInt_emod bs; rwa [h] at this))

/-- the hypotheses are met: -12 as an int16 -/
example : readIntAny (encInt 2 (-12)) = some (-12) ∧ widenInt true (encInt 2 (-12)) = some [255,255,255,255,255,255,255,244] := by
  decide +kernel

/-- the operation width of a Go integer type is one the readers know, and holds every value of the type -/
theorem GoInt.opWidth_fits (t : GoInt) :
    (t.opWidth = 2 ∨ t.opWidth = 4 ∨ t.opWidth = 8) ∧ 2 * 2 ^ (t.bits - 1) ≤ 256 ^ t.opWidth ∧ 2 ^ t.bits ≤ 256 ^ t.opWidth := by
  cases t <;> decide

/-- **C01 (untyped writers, signed).** Whatever signed Go integer type the value handed to `Row.SetAny` /
    `Row.SetMany` / `Buffer.PutAny` has — int8, int16, int32, int64 or int — the operation written for it is read by
    an `int` column (`Reader.Int`) as the same number. -/
theorem putAny_signed_reads_back (t : GoInt) (hs : t.signed = true) (v : Int) (h : t.holds v) :
    readIntAny (match putAnyInt t v with | .fixed _ bs => bs | .str bs => bs) = some v := by
  unfold GoInt.holds at h
  rw [if_pos hs] at h
  obtain ⟨hw, hr, _⟩ := GoInt.opWidth_fits t
  exact readIntAny_encInt t.opWidth hw v (by omega) (by omega)

/-- **C01 (untyped writers, unsigned).** The same for uint8, uint16, uint32, uint64 and uint read by a `uint` column. -/
theorem putAny_unsigned_reads_back (t : GoInt) (hs : t.signed = false) (v : Int) (h : t.holds v) :
    readUintAny (match putAnyInt t v with | .fixed _ bs => bs | .str bs => bs) = some v.toNat := by
  unfold GoInt.holds at h
  rw [if_neg (by rw [hs]; decide)] at h
  obtain ⟨hw, _, hr⟩ := GoInt.opWidth_fits t
  show readUintAny (natToBE t.opWidth (v % ((256 ^ t.opWidth : Nat) : Int)).toNat) = _
  rw [Int.emod_eq_of_lt h.1 (by omega)]
  exact readUintAny_value t.opWidth hw v.toNat (by omega)

/-- the operation has the width the column kind of the same Go type expects, except for the 8-bit types (16-bit) -/
theorem putAny_width (t : GoInt) (v : Int) :
    (match putAnyInt t v with | .fixed _ bs => bs.length | .str bs => bs.length) = t.opWidth :=
  natToBE_length _ _

example : GoInt.i8.holds (-128) ∧ putAnyInt .i8 (-128) = .fixed 1 [255, 128] := by decide +kernel

end ColumnVerif.Props.C01widen
