import ColumnVerif.Lemmas.StoreComputed
/-!
# C03 — a bitmap index selects exactly the live rows whose current value satisfies the predicate

"…however the value got there — insert, overwrite, merge, delete, reuse, replay, restore — and whether the
index was created before or after the data."

Commit mechanics: for a column buffer and a chunk the *main pass* (`applyData`, `stepNum` for numeric
columns) applies the ops to the data column and rewrites them (`Merge` → `Put` of the stored result); the
*computed pass* applies the rewritten ops to the index (`applyOther`). Replay runs the same two passes;
`CreateIndex` and restore feed the index with the `Put`s of a snapshot (`Col.snapshotOps`).

* `index_apply_sem` (I1): what `applyOther` does to every bit of an index, for any op list and rule.
* `numeric_rewrite*` (I3): what the numeric main pass leaves in the buffer — a `Merge` becomes a `Put` of the
  value the column holds right after that op; nothing else changes, nothing is appended.
* `indexInv_pass` (I4): `IndexInv` (index bit = present ∧ rule(current value)) is kept by main pass + computed
  pass of one section — overwrite, merge (the index sees the merged value), delete; offset reuse and later
  sections / transactions / replays are the same theorem applied again (`pass_shape` keeps its hypotheses).
* `indexInv_sections`, `indexInv_mainPass`: the same for a whole buffer in the order `commitUpdates` works (main
  pass over all sections of the chunk, then the computed pass); `indexInv_markers`: row deletion through markers.
* `backfill_chunk`, `backfill_indexInv` (I5): an index created after the data satisfies `IndexInv`.
* `indexInv_read`: `IndexInv` phrased with the typed reader `Col.read`.
-/
namespace ColumnVerif.Props.C03
open ColumnVerif.Codec ColumnVerif.Bits ColumnVerif.Store

/-! ### I1 — the computed pass on an index -/

/-- after `applyOther`, the bit of every offset `o` is the fold, in op order, of the ops addressed to `o`
    (a `Put` sets it to the rule's verdict on that op, a `Delete` clears it, anything else — `Merge`, `Skip`,
    `Insert` — leaves it) over the previous bit; an index never panics -/
theorem index_apply_sem (c : Col) (target : String) (rule : RuleFn) (hk : c.kind = .index target rule)
    (ops : List Op) (o : Nat) :
    Bits.get (applyOther c ops).1.bits o =
      (ops.filter (·.idx = o)).foldl
        (fun b op => if op.typ = opPut then rule op else if op.typ = opDelete then false else b)
        (Bits.get c.bits o)
    ∧ (applyOther c ops).2 = false := by
  rw [applyOther_index c target rule hk]
  exact ⟨foldIdx_get rule ops c o, rfl⟩

theorem index_apply_frame (c : Col) (target : String) (rule : RuleFn) (hk : c.kind = .index target rule)
    (ops : List Op) (o : Nat) (h : ∀ op ∈ ops, op.idx ≠ o) :
    Bits.get (applyOther c ops).1.bits o = Bits.get c.bits o := by
  rw [applyOther_index c target rule hk]
  exact foldIdx_get_frame rule ops c o h

theorem index_apply_same (c : Col) (target : String) (rule : RuleFn) (hk : c.kind = .index target rule)
    (ops : List Op) : SameButBits c (applyOther c ops).1 := by
  rw [applyOther_index c target rule hk]
  exact foldIdx_same rule ops c

/-! ### I3 — what the numeric main pass leaves in the buffer -/

/-- the numeric main pass over `ops` (all in bounds): the rewritten section is `ops` with every `Merge`
    replaced, in place, by `⟨Put, idx, fixed k.code v⟩` where `v` is the value the column holds at `idx` right
    after processing that very op; every other op is unchanged; nothing is appended -/
theorem numeric_rewrite (k : NumKind) (c : Col) (ops : List Op) (hin : InBounds c ops) :
    (ops.foldl (stepNum k) (c, [], [])).2.1.reverse =
      ops.mapIdx (fun j o =>
        if o.typ = opMerge then
          (⟨opPut, o.idx,
            .fixed k.code ((((ops.take (j + 1)).foldl (stepNum k) (c, [], [])).1.data[o.idx]?).getD [])⟩ : Op)
        else o)
    ∧ (ops.foldl (stepNum k) (c, [], [])).2.2 = [] := by
  rw [foldNum_eq]
  simp only [List.append_nil, List.reverse_reverse, and_true]
  exact rwList_eq_mapIdx k ops c hin

theorem numeric_rewrite_getElem (k : NumKind) (c : Col) (ops : List Op) (hin : InBounds c ops)
    (j : Nat) (hj : j < ops.length) :
    (ops.foldl (stepNum k) (c, [], [])).2.1.reverse[j]? =
      some (if ops[j].typ = opMerge then
          (⟨opPut, ops[j].idx,
            .fixed k.code ((((ops.take (j + 1)).foldl (stepNum k) (c, [], [])).1.data[ops[j].idx]?).getD [])⟩ : Op)
        else ops[j]) := by
  rw [(numeric_rewrite k c ops hin).1, List.getElem?_mapIdx, List.getElem?_eq_getElem hj]
  rfl

theorem numeric_rewrite_length (k : NumKind) (c : Col) (ops : List Op) :
    (ops.foldl (stepNum k) (c, [], [])).2.1.reverse.length = ops.length := by
  rw [foldNum_eq]; simp [length_rwList]

theorem numeric_rewrite_offsets (k : NumKind) (c : Col) (ops : List Op) :
    (ops.foldl (stepNum k) (c, [], [])).2.1.reverse.map (·.idx) = ops.map (·.idx) := by
  rw [foldNum_eq]
  simp only [List.append_nil, List.reverse_reverse]
  exact map_idx_rwList k ops c

/-- no `Merge` is left for the computed columns -/
theorem numeric_rewrite_no_merge (k : NumKind) (c : Col) (ops : List Op) :
    ∀ o ∈ (ops.foldl (stepNum k) (c, [], [])).2.1.reverse, o.typ ≠ opMerge := by
  rw [foldNum_eq]
  simp only [List.append_nil, List.reverse_reverse]
  exact rwList_no_merge k ops c

/-- the main pass as `applyData` packages it: no panic, nothing appended, `ops` = the rewritten section -/
theorem applyData_numeric (hash : Bytes → Nat) (c : Col) (k : NumKind) (hk : c.kind = .num k) (chunk : Nat)
    (hch : chunk < c.nchunks) (ops : List Op) :
    (applyData hash c chunk ops).ops = (ops.foldl (stepNum k) (c, [], [])).2.1.reverse ∧
    (applyData hash c chunk ops).col = (ops.foldl (stepNum k) (c, [], [])).1 ∧
    (applyData hash c chunk ops).appended = [] ∧ (applyData hash c chunk ops).panic = false := by
  rw [applyData_num hash c k hk chunk hch, foldNum_eq]
  simp

/-! ### I4 — index = predicate over current values, kept by every pass -/

/-- one section: main pass on the numeric column, computed pass of the rewritten ops on the index.
    Hypotheses: offsets inside the column's arrays, `Put`s carry a value of the column's width (what the typed
    writers produce), the merge function never returns the empty string (it returns a value of the column's
    width). -/
theorem indexInv_pass (hash : Bytes → Nat) (col idx : Col) (k : NumKind) (target : String) (rule : RuleFn)
    (chunk : Nat) (ops : List Op)
    (hk : col.kind = .num k) (hik : idx.kind = .index target rule) (hch : chunk < col.nchunks)
    (hin : InBounds col ops) (hcan : CanonPuts k ops) (hm : ∀ a d, col.merge a d ≠ [])
    (hinv : IndexInv col idx k rule) :
    IndexInv (applyData hash col chunk ops).col (applyOther idx (applyData hash col chunk ops).ops).1 k rule := by
  rw [applyData_num hash col k hk chunk hch, applyOther_index idx target rule hik]
  exact indexInv_fold k rule ops col idx hin hcan (fun _ _ _ => hm) hinv

/-- the same through `Col.applyAny`, the entry point the computed pass of a commit uses -/
theorem indexInv_pass_applyAny (hash : Bytes → Nat) (col idx : Col) (k : NumKind) (target : String) (rule : RuleFn)
    (chunk : Nat) (ops : List Op)
    (hk : col.kind = .num k) (hik : idx.kind = .index target rule) (hch : chunk < col.nchunks)
    (hin : InBounds col ops) (hcan : CanonPuts k ops) (hm : ∀ a d, col.merge a d ≠ [])
    (hinv : IndexInv col idx k rule) :
    IndexInv (applyData hash col chunk ops).col
      (idx.applyAny hash chunk (applyData hash col chunk ops).ops).1 k rule ∧
    (idx.applyAny hash chunk (applyData hash col chunk ops).ops).2 = false := by
  rw [(applyAny_index hash idx target rule hik _ _).trans (applyOther_index idx target rule hik _).symm]
  exact ⟨indexInv_pass hash col idx k target rule chunk ops hk hik hch hin hcan hm hinv,
    (index_apply_sem idx target rule hik _ 0).2⟩

/-- the hypotheses of `indexInv_pass` that concern the two columns survive the pass, so the theorem applies to
    the next section, the next transaction, a replay, a reused offset … -/
theorem pass_shape (hash : Bytes → Nat) (col idx : Col) (k : NumKind) (target : String) (rule : RuleFn)
    (chunk : Nat) (ops : List Op)
    (hk : col.kind = .num k) (hik : idx.kind = .index target rule) (hch : chunk < col.nchunks) :
    SameShape col (applyData hash col chunk ops).col ∧
    SameButBits idx (applyOther idx (applyData hash col chunk ops).ops).1 := by
  rw [applyData_num hash col k hk chunk hch, applyOther_index idx target rule hik]
  exact ⟨foldCol_shape k ops col, foldIdx_same rule _ idx⟩

/-- row markers (`commitMarkers`): the *same* section of `Insert` / `Delete` markers is applied to the column and
    to the index (no rewriting); a deleted row leaves the index, whatever its value -/
theorem indexInv_markers (hash : Bytes → Nat) (col idx : Col) (k : NumKind) (target : String) (rule : RuleFn)
    (chunk : Nat) (ops : List Op)
    (hk : col.kind = .num k) (hik : idx.kind = .index target rule) (hch : chunk < col.nchunks)
    (hin : InBounds col ops) (hmk : ∀ o ∈ ops, o.typ = opInsert ∨ o.typ = opDelete)
    (hinv : IndexInv col idx k rule) :
    IndexInv (col.applyAny hash chunk ops).1 (idx.applyAny hash chunk ops).1 k rule ∧
    (col.applyAny hash chunk ops).2 = false ∧ (idx.applyAny hash chunk ops).2 = false := by
  have hne : ∀ o ∈ ops, o.typ ≠ opMerge ∧ o.typ ≠ opPut := fun o ho => by
    rcases hmk o ho with h | h <;> rw [h] <;> decide
  have hnm : ∀ o ∈ ops, o.typ ≠ opMerge := fun o ho => (hne o ho).1
  have hd : col.kind.isData = true := by rw [hk]; rfl
  rw [applyAny_index hash idx target rule hik]
  unfold Col.applyAny
  rw [if_pos hd, applyData_num hash col k hk chunk hch]
  refine ⟨?_, rfl, rfl⟩
  have := indexInv_fold k rule ops col idx hin (fun o ho h => absurd h (hne o ho).2)
    (fun o ho h => absurd h (hnm o ho)) hinv
  rwa [rwList_of_no_merge k ops col hnm] at this

/-- a whole buffer, in the order `commitUpdates` works: first the main pass over *all* sections of the chunk
    (`mainSecs`), then the computed pass over all rewritten sections (`otherSecs`) -/
theorem indexInv_sections (hash : Bytes → Nat) (col idx : Col) (k : NumKind) (target : String) (rule : RuleFn)
    (chunk : Nat) (secs : List (List Op))
    (hk : col.kind = .num k) (hik : idx.kind = .index target rule) (hch : chunk < col.nchunks)
    (hin : InBounds col secs.flatten) (hcan : CanonPuts k secs.flatten) (hm : ∀ a d, col.merge a d ≠ [])
    (hinv : IndexInv col idx k rule) :
    IndexInv (mainSecs hash chunk col secs).1 (otherSecs idx (mainSecs hash chunk col secs).2.1).1 k rule ∧
    (mainSecs hash chunk col secs).2.2 = false ∧ (otherSecs idx (mainSecs hash chunk col secs).2.1).2 = false := by
  rw [mainSecs_num hash chunk k secs col hk hch, otherSecs_index idx target rule hik]
  refine ⟨?_, rfl, rfl⟩
  simp only
  rw [rwSecs_flatten]
  exact indexInv_fold k rule secs.flatten col idx hin hcan (fun _ _ _ => hm) hinv

/-- the same with the model's own `mainPass` over the transaction buffer `u` of the column: afterwards the column
    and the index fed with the sections of `chunk` the buffer holds afterwards (what `computedPass` reads) satisfy `IndexInv` -/
theorem indexInv_mainPass (hash : Bytes → Nat) (col idx : Col) (k : NumKind) (target : String) (rule : RuleFn)
    (chunk : Nat) (u : Buf)
    (hk : col.kind = .num k) (hik : idx.kind = .index target rule) (hch : chunk < col.nchunks)
    (hin : InBounds col (u.rangeOps chunk)) (hcan : CanonPuts k (u.rangeOps chunk))
    (hm : ∀ a d, col.merge a d ≠ []) (hinv : IndexInv col idx k rule) :
    IndexInv (mainPass hash col chunk u).1 (otherSecs idx ((mainPass hash col chunk u).2.1.range chunk)).1 k rule ∧
    (mainPass hash col chunk u).2.2 = false ∧
    (otherSecs idx ((mainPass hash col chunk u).2.1.range chunk)).2 = false := by
  obtain ⟨h1, h2, h3⟩ := mainPass_num hash col k hk chunk hch u
  rw [h1, h2, h3]
  have := indexInv_sections hash col idx k target rule chunk (u.range chunk) hk hik hch hin hcan hm hinv
  exact ⟨this.1, rfl, this.2.2⟩

/-- a merge function returning values of the column's width satisfies the hypothesis of `indexInv_pass` -/
theorem merge_width_ne_nil (k : NumKind) (merge : Bytes → Bytes → Bytes)
    (h : ∀ a d, (merge a d).length = k.width) : ∀ a d, merge a d ≠ [] := by
  intro a d h0
  have := h a d
  rw [h0] at this
  exact Nat.ne_of_gt k.width_pos this.symm

/-- `IndexInv` read through the typed reader: the index contains `o` iff the column has a value at `o` and the
    rule accepts it -/
theorem indexInv_read (col idx : Col) (k : NumKind) (rule : RuleFn) (hk : col.kind = .num k)
    (hsz : col.bits.size ≤ 16384 * col.nchunks) (hinv : IndexInv col idx k rule) (o : Nat) :
    Bits.get idx.bits o = true ↔
      ∃ v, col.read o = some v ∧ rule ⟨opPut, o, .fixed k.code (padTo k.width v)⟩ = true := by
  rw [hinv o, read_slot col o (by rw [hk]; rfl) (by rw [hk]; nofun)]
  show _ ↔ ∃ v, (if _ ∧ Bits.get col.bits o = true then some ((col.data[o]?).getD []) else none) = some v ∧ _
  by_cases hb : Bits.get col.bits o = true
  · rw [if_pos ⟨Nat.div_lt_of_lt_mul (Nat.lt_of_lt_of_le (lt_size_of_get hb) hsz), hb⟩]
    simp [hb]
  · rw [if_neg fun h => hb h.2]
    simp [hb]

/-! ### I5 — index created after the data (`CreateIndex` back-fill, restore) -/

/-- one chunk: the snapshot of chunk `ch` of a numeric column applied to an index with no bit set in that
    chunk establishes the `IndexInv` clause for every offset of the chunk -/
theorem backfill_chunk (col idx : Col) (k : NumKind) (target : String) (rule : RuleFn)
    (hk : col.kind = .num k) (hik : idx.kind = .index target rule) (ch : Nat) (hch : ch < col.nchunks)
    (hfresh : ∀ o, o / 16384 = ch → Bits.get idx.bits o = false) (o : Nat) (ho : o / 16384 = ch) :
    Bits.get (applyOther idx (col.snapshotOps ch).1).1.bits o =
      (Bits.get col.bits o && rule ⟨opPut, o, .fixed k.code (padTo k.width ((col.data[o]?).getD []))⟩) := by
  rw [backfill_chunk_get col idx k target rule hk hik ch hch o]
  by_cases hb : Bits.get col.bits o = true
  · simp [ho, hb]
  · simp [hb, hfresh o ho]

/-- … the bits of other chunks are not touched, and the snapshot does not panic -/
theorem backfill_chunk_frame (col idx : Col) (k : NumKind) (target : String) (rule : RuleFn)
    (hk : col.kind = .num k) (hik : idx.kind = .index target rule) (ch : Nat) (hch : ch < col.nchunks)
    (o : Nat) (ho : o / 16384 ≠ ch) :
    Bits.get (applyOther idx (col.snapshotOps ch).1).1.bits o = Bits.get idx.bits o ∧
    (col.snapshotOps ch).2 = false := by
  rw [backfill_chunk_get col idx k target rule hk hik ch hch o, snapshotOps_raw col (by rw [hk]; rfl) ch hch]
  simp [ho]

/-- the whole back-fill loop of `CreateIndex`: every committed chunk is covered by the column
    (`commits.size ≤ nchunks`, kept by `commitCapacity` / `createColumn`), no row is present beyond the committed
    chunks, the index starts empty ⇒ afterwards `IndexInv` holds for *every* offset and nothing panicked -/
theorem backfill_indexInv (s : Store) (col idx : Col) (k : NumKind) (target : String) (rule : RuleFn)
    (hk : col.kind = .num k) (hik : idx.kind = .index target rule) (hn : s.commits.size ≤ col.nchunks)
    (hlive : ∀ o, s.commits.size ≤ o / 16384 → Bits.get col.bits o = false)
    (hfresh : ∀ o, Bits.get idx.bits o = false) :
    IndexInv col (s.backfill col idx).1 k rule ∧ (s.backfill col idx).2 = false ∧
    SameButBits idx (s.backfill col idx).1 := by
  have hni : col.kind.isIndex = false := by rw [hk]; rfl
  rw [backfill_eq s col idx hni]
  obtain ⟨h1, h2, h3⟩ := backfill_upTo col idx k target rule hk hik s.commits.size hn
  refine ⟨?_, h1, h2⟩
  intro o
  rw [h3 o, hfresh o]
  by_cases hb : Bits.get col.bits o = true
  · have : o / 16384 < s.commits.size :=
      Decidable.byContradiction fun hge => by rw [hlive o (Nat.le_of_not_lt hge)] at hb; cases hb
    simp [hb, this]
  · simp [hb]

/-- the index column `CreateIndex` starts from (`Col.grow` of an empty column) has no bit set -/
theorem createIndex_starts_empty (name target : String) (rule : RuleFn) (cap o : Nat) :
    Bits.get (Col.grow { name := name, kind := .index target rule } cap).bits o = false :=
  get_fresh_index name _ target rule rfl cap o

/-! ### I7 — non-vacuity: a concrete 4-slot `uint16` column, byte-wise adding merge, rule "low byte ≥ 7" -/

def addMerge : Bytes → Bytes → Bytes := fun a d => [a.getD 0 0 + d.getD 0 0, a.getD 1 0 + d.getD 1 0]

def col0 : Col :=
  { name := "n", kind := .num .u16, merge := addMerge, nchunks := 1,
    bits := #[true, false, false, false], data := #[[0, 9], [], [], []] }

def rule0 : RuleFn := fun o => decide (7 ≤ ((valRaw o.val).getD 1 0).toNat)

def idx0 : Col := { name := "big", kind := .index "n" rule0, bits := #[true, false, false, false] }

/-- put, merge onto it, delete another row, merge into a never-written slot -/
def ops0 : List Op :=
  [⟨opPut, 1, .fixed 1 [0, 3]⟩, ⟨opMerge, 1, .fixed 1 [0, 4]⟩, ⟨opDelete, 0, .fixed 0 []⟩,
   ⟨opMerge, 2, .fixed 1 [0, 9]⟩, ⟨opPut, 3, .fixed 1 [0, 2]⟩]

example : IndexInv col0 idx0 .u16 rule0 := by
  intro o
  match o with
  | 0 | 1 | 2 | 3 => decide
  | n + 4 => simp [col0, idx0, Bits.get]

example : InBounds col0 ops0 := by decide

example : CanonPuts .u16 ops0 := by
  intro o ho hp
  simp only [ops0, List.mem_cons, List.not_mem_nil, or_false] at ho
  rcases ho with rfl | rfl | rfl | rfl | rfl
  · exact ⟨[0, 3], rfl, rfl⟩
  · exact absurd hp (by decide)
  · exact absurd hp (by decide)
  · exact absurd hp (by decide)
  · exact ⟨[0, 2], rfl, rfl⟩

example : ∀ a d, col0.merge a d ≠ [] := by intro a d; simp [col0, addMerge]

example : col0.bits.size ≤ 16384 * col0.nchunks := by decide

/-- hypotheses of `backfill_indexInv`: one committed chunk, no row beyond it, empty index -/
example : ({ commits := #[0] } : Store).commits.size ≤ col0.nchunks := by decide

example : ∀ o, ({ commits := #[0] } : Store).commits.size ≤ o / 16384 → Bits.get col0.bits o = false := by
  intro o h
  apply get_of_ge
  have : ({ commits := #[0] } : Store).commits.size = 1 := rfl
  rw [this] at h
  have : col0.bits.size = 4 := rfl
  omega

example : ∀ o, Bits.get ({ name := "big", kind := .index "n" rule0 } : Col).bits o = false := by
  intro o; rfl

/-- hypothesis of `indexInv_markers` -/
example : ∀ o ∈ [(⟨opInsert, 2, .fixed 0 []⟩ : Op), ⟨opDelete, 0, .fixed 0 []⟩], o.typ = opInsert ∨ o.typ = opDelete := by
  decide

/-- the rewritten section: both merges became puts of the stored sums -/
example : (applyData (fun _ => 0) col0 0 ops0).ops =
    [⟨opPut, 1, .fixed 1 [0, 3]⟩, ⟨opPut, 1, .fixed 1 [0, 7]⟩, ⟨opDelete, 0, .fixed 0 []⟩,
     ⟨opPut, 2, .fixed 1 [0, 9]⟩, ⟨opPut, 3, .fixed 1 [0, 2]⟩] := by decide +kernel

/-- the index after the pass: row 0 deleted, row 1 holds 7 (merged), row 2 holds 9, row 3 holds 2 -/
example : (List.range 6).map (Bits.get (applyOther idx0 (applyData (fun _ => 0) col0 0 ops0).ops).1.bits) =
    [false, true, true, false, false, false] := by
  -- by `index_apply_sem`: evaluating the bitmap itself is far dearer than folding the ops of each offset
  rw [List.map_congr_left fun o _ => (index_apply_sem idx0 "n" rule0 rfl _ o).1]
  decide +kernel

/-- created afterwards, the index is the same -/
example : (List.range 6).map (Bits.get (applyOther { name := "big", kind := .index "n" rule0 }
    ((applyData (fun _ => 0) col0 0 ops0).col.snapshotOps 0).1).1.bits) =
    [false, true, true, false, false, false] := by
  -- by `backfill_chunk` (the snapshot itself scans 16384 slots)
  rw [List.map_congr_left fun o ho => backfill_chunk _ _ .u16 "n" rule0 rfl rfl 0 (by decide) (fun _ _ => rfl) o
    (Nat.div_eq_of_lt (by have := List.mem_range.1 ho; omega))]
  decide +kernel

end ColumnVerif.Props.C03
