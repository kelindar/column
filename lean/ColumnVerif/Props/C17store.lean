import ColumnVerif.Lemmas.TTL
import ColumnVerif.Props.C01
import ColumnVerif.Props.C01store
import ColumnVerif.Props.C17
/-!
# C17 at store level — `Set` / `Extend` move the stored deadline accordingly

`Props/C17.lean` proves the decision a vacuum pass takes for a stored value. Here the stored value is tied to what the
writer did: the deadline column `expire` is an ordinary `int64` column whose merge is wrapping addition (`addMerge64`),
`TTL.Set(ttl)` is a `Put` of the 8 big-endian bytes of `writeTTL now ttl`, `TTL.Extend(delta)` a `Merge` of the bytes of `delta`.

1. `int64OfBytes_natToBE`, `bytesOfInt64_int64OfBytes` — encoder / decoder are inverse (8 bytes, `int64` range);
2. `addMerge64_sem`, `addMerge64_no_overflow` — the default merge is two's-complement addition; without overflow it is `extendTTL`;
3. `extend_slot`, `extend_read`, `set_slot`, `set_read` — what one `applyData` pass leaves in the slot;
4. `set_then_vacuum`, `extend_then_vacuum` — the decision of a later pass on the value so written
   (`set_decision`, `extend_decision` are the same on bytes; `commit_set_then_vacuum`, `commit_extend_then_vacuum`,
   `commit_set_then_vacuumPass`, `commit_extend_then_vacuumPass` carry it through `Store.commit` and `Store.vacuumPass`);
5. `new_expire_column` — a new store has the `expire` column with that kind and merge.

`bytesOfInt64`, `wrap64` are defined in `Lemmas/TTL.lean` (not in the model):
`bytesOfInt64 x = natToBE 8 ((x % 2^64).toNat)`, `wrap64 x = ((x + 2^63) % 2^64) - 2^63`.
-/
namespace ColumnVerif.Props.C17store
open ColumnVerif.Codec ColumnVerif.Store ColumnVerif.Bits

/-! ## 1 — encoder / decoder -/

theorem int64OfBytes_natToBE (x : Int) (hlo : -(2 ^ 63) ≤ x) (hhi : x < 2 ^ 63) :
    int64OfBytes (bytesOfInt64 x) = x := by
  rw [int64OfBytes_bytesOfInt64_wrap, wrap64_of_range x ⟨hlo, hhi⟩]

theorem int64OfBytes_natToBE_wrap (x : Int) : int64OfBytes (bytesOfInt64 x) = wrap64 x :=
  int64OfBytes_bytesOfInt64_wrap x

theorem bytesOfInt64_int64OfBytes (bs : Bytes) (h : bs.length = 8) : bytesOfInt64 (int64OfBytes bs) = bs :=
  bytesOfInt64_int64OfBytes8 bs h

theorem int64OfBytes_in_range (bs : Bytes) (h : bs.length = 8) :
    -(2 ^ 63) ≤ int64OfBytes bs ∧ int64OfBytes bs < 2 ^ 63 := int64OfBytes_range bs h

theorem bytesOfInt64_len (x : Int) : (bytesOfInt64 x).length = 8 := bytesOfInt64_length x

/-! ## 2 — the default merge of the deadline column -/

/-- `addMerge64` is two's-complement (wrapping) addition, for byte strings `v`, `d` of any length
    (no 8-byte hypothesis is needed). -/
theorem addMerge64_sem (v d : Bytes) :
    int64OfBytes (addMerge64 v d) = wrap64 (int64OfBytes v + int64OfBytes d) := int64OfBytes_addMerge64 v d

/-- no overflow ⇒ `Extend` adds exactly -/
theorem addMerge64_no_overflow (v d : Bytes)
    (hlo : -(2 ^ 63) ≤ int64OfBytes v + int64OfBytes d) (hhi : int64OfBytes v + int64OfBytes d < 2 ^ 63) :
    int64OfBytes (addMerge64 v d) = extendTTL (int64OfBytes v) (int64OfBytes d) := by
  rw [addMerge64_sem, wrap64_of_range _ ⟨hlo, hhi⟩]; rfl

theorem addMerge64_bytes (v d : Bytes) :
    addMerge64 v d = bytesOfInt64 (int64OfBytes v + int64OfBytes d) ∧ (addMerge64 v d).length = 8 :=
  ⟨addMerge64_eq v d, addMerge64_length v d⟩

/-! ## 3 — column level: one `applyData` pass over the deadline column -/

/-- `Extend(delta)`: after the pass, the slot addressed by the last op for that offset — a `Merge` carrying the bytes of
    `delta` — is present and holds the encoding of `old + delta`, where `old` is what the slot held just before the op
    (its content before the pass folded with the earlier ops of the section addressed to it). Nothing is assumed about the
    presence bit or the length of the old content (an empty slot counts as 0, as `padTo` does). -/
theorem extend_slot (hash : Bytes → Nat) (c : Col) (hk : c.kind = .num .i64) (hm : c.merge = addMerge64) (chunk : Nat)
    (hc : chunk < c.nchunks) (pre post : List Op) (p : Op) (hin : InBounds c (pre ++ p :: post))
    (hp : p.typ = opMerge) (code : Nat) (delta : Int) (hv : p.val = .fixed code (bytesOfInt64 delta))
    (hpost : ∀ o ∈ post, o.idx ≠ p.idx) :
    slot (applyData hash c chunk (pre ++ p :: post)).col p.idx =
      (true, bytesOfInt64 (int64OfBytes
        ((pre.filter (fun o => o.idx = p.idx)).foldl (slotEffect addMerge64 8) (slot c p.idx)).2 + delta)) := by
  rw [(C01.num_slot_fold hash c .i64 hk chunk hc _ hin p.idx).1, filter_idx_last pre post p hpost, List.foldl_append, hm,
    List.foldl_cons, List.foldl_nil]
  rw [slotEffect_extend _ p hp delta (by rw [hv]; rfl)]
  rfl

/-- `Extend(delta)` on a row whose deadline reads `d`, the only op of the section addressed to that row: the reader then
    gets the encoding of `d + delta`, which — no overflow — decodes to `extendTTL d delta = d + delta` -/
theorem extend_read (hash : Bytes → Nat) (c : Col) (hk : c.kind = .num .i64) (hm : c.merge = addMerge64) (chunk : Nat)
    (hc : chunk < c.nchunks) (pre post : List Op) (p : Op) (hin : InBounds c (pre ++ p :: post))
    (hp : p.typ = opMerge) (code : Nat) (delta : Int) (hv : p.val = .fixed code (bytesOfInt64 delta))
    (hpre : ∀ o ∈ pre, o.idx ≠ p.idx) (hpost : ∀ o ∈ post, o.idx ≠ p.idx)
    (bs : Bytes) (hr : c.read p.idx = some bs) (d : Int) (hd : int64OfBytes bs = d)
    (hlo : -(2 ^ 63) ≤ d + delta) (hhi : d + delta < 2 ^ 63) :
    (applyData hash c chunk (pre ++ p :: post)).col.read p.idx = some (bytesOfInt64 (d + delta)) ∧
    int64OfBytes (bytesOfInt64 (d + delta)) = extendTTL d delta := by
  refine ⟨?_, int64OfBytes_natToBE _ hlo hhi⟩
  have hsh := applyData_sameShape hash c chunk (pre ++ p :: post)
  obtain ⟨hpres, hbs⟩ := C01.slot_of_read c .i64 hk p.idx bs hr
  rw [C01.read_of_slot _ .i64 (hsh.kind.trans hk), extend_slot hash c hk hm chunk hc pre post p hin hp code delta hv hpost,
    List.filter_eq_nil_iff.2 (fun o ho => by simpa using hpre o ho), hsh.nchunks, List.foldl_nil, hbs, hd,
    if_pos ⟨hpres.1, rfl⟩]

/-- `Set(ttl)`: after the pass, the slot addressed by the last op for that offset — a `Put` of the bytes of
    `writeTTL now ttl` — is present and holds exactly these bytes -/
theorem set_slot (hash : Bytes → Nat) (c : Col) (hk : c.kind = .num .i64) (chunk : Nat)
    (hc : chunk < c.nchunks) (pre post : List Op) (p : Op) (hin : InBounds c (pre ++ p :: post))
    (hp : p.typ = opPut) (code : Nat) (now ttl : Int) (hv : p.val = .fixed code (bytesOfInt64 (writeTTL now ttl)))
    (hpost : ∀ o ∈ post, o.idx ≠ p.idx) :
    slot (applyData hash c chunk (pre ++ p :: post)).col p.idx = (true, bytesOfInt64 (writeTTL now ttl)) := by
  rw [C01.num_last_put hash c .i64 hk chunk hc pre post p hin hp hpost, hv]; rfl

/-- … and a reader gets them (the op sits in the section of its own chunk) -/
theorem set_read (hash : Bytes → Nat) (c : Col) (hk : c.kind = .num .i64) (chunk : Nat)
    (hc : chunk < c.nchunks) (pre post : List Op) (p : Op) (hin : InBounds c (pre ++ p :: post))
    (hp : p.typ = opPut) (code : Nat) (now ttl : Int) (hv : p.val = .fixed code (bytesOfInt64 (writeTTL now ttl)))
    (hpost : ∀ o ∈ post, o.idx ≠ p.idx) (hch : p.idx / 16384 = chunk) :
    (applyData hash c chunk (pre ++ p :: post)).col.read p.idx = some (bytesOfInt64 (writeTTL now ttl)) := by
  have hsh := applyData_sameShape hash c chunk (pre ++ p :: post)
  rw [C01.read_of_slot _ .i64 (hsh.kind.trans hk), set_slot hash c hk chunk hc pre post p hin hp code now ttl hv hpost,
    hsh.nchunks, if_pos ⟨by omega, rfl⟩]

/-! ## 4 — the decision of a later vacuum pass on the value so written -/

theorem deletes_iff_lt (now' : Int) (stored : Bytes) {x : Int} (hx : int64OfBytes stored = x) (hnz : x ≠ 0) :
    vacuumDeletes now' (some stored) = true ↔ x < now' := by
  rw [C17.vacuumDeletes_some, hx]; simp [hnz]

/-- on bytes: the deadline written by `Set(ttl)`, `0 < ttl`, at clock `now` is `now + ttl`; it is non-zero when
    `now + ttl ≠ 0`, and then a pass at clock `now'` deletes iff `now + ttl < now'` -/
theorem set_decision (now ttl now' : Int) (httl : 0 < ttl) (hlo : -(2 ^ 63) ≤ now + ttl) (hhi : now + ttl < 2 ^ 63) :
    int64OfBytes (bytesOfInt64 (writeTTL now ttl)) = now + ttl ∧
    (now + ttl ≠ 0 → (vacuumDeletes now' (some (bytesOfInt64 (writeTTL now ttl))) = true ↔ now + ttl < now')) ∧
    (vacuumDeletes now' (some (bytesOfInt64 (writeTTL now ttl))) = true ↔ (now + ttl ≠ 0 ∧ now + ttl < now')) := by
  have hw : writeTTL now ttl = now + ttl := ((C17.set_ttl_deadline now ttl).1 httl).1
  have hv : int64OfBytes (bytesOfInt64 (writeTTL now ttl)) = now + ttl := by
    rw [hw]; exact int64OfBytes_natToBE _ hlo hhi
  refine ⟨hv, deletes_iff_lt now' _ hv, ?_⟩
  rw [C17.vacuumDeletes_some, hv]
  simp

/-- on bytes: a stored deadline `d` extended by `delta` (no overflow, `d + delta ≠ 0`) is deleted at `now'` iff
    `d + delta < now'` -/
theorem extend_decision (old : Bytes) (delta now' : Int)
    (hlo : -(2 ^ 63) ≤ int64OfBytes old + delta) (hhi : int64OfBytes old + delta < 2 ^ 63)
    (hnz : int64OfBytes old + delta ≠ 0) :
    int64OfBytes (addMerge64 (padTo 8 old) (bytesOfInt64 delta)) = extendTTL (int64OfBytes old) delta ∧
    (vacuumDeletes now' (some (addMerge64 (padTo 8 old) (bytesOfInt64 delta))) = true ↔ int64OfBytes old + delta < now') := by
  have hv : int64OfBytes (addMerge64 (padTo 8 old) (bytesOfInt64 delta)) = int64OfBytes old + delta := by
    rw [addMerge64_delta]; exact int64OfBytes_natToBE _ hlo hhi
  exact ⟨hv, deletes_iff_lt now' _ hv hnz⟩

/-- **after `Set(ttl)`** (`0 < ttl`, clock `now`, `now + ttl` an `int64` and `≠ 0`): the reader of the column after the pass
    gets a value that decodes to `now + ttl`, and a vacuum pass at clock `now'` deletes the row iff `now + ttl < now'` -/
theorem set_then_vacuum (hash : Bytes → Nat) (c : Col) (hk : c.kind = .num .i64) (chunk : Nat)
    (hc : chunk < c.nchunks) (pre post : List Op) (p : Op) (hin : InBounds c (pre ++ p :: post))
    (hp : p.typ = opPut) (code : Nat) (now ttl : Int) (hv : p.val = .fixed code (bytesOfInt64 (writeTTL now ttl)))
    (hpost : ∀ o ∈ post, o.idx ≠ p.idx) (hch : p.idx / 16384 = chunk)
    (httl : 0 < ttl) (hlo : -(2 ^ 63) ≤ now + ttl) (hhi : now + ttl < 2 ^ 63) (hnz : now + ttl ≠ 0) (now' : Int) :
    ∃ stored, (applyData hash c chunk (pre ++ p :: post)).col.read p.idx = some stored ∧
      int64OfBytes stored = now + ttl ∧ int64OfBytes stored ≠ 0 ∧
      (vacuumDeletes now' (some stored) = true ↔ now + ttl < now') := by
  obtain ⟨h1, h2, _⟩ := set_decision now ttl now' httl hlo hhi
  exact ⟨_, set_read hash c hk chunk hc pre post p hin hp code now ttl hv hpost hch, h1, by rw [h1]; exact hnz, h2 hnz⟩

/-- **after `Extend(delta)`** of a row whose deadline reads `d` (no overflow, `d + delta ≠ 0`): the reader gets a value that
    decodes to `d + delta`, and a vacuum pass at clock `now'` deletes the row iff `d + delta < now'`.
    (`d ≠ 0` is not needed; for `d = 0` this is observation O1 of `Props/C17.lean`.) -/
theorem extend_then_vacuum (hash : Bytes → Nat) (c : Col) (hk : c.kind = .num .i64) (hm : c.merge = addMerge64) (chunk : Nat)
    (hc : chunk < c.nchunks) (pre post : List Op) (p : Op) (hin : InBounds c (pre ++ p :: post))
    (hp : p.typ = opMerge) (code : Nat) (delta : Int) (hv : p.val = .fixed code (bytesOfInt64 delta))
    (hpre : ∀ o ∈ pre, o.idx ≠ p.idx) (hpost : ∀ o ∈ post, o.idx ≠ p.idx)
    (bs : Bytes) (hr : c.read p.idx = some bs) (d : Int) (hd : int64OfBytes bs = d)
    (hlo : -(2 ^ 63) ≤ d + delta) (hhi : d + delta < 2 ^ 63) (hnz : d + delta ≠ 0) (now' : Int) :
    ∃ stored, (applyData hash c chunk (pre ++ p :: post)).col.read p.idx = some stored ∧
      int64OfBytes stored = extendTTL d delta ∧ int64OfBytes stored ≠ 0 ∧
      (vacuumDeletes now' (some stored) = true ↔ d + delta < now') := by
  obtain ⟨h1, h2⟩ := extend_read hash c hk hm chunk hc pre post p hin hp code delta hv hpre hpost bs hr d hd hlo hhi
  have h3 : int64OfBytes (bytesOfInt64 (d + delta)) = d + delta := h2
  exact ⟨_, h1, h2, by rw [h3]; exact hnz, deletes_iff_lt now' _ h3 hnz⟩

/-! ## 4b — through `Store.commit` and `Store.vacuumPass` -/

theorem expire_ne_row : expireColumn ≠ rowColumn := by decide

theorem indexBit_of_read (c : Col) (k : NumKind) (hk : c.kind = .num k) (i : Nat) (bs : Bytes) (h : c.read i = some bs) :
    c.indexBit i = true := by
  obtain ⟨⟨h1, h2⟩, _⟩ := C01.slot_of_read c k hk i bs h
  have h2 : Bits.get c.bits i = true := h2
  unfold Col.indexBit
  rw [hk]
  simp [h1, h2]

theorem vacuumPass_of_read (s : Store) (now' : Int) (c : Col) (hf : s.findCol expireColumn = some c) (k : NumKind)
    (hk : c.kind = .num k) (i : Nat) (stored : Bytes) (hr : c.read i = some stored) :
    i ∈ s.vacuumPass now' ↔ (Bits.get s.fill i = true ∧ vacuumDeletes now' (some stored) = true) := by
  rw [C17.vacuum_deletes_iff s now' c hf i, C17.vacuumDeletes_some]
  have hi := indexBit_of_read c k hk i stored hr
  constructor
  · rintro ⟨h1, _, bs, hb, hz, hlt⟩
    rw [hr] at hb
    cases hb
    exact ⟨h1, by simp [hz, hlt]⟩
  · rintro ⟨h1, h2⟩
    simp only [Bool.and_eq_true, decide_eq_true_eq] at h2
    exact ⟨h1, hi, stored, hr, h2.1, h2.2⟩

/-- **`Set(ttl)` through a commit**: when the last op of the transaction addressed to row `i` of `expire` (markers
    included) is the `Put` of `writeTTL now ttl`, then after `s.commit t` the deadline of `i` reads `now + ttl`, and a vacuum
    pass at clock `now'` decides accordingly. Hypotheses on the store / transaction are those of `C01store.commit_read_last_put`. -/
theorem commit_set_then_vacuum (s : Store) (t : Txn) (col : Col)
    (hf : s.findCol expireColumn = some col) (hk : col.kind = .num .i64) (hw : ColWF col)
    (hcov : s.commits.size ≤ col.nchunks)
    (hcomp : ∀ v ∈ t.updates, ∀ c, s.findCol v.column = some c → expireColumn ∉ c.computed)
    (hinv : ∀ v ∈ t.updates, (v.column = expireColumn ∨ isMarkerBuf v = true) → ChunkOK v)
    (i : Nat) (pre : List Op) (p : Op) (hp : p.typ = opPut) (code : Nat) (now ttl : Int)
    (hv : p.val = .fixed code (bytesOfInt64 (writeTTL now ttl)))
    (hlast : (markerAll t.updates ++ allFor t.updates expireColumn).filter (fun o => o.idx = i) = pre ++ [p])
    (httl : 0 < ttl) (hlo : -(2 ^ 63) ≤ now + ttl) (hhi : now + ttl < 2 ^ 63) (hnz : now + ttl ≠ 0) (now' : Int) :
    ∃ col' stored, (s.commit t).findCol expireColumn = some col' ∧ col'.kind = .num .i64 ∧ col'.read i = some stored ∧
      int64OfBytes stored = now + ttl ∧
      (vacuumDeletes now' (some stored) = true ↔ now + ttl < now') := by
  obtain ⟨col', f, r⟩ := C01store.commit_read_last_put s t expireColumn .i64 col expire_ne_row hf hk hw hcov hcomp hinv
    i pre p hp hlast
  obtain ⟨col2, f2, k2, _⟩ := C01store.commit_readback s t expireColumn .i64 col expire_ne_row hf hk hw hcov hcomp hinv
  rw [f] at f2
  cases f2
  obtain ⟨h1, h2, _⟩ := set_decision now ttl now' httl hlo hhi
  refine ⟨col', _, f, k2, r, ?_, ?_⟩
  · rw [hv]; exact h1
  · rw [hv]; exact h2 hnz

/-- … and in terms of the pass itself: row `i` is deleted by `vacuumPass now'` iff it is live and `now + ttl < now'` -/
theorem commit_set_then_vacuumPass (s : Store) (t : Txn) (col : Col)
    (hf : s.findCol expireColumn = some col) (hk : col.kind = .num .i64) (hw : ColWF col)
    (hcov : s.commits.size ≤ col.nchunks)
    (hcomp : ∀ v ∈ t.updates, ∀ c, s.findCol v.column = some c → expireColumn ∉ c.computed)
    (hinv : ∀ v ∈ t.updates, (v.column = expireColumn ∨ isMarkerBuf v = true) → ChunkOK v)
    (i : Nat) (pre : List Op) (p : Op) (hp : p.typ = opPut) (code : Nat) (now ttl : Int)
    (hv : p.val = .fixed code (bytesOfInt64 (writeTTL now ttl)))
    (hlast : (markerAll t.updates ++ allFor t.updates expireColumn).filter (fun o => o.idx = i) = pre ++ [p])
    (httl : 0 < ttl) (hlo : -(2 ^ 63) ≤ now + ttl) (hhi : now + ttl < 2 ^ 63) (hnz : now + ttl ≠ 0) (now' : Int) :
    i ∈ (s.commit t).vacuumPass now' ↔ (Bits.get (s.commit t).fill i = true ∧ now + ttl < now') := by
  obtain ⟨col', stored, f, k, r, _, d⟩ := commit_set_then_vacuum s t col hf hk hw hcov hcomp hinv i pre p hp code now ttl hv
    hlast httl hlo hhi hnz now'
  rw [vacuumPass_of_read (s.commit t) now' col' f .i64 k i stored r, d]

/-- **`Extend(delta)` through a commit**: when the only op of the transaction addressed to row `i` of `expire` (markers
    included) is the `Merge` of `delta`, and the deadline of `i` read `d` before, then after `s.commit t` it reads `d + delta`
    (no overflow), and a vacuum pass at clock `now'` decides accordingly -/
theorem commit_extend_then_vacuum (s : Store) (t : Txn) (col : Col)
    (hf : s.findCol expireColumn = some col) (hk : col.kind = .num .i64) (hm : col.merge = addMerge64) (hw : ColWF col)
    (hcov : s.commits.size ≤ col.nchunks)
    (hcomp : ∀ v ∈ t.updates, ∀ c, s.findCol v.column = some c → expireColumn ∉ c.computed)
    (hinv : ∀ v ∈ t.updates, (v.column = expireColumn ∨ isMarkerBuf v = true) → ChunkOK v)
    (i : Nat) (p : Op) (hp : p.typ = opMerge) (code : Nat) (delta : Int)
    (hv : p.val = .fixed code (bytesOfInt64 delta))
    (honly : (markerAll t.updates ++ allFor t.updates expireColumn).filter (fun o => o.idx = i) = [p])
    (bs : Bytes) (hr : col.read i = some bs) (d : Int) (hd : int64OfBytes bs = d)
    (hlo : -(2 ^ 63) ≤ d + delta) (hhi : d + delta < 2 ^ 63) (hnz : d + delta ≠ 0) (now' : Int) :
    ∃ col' stored, (s.commit t).findCol expireColumn = some col' ∧ col'.kind = .num .i64 ∧ col'.merge = addMerge64 ∧
      col'.read i = some stored ∧ int64OfBytes stored = extendTTL d delta ∧
      (vacuumDeletes now' (some stored) = true ↔ d + delta < now') := by
  obtain ⟨col', f, k', m', _, n', _, sl⟩ :=
    C01store.commit_readback s t expireColumn .i64 col expire_ne_row hf hk hw hcov hcomp hinv
  obtain ⟨hpres, hbs⟩ := C01.slot_of_read col .i64 hk i bs hr
  have hslot : slot col' i = (true, bytesOfInt64 (d + delta)) := by
    rw [sl i, honly, hm, List.foldl_cons, List.foldl_nil, slotEffect_extend _ p hp delta (by rw [hv]; rfl), hbs, hd]
  have h3 : int64OfBytes (bytesOfInt64 (d + delta)) = d + delta := int64OfBytes_natToBE _ hlo hhi
  refine ⟨col', _, f, k', m'.trans hm, ?_, h3, deletes_iff_lt now' _ h3 hnz⟩
  rw [C01.read_of_slot col' .i64 k', hslot, if_pos ⟨by omega, rfl⟩]

/-- … and in terms of the pass itself -/
theorem commit_extend_then_vacuumPass (s : Store) (t : Txn) (col : Col)
    (hf : s.findCol expireColumn = some col) (hk : col.kind = .num .i64) (hm : col.merge = addMerge64) (hw : ColWF col)
    (hcov : s.commits.size ≤ col.nchunks)
    (hcomp : ∀ v ∈ t.updates, ∀ c, s.findCol v.column = some c → expireColumn ∉ c.computed)
    (hinv : ∀ v ∈ t.updates, (v.column = expireColumn ∨ isMarkerBuf v = true) → ChunkOK v)
    (i : Nat) (p : Op) (hp : p.typ = opMerge) (code : Nat) (delta : Int)
    (hv : p.val = .fixed code (bytesOfInt64 delta))
    (honly : (markerAll t.updates ++ allFor t.updates expireColumn).filter (fun o => o.idx = i) = [p])
    (bs : Bytes) (hr : col.read i = some bs) (d : Int) (hd : int64OfBytes bs = d)
    (hlo : -(2 ^ 63) ≤ d + delta) (hhi : d + delta < 2 ^ 63) (hnz : d + delta ≠ 0) (now' : Int) :
    i ∈ (s.commit t).vacuumPass now' ↔ (Bits.get (s.commit t).fill i = true ∧ d + delta < now') := by
  obtain ⟨col', stored, f, k, _, r, _, dd⟩ := commit_extend_then_vacuum s t col hf hk hm hw hcov hcomp hinv i p hp code delta hv
    honly bs hr d hd hlo hhi hnz now'
  rw [vacuumPass_of_read (s.commit t) now' col' f .i64 k i stored r, dd]

/-! ## 5 — a new store has the deadline column -/

/-- `NewCollection` registers `expire` as an `int64` column whose merge is wrapping addition; the column is well-formed and
    covers the requested capacity (so the hypotheses `ColWF`, `commits.size ≤ nchunks` of the commit theorems hold for a new store) -/
theorem new_expire_column (cap : Nat) (logger : LoggerKind) (hash : Bytes → Nat) :
    ∃ c, (Store.new cap logger hash).findCol "expire" = some c ∧ c.kind = .num .i64 ∧ c.merge = addMerge64 ∧
      c.name = "expire" ∧ c.computed = [] ∧ ColWF c ∧ (Store.new cap logger hash).commits.size ≤ c.nchunks := by
  let c0 : Col := { name := "expire", kind := .num .i64, merge := addMerge64 }
  let cap' := if cap > 0 then cap else 1024
  have hw0 : ColWF c0 := ⟨rfl, rfl⟩
  have hg := grow_num c0 .i64 rfl hw0 cap'
  have hmeta := grow_meta c0 cap'
  refine ⟨c0.grow cap', ?_, hmeta.2.1, hmeta.2.2.2, hmeta.1, hmeta.2.2.1, hg.1, Nat.zero_le _⟩
  unfold Store.new Store.findCol
  have hn : (c0.grow cap').name = "expire" := hmeta.1
  show (#[c0.grow cap'] : Array Col).find? (fun c => c.name == "expire") = some (c0.grow cap')
  simp [hn]

theorem new_no_computed (cap : Nat) (logger : LoggerKind) (hash : Bytes → Nat) (n : String) (c : Col)
    (h : (Store.new cap logger hash).findCol n = some c) : c.computed = [] := by
  have hm := findCol_mem h
  unfold Store.new at hm
  simp only [List.mem_toArray, List.mem_singleton] at hm
  rw [hm]
  exact (grow_meta _ _).2.2.1

/-! ## 6 — non-vacuity -/

example : bytesOfInt64 1700000000000000000 = [23, 151, 156, 254, 54, 42, 0, 0] := by decide +kernel
example : int64OfBytes (bytesOfInt64 (-5)) = -5 := by decide +kernel
example : bytesOfInt64 (-1) = [255, 255, 255, 255, 255, 255, 255, 255] := by decide +kernel
example : int64OfBytes (addMerge64 (bytesOfInt64 1000) (bytesOfInt64 (-300))) = 700 := by decide +kernel
/-- overflow wraps (so the no-overflow hypothesis of `addMerge64_no_overflow` is needed) -/
example : int64OfBytes (addMerge64 (bytesOfInt64 (2 ^ 63 - 1)) (bytesOfInt64 1)) = -(2 ^ 63) := by decide +kernel
example : wrap64 (2 ^ 63) = -(2 ^ 63) ∧ wrap64 (-(2 ^ 63) - 1) = 2 ^ 63 - 1 ∧ wrap64 12345 = 12345 := by decide +kernel
/-- `now + ttl = 0` (a clock before 1970): the row is never deleted although `0 < now'` — why `set_then_vacuum` assumes `now + ttl ≠ 0` -/
example : vacuumDeletes 10 (some (bytesOfInt64 (writeTTL (-5) 5))) = false := by decide +kernel

/-- a small deadline column: row 0 expires at 1000, row 1 has a stale value but is absent, rows 2, 3 empty -/
def sampleCol : Col :=
  { name := "expire", kind := .num .i64, merge := addMerge64, nchunks := 1, bits := #[true, false, false, false],
    data := #[bytesOfInt64 1000, bytesOfInt64 77, [], []] }

/-- `Extend(500)` on row 0, `Set(ttl = 250)` at clock 2000 on row 2 -/
def extendOp : Op := ⟨opMerge, 0, .fixed 3 (bytesOfInt64 500)⟩
def setOp : Op := ⟨opPut, 2, .fixed 3 (bytesOfInt64 (writeTTL 2000 250))⟩

example : InBounds sampleCol ([setOp] ++ extendOp :: []) := by decide
example : (applyData (fun _ => 0) sampleCol 0 [setOp, extendOp]).col.read 0 = some (bytesOfInt64 1500) := by decide +kernel
example : (applyData (fun _ => 0) sampleCol 0 [setOp, extendOp]).col.read 2 = some (bytesOfInt64 2250) := by decide +kernel

/-- every hypothesis of `extend_then_vacuum` holds for the sample, so its conclusion does: deleted iff `1500 < now'` -/
example (now' : Int) :
    ∃ stored, (applyData (fun _ => 0) sampleCol 0 ([setOp] ++ extendOp :: [])).col.read 0 = some stored ∧
      int64OfBytes stored = extendTTL 1000 500 ∧ int64OfBytes stored ≠ 0 ∧
      (vacuumDeletes now' (some stored) = true ↔ 1000 + 500 < now') :=
  extend_then_vacuum (fun _ => 0) sampleCol rfl rfl 0 (by decide) [setOp] [] extendOp (by decide) rfl 3 500 rfl
    (by decide) (by decide) (bytesOfInt64 1000) (by decide +kernel) 1000 (by decide +kernel) (by decide) (by decide) (by decide) now'

/-- every hypothesis of `set_then_vacuum` holds for the sample: deleted iff `2250 < now'` -/
example (now' : Int) :
    ∃ stored, (applyData (fun _ => 0) sampleCol 0 ([] ++ setOp :: [extendOp])).col.read 2 = some stored ∧
      int64OfBytes stored = 2000 + 250 ∧ int64OfBytes stored ≠ 0 ∧
      (vacuumDeletes now' (some stored) = true ↔ 2000 + 250 < now') :=
  set_then_vacuum (fun _ => 0) sampleCol rfl 0 (by decide) [] [extendOp] setOp (by decide) rfl 3 2000 250 rfl
    (by decide) (by decide) (by decide) (by decide) (by decide) (by decide) now'

/-- O1 again, at column level: `Extend` on the absent row 1 revives it with the stale value plus delta (defect D11) -/
example : (applyData (fun _ => 0) sampleCol 0 [⟨opMerge, 1, .fixed 3 (bytesOfInt64 3)⟩]).col.read 1 = some (bytesOfInt64 80) := by
  decide +kernel

/-! a new store, one transaction: insert row 3 and `Set(ttl = 250)` on it at clock 2000 -/
def newStore : Store := Store.new 1024 .none (fun _ => 0)
def insertOp : Op := ⟨opInsert, 3, .fixed 0 []⟩
def setOp3 : Op := ⟨opPut, 3, .fixed 3 (bytesOfInt64 (writeTTL 2000 250))⟩
def setTxn : Txn :=
  ([(rowColumn, insertOp), (expireColumn, setOp3)] : List (String × Op)).foldl (fun t p => t.putOp p.1 p.2) {}

theorem setTxn_chunkOK : ∀ v ∈ setTxn.updates, ChunkOK v := by
  have : ∀ v ∈ setTxn.updates, ∀ s ∈ v.rsecs, ∀ o ∈ s.rops, chunkOf o.idx = s.chunk := by decide +kernel
  exact this

theorem setTxn_fill : Bits.get (newStore.commit setTxn).fill 3 = true := by
  rw [C01store.commit_fill newStore setTxn (fun m hm _ => setTxn_chunkOK m hm) 3]; decide +kernel

/-- all hypotheses of `commit_set_then_vacuumPass` hold for a new store (through `new_expire_column`), so: the row inserted
    with a TTL of 250 at clock 2000 is removed by a vacuum pass at clock `now'` iff `2250 < now'` -/
theorem new_store_set_then_vacuumPass (now' : Int) : 3 ∈ (newStore.commit setTxn).vacuumPass now' ↔ 2250 < now' := by
  obtain ⟨c, hf, hk, _, _, _, hw, hcov⟩ := new_expire_column 1024 .none (fun _ => 0)
  have h := commit_set_then_vacuumPass newStore setTxn c hf hk hw hcov
    (fun v _ c' hc' => by rw [new_no_computed _ _ _ _ c' hc']; simp) (fun v hv _ => setTxn_chunkOK v hv)
    3 [insertOp] setOp3 rfl 3 2000 250 rfl (by decide +kernel) (by decide) (by decide) (by decide) (by decide) now'
  rw [h, setTxn_fill]
  simp

/-! … then a second transaction: `Extend(100)` on row 3 -/
def extOp3 : Op := ⟨opMerge, 3, .fixed 3 (bytesOfInt64 100)⟩
def extTxn : Txn := ({} : Txn).putOp expireColumn extOp3

theorem extTxn_chunkOK : ∀ v ∈ extTxn.updates, ChunkOK v := by
  have : ∀ v ∈ extTxn.updates, ∀ s ∈ v.rsecs, ∀ o ∈ s.rops, chunkOf o.idx = s.chunk := by decide +kernel
  exact this

/-- the statements chain: all hypotheses of `commit_extend_then_vacuumPass` hold for the store left by the first commit
    (`C01store.commit_readback` / `commit_keeps_cover` / `commit_keeps_invariants` re-establish them), so after
    `Set(250)` at clock 2000 and `Extend(100)` the row is removed by a pass at clock `now'` iff `2350 < now'` -/
theorem new_store_set_extend_then_vacuumPass (now' : Int) :
    3 ∈ ((newStore.commit setTxn).commit extTxn).vacuumPass now' ↔ 2350 < now' := by
  obtain ⟨c, hf, hk, hm, _, _, hw, hcov⟩ := new_expire_column 1024 .none (fun _ => 0)
  have hcomp0 : ∀ v ∈ setTxn.updates, ∀ c', newStore.findCol v.column = some c' → expireColumn ∉ c'.computed :=
    fun v _ c' hc' => by rw [new_no_computed _ _ _ _ c' hc']; simp
  obtain ⟨c1, f1, k1, m1, w1, n1, d1, _⟩ := C01store.commit_readback newStore setTxn expireColumn .i64 c expire_ne_row hf hk hw
    hcov hcomp0 (fun v hv _ => setTxn_chunkOK v hv)
  obtain ⟨c1', stored, f1', _, r1, v1, _⟩ := commit_set_then_vacuum newStore setTxn c hf hk hw hcov hcomp0
    (fun v hv _ => setTxn_chunkOK v hv) 3 [insertOp] setOp3 rfl 3 2000 250 rfl (by decide +kernel) (by decide) (by decide)
    (by decide) (by decide) now'
  rw [f1] at f1'
  cases f1'
  have hcov1 := C01store.commit_keeps_cover newStore setTxn c c1 hcov n1 d1
  have hcomp1 : ∀ v ∈ extTxn.updates, ∀ c', (newStore.commit setTxn).findCol v.column = some c' →
      expireColumn ∉ c'.computed := by
    intro v _ c' hc'
    obtain ⟨c0, h0, e, _⟩ := (C01store.commit_keeps_invariants newStore setTxn).2.2 _ c' hc'
    rw [e, new_no_computed _ _ _ _ c0 h0]; simp
  have h := commit_extend_then_vacuumPass (newStore.commit setTxn) extTxn c1 f1 k1 (m1.trans hm) w1 hcov1 hcomp1
    (fun v hv _ => extTxn_chunkOK v hv) 3 extOp3 rfl 3 100 rfl (by decide +kernel) stored r1 2250 (by rw [v1]; decide)
    (by decide) (by decide) (by decide) now'
  have hfill : Bits.get ((newStore.commit setTxn).commit extTxn).fill 3 = true := by
    rw [C01store.commit_fill _ extTxn (fun m hm _ => extTxn_chunkOK m hm) 3]
    have hm0 : markerAll extTxn.updates = [] := by decide +kernel
    rw [hm0, List.filter_nil, List.foldl_nil]
    exact setTxn_fill
  rw [h, hfill]
  simp

#print axioms int64OfBytes_natToBE
#print axioms bytesOfInt64_int64OfBytes
#print axioms addMerge64_sem
#print axioms addMerge64_no_overflow
#print axioms extend_slot
#print axioms extend_read
#print axioms set_read
#print axioms set_then_vacuum
#print axioms extend_then_vacuum
#print axioms commit_set_then_vacuum
#print axioms commit_set_then_vacuumPass
#print axioms commit_extend_then_vacuum
#print axioms commit_extend_then_vacuumPass
#print axioms new_expire_column
#print axioms new_store_set_then_vacuumPass
#print axioms new_store_set_extend_then_vacuumPass

end ColumnVerif.Props.C17store
