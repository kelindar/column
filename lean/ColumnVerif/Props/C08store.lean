import ColumnVerif.Lemmas.RestoreTail
import ColumnVerif.Props.C06store
import ColumnVerif.Props.C07more
/-!
# C08 / C07 at store level — `Restore` = state section + the logged commits newer than each chunk's stored id

The sequential core of "a snapshot restores to a consistent cut". The state section of the snapshot was taken of a primary
`p0`; transactions `ts` are then committed on the primary while the recorder is open (logger kind `.log`); the snapshot file
is the state of `p0` followed by the logged entries. Restoring it into a fresh store with the same schema gives the primary
AFTER `ts`. (`Props/C08.lean` is the other half: what the recorded log contains under concurrency.)

Vocabulary (`Lemmas/RestoreTail.lean`): `Snap.lastOf snap ch` — the commit id the state section stores with chunk `ch`
(`0` when it holds no such chunk); `Snap.newer snap e` — the id test `e.id > lastOf snap e.chunk`; `IdsOK s` — no chunk
stores a commit id above `s.nextId`.

1. `restore_eq_readState_replay` — `Store.restore` is `readState` followed by `replayAll` over the FILTERED tail.
2. `IdsOK` (`idsOK_new`, `idsOK_createColumn`, `idsOK_commit`, `idsOK_commits`), `tail_all_newer`, `tail_filter_all`.
3. `restore_tail_converges` (main), `restore_tail_converges_newCommits`, `restore_tail_converges_stream`.
4. `restore_skips_older`, `older_entries_skipped`, `restore_overlap_converges` (the state already contains some of the
   logged commits: the id filter makes the replay idempotent).
5. `SourceOK` is kept by commits (`sourceOK_commit`, `sourceOK_commits`), `restore_overlap_converges_from`.
6. non-vacuity: `ex_restore_converges`, `ex_older_skipped`, `ex_overlap_converges`.
-/
namespace ColumnVerif.Props.C08store
open ColumnVerif.Codec ColumnVerif.Store ColumnVerif.Bits
open ColumnVerif.Props.C06store ColumnVerif.Props.C07

/-! ## 1 — `restore` unfolded -/

/-- **`restore_eq_readState_replay`.** `Restore` reads the state section, then replays — in order, as the logger kind `k`
    delivers them — exactly the logged commits whose id is above the id stored with their chunk. -/
theorem restore_eq_readState_replay (s : Store) (snap : Snap) (k : LoggerKind) :
    s.restore snap k =
      replayAll k (s.readState snap) (snap.tail.filter (fun e => decide (e.id > snap.lastOf e.chunk))) :=
  restore_eq_replayAll s snap k

/-- what the id test compares with, for a snapshot of `s`: the collection's last commit id of the chunk -/
theorem lastOf_snapshot_eq (s : Store) (ch : Nat) : (s.snapshot).1.lastOf ch = s.commits.getD ch 0 :=
  lastOf_snapshot s ch

/-! ## 2 — commit ids are consistent; nothing of the tail is filtered out -/

theorem idsOK_new (cap : Nat) (lg : LoggerKind) (hash : Bytes → Nat) : IdsOK (Store.new cap lg hash) :=
  new_idsOK cap lg hash

theorem idsOK_createColumn (s : Store) (name : String) (kind : Kind) (merge : Bytes → Bytes → Bytes) (h : IdsOK s) :
    IdsOK (s.createColumn name kind merge).1 := createColumn_idsOK s name kind merge h

/-- **`IdsOK` is kept by `Store.commit`** (hence by `Store.replay`, `readState`) -/
theorem idsOK_commit (s : Store) (t : Txn) (h : IdsOK s) : IdsOK (s.commit t) := commit_idsOK s t h

theorem idsOK_commits (s : Store) (ts : List Txn) (h : IdsOK s) : IdsOK (ts.foldl Store.commit s) :=
  commits_idsOK ts s h

/-- **`tail_all_newer`.** The state was taken of `p0` (ids consistent); every entry the commits `ts` hand to the logger
    afterwards has an id above `p0.nextId`, which is at least the id the state stores with the entry's chunk. -/
theorem tail_all_newer (p0 : Store) (ts : List Txn) (h : IdsOK p0) :
    ∀ e ∈ emittedByAll p0 ts, p0.nextId < e.id ∧ (p0.snapshot).1.lastOf e.chunk ≤ p0.nextId ∧
      (p0.snapshot).1.newer e = true := by
  intro e he
  have h1 := (emittedByAll_ids ts p0 e he).1
  have h2 : (p0.snapshot).1.lastOf e.chunk ≤ p0.nextId := by rw [lastOf_snapshot]; exact h e.chunk
  refine ⟨h1, h2, ?_⟩
  unfold Snap.newer
  simp only [decide_eq_true_eq]
  omega

/-- the same for the entries in C15's form (`newCommits`: what the history added to the change stream, most recent first) -/
theorem tail_all_newer_newCommits (p0 : Store) (ts : List Txn) (h : IdsOK p0) (hl : p0.logger ≠ .none) :
    ∀ e ∈ C15.newCommits p0 (ts.foldl Store.commit p0), p0.nextId < e.id ∧ (p0.snapshot).1.newer e = true := by
  intro e he
  rw [← List.mem_reverse, newCommits_commits p0 ts hl] at he
  exact ⟨(tail_all_newer p0 ts h e he).1, (tail_all_newer p0 ts h e he).2.2⟩

/-- … so the filter of `Restore` keeps the whole tail -/
theorem tail_filter_all (p0 : Store) (ts : List Txn) (h : IdsOK p0) :
    (emittedByAll p0 ts).filter (p0.snapshot).1.newer = emittedByAll p0 ts :=
  filter_newer_all _ _ (emittedByAll_newer p0 ts h)

/-! ## 3 — the main theorem -/

/-- what the theorems ask of the primary `p0` at the moment the state section is written, for the numeric column `x`
    (registered as `c`): distinct column names, no column called `row`, `x` well-formed and covering the committed chunks
    (all kept by the API), present slots hold a value (`CanonAt`: every typed `Put` / merge result does), no present slot
    and no live row beyond the committed chunks (a row becomes present only through a commit of its chunk). Nothing is
    asked of the bytes ABSENT slots hold (`Delete` leaves them in place). -/
structure SourceOK (p0 : Store) (x : String) (k : NumKind) (c : Col) : Prop where
  names : NamesDistinct p0
  norow : p0.findCol rowColumn = none
  find : p0.findCol x = some c
  kind : c.kind = .num k
  wf : ColWF c
  cov : p0.commits.size ≤ c.nchunks
  canon : ∀ ch, CanonAt c ch
  live : ∀ i, Bits.get c.bits i = true → i / 16384 < p0.nChunks
  committed : ∀ j, Bits.get p0.fill j = true → j / 16384 < p0.nChunks

/-- what they ask of the fresh target `s0` (same schema): the column `x` registered with the same numeric kind (its merge
    function is free), well-formed and covering the committed chunks, computed columns of computed kinds, no slot present,
    no row -/
structure TargetOK (s0 : Store) (x : String) (k : NumKind) (c0 : Col) : Prop where
  find : s0.findCol x = some c0
  kind : c0.kind = .num k
  wf : ColWF c0
  cov : s0.commits.size ≤ c0.nchunks
  computed : ComputedKinds s0
  fresh : ∀ i, Bits.get c0.bits i = false
  fill : ∀ j, Bits.get s0.fill j = false

theorem SourceOK.ne_row {p0 : Store} {x : String} {k : NumKind} {c : Col} (h : SourceOK p0 x k c) : x ≠ rowColumn := by
  intro e
  have := h.find
  rw [e, h.norow] at this
  cases this

/-- **a fresh collection with the same column is such a target**: `NewCollection` (any capacity, logger, hash) followed by
    `CreateColumn x` with the numeric kind `k` and ANY merge function -/
theorem targetOK_fresh (cap : Nat) (lg : LoggerKind) (hash : Bytes → Nat) (x : String) (k : NumKind)
    (m : Bytes → Bytes → Bytes) (hx : "expire" ≠ x) :
    ∃ c0, TargetOK ((Store.new cap lg hash).createColumn x (.num k) m).1 x k c0 ∧ ∀ i, c0.data.getD i [] = [] := by
  obtain ⟨c0, f, hk, _, _, _, w, cv, sl⟩ := createColumn_fresh (Store.new cap lg hash) x (.num k) m rfl
    (new_findCol_none cap lg hash x hx)
  refine ⟨c0, ⟨f, hk, w, cv, ?_, fun i => congrArg Prod.fst (sl i), fun j => ?_⟩, fun i => ?_⟩
  · exact computedKinds_of_noComputed _
      (noComputed_createColumn _ x (.num k) m (sameStart_new cap cap lg lg hash hash).ncp)
  · rw [(createColumn_frame _ x (.num k) m).2.1]
    simp [Store.new, Bits.get]
  · rw [getD_eq]
    exact congrArg Prod.snd (sl i)

/-- the state section alone: the restored state reads like `p0`, the fill lists agree -/
theorem readState_sync (p0 s0 : Store) (x : String) (k : NumKind) (c c0 : Col)
    (hp : SourceOK p0 x k c) (h0 : TargetOK s0 x k c0) :
    RdSync x p0 (s0.readState (p0.snapshot).1) ∧ FillSync p0 (s0.readState (p0.snapshot).1) ∧
    ComputedKinds (s0.readState (p0.snapshot).1) :=
  ⟨rdSync_readState p0 s0 x k c c0 hp.names hp.norow hp.find hp.kind hp.wf hp.cov h0.find h0.kind h0.wf h0.cov
      h0.computed (fun i hb => hp.canon _ i rfl hb) hp.live h0.fresh,
    fillSync_readState p0 s0 hp.names hp.norow hp.committed h0.fill,
    readState_computedKinds s0 _ h0.computed⟩

/-- … slot by slot (raw bytes of absent slots included) when the absent slots of `p0` hold no stale bytes and the target's
    column holds no bytes at all -/
theorem readState_sync_slots (p0 s0 : Store) (x : String) (k : NumKind) (c c0 : Col)
    (hp : SourceOK p0 x k c) (h0 : TargetOK s0 x k c0)
    (hclean : ∀ i, Bits.get c.bits i = false → c.data.getD i [] = []) (hfreshd : ∀ i, c0.data.getD i [] = []) :
    NumSync x p0 (s0.readState (p0.snapshot).1) :=
  numSync_readState p0 s0 x k c c0 hp.names hp.norow hp.find hp.kind hp.wf hp.cov h0.find h0.kind h0.wf h0.cov
    h0.computed (fun i hb => hp.canon _ i rfl hb) hp.live hclean h0.fresh hfreshd

/-- the restore of `state of p0 ++ entries emitted by ts` is the state read, then ALL those entries replayed -/
theorem restore_tail_eq (p0 s0 : Store) (ts : List Txn) (k : LoggerKind) (hids : IdsOK p0) :
    s0.restore { (p0.snapshot).1 with tail := emittedByAll p0 ts } k =
      replayAll k (s0.readState (p0.snapshot).1) (emittedByAll p0 ts) := by
  rw [restore_eq_replayAll]
  show replayAll k (s0.readState (p0.snapshot).1) ((emittedByAll p0 ts).filter (p0.snapshot).1.newer) = _
  rw [tail_filter_all p0 ts hids]

/-- **`restore_tail_converges`.** The state section is taken of the primary `p0` (ids consistent, computed columns of
    computed kinds, `SourceOK`); the well-formed transactions `ts` are then committed on the primary, giving `p'`;
    the snapshot is the state of `p0` followed by the entries those commits handed to the logger (`emittedByAll p0 ts`).
    Restored into a fresh target `s0` with the same column (`TargetOK`), the result `r` is the primary AFTER `ts`: the
    numeric column `x` reads in sync (`RdSync`: registered and well-formed on both sides, same presence bit and — when
    present — same bytes in every slot), hence **reads the same at EVERY offset** (`none` = row absent), and the fill lists
    agree bit by bit. The merge function of the target is never consulted (the log holds the `Put` of every merge result).
    `emittedByAll p0 ts` is what the commits hand to a logger, in emission order; with the `.log` logger attached it is the
    recorded change stream (`restore_tail_converges_newCommits`, `restore_tail_converges_stream`). -/
theorem restore_tail_converges (p0 s0 : Store) (ts : List Txn) (x : String) (k : NumKind) (c c0 : Col)
    (hids : IdsOK p0) (hckp : ComputedKinds p0)
    (hp : SourceOK p0 x k c) (h0 : TargetOK s0 x k c0) (hts : ∀ t ∈ ts, TxnWF t) :
    let p' := ts.foldl Store.commit p0
    let snap : Snap := { (p0.snapshot).1 with tail := emittedByAll p0 ts }
    let r := s0.restore snap .log
    RdSync x p' r ∧
    (∃ cp cq, p'.findCol x = some cp ∧ r.findCol x = some cq ∧ ∀ i, cq.read i = cp.read i) ∧
    FillSync p' r := by
  dsimp only
  obtain ⟨hs, hfill, hckr⟩ := readState_sync p0 s0 x k c c0 hp h0
  have hdl := emittedByAll_delivers_log ts p0 (fun t ht => (hts t ht).distinct)
  rw [restore_tail_eq p0 s0 ts .log hids]
  have h1 := commits_replay_rd x hp.ne_row .log ts p0 _ hckp hckr (fun t ht => (hts t ht).ok x) hdl hs
  exact ⟨h1, h1.read, commits_replay_fill .log ts p0 _ hdl hfill⟩

/-- the same with slots in sync (`NumSync`: raw bytes of absent slots included), for a primary without stale bytes -/
theorem restore_tail_converges_slots (p0 s0 : Store) (ts : List Txn) (x : String) (k : NumKind) (c c0 : Col)
    (hids : IdsOK p0) (hckp : ComputedKinds p0)
    (hp : SourceOK p0 x k c) (h0 : TargetOK s0 x k c0) (hts : ∀ t ∈ ts, TxnWF t)
    (hclean : ∀ i, Bits.get c.bits i = false → c.data.getD i [] = []) (hfreshd : ∀ i, c0.data.getD i [] = []) :
    NumSync x (ts.foldl Store.commit p0) (s0.restore { (p0.snapshot).1 with tail := emittedByAll p0 ts } .log) := by
  rw [restore_tail_eq p0 s0 ts .log hids]
  exact commits_replay_num x hp.ne_row .log ts p0 _ hckp (readState_computedKinds s0 _ h0.computed)
    (fun t ht => (hts t ht).ok x) (emittedByAll_delivers_log ts p0 (fun t ht => (hts t ht).distinct))
    (readState_sync_slots p0 s0 x k c c0 hp h0 hclean hfreshd)

/-- the tail in C15's form: the entries the history added to the change stream (`newCommits`, most recent first), reversed -/
theorem restore_tail_converges_newCommits (p0 s0 : Store) (ts : List Txn) (x : String) (k : NumKind) (c c0 : Col)
    (hids : IdsOK p0) (hl : p0.logger = .log) (hckp : ComputedKinds p0)
    (hp : SourceOK p0 x k c) (h0 : TargetOK s0 x k c0) (hts : ∀ t ∈ ts, TxnWF t) :
    let p' := ts.foldl Store.commit p0
    let snap : Snap := { (p0.snapshot).1 with tail := (C15.newCommits p0 p').reverse }
    let r := s0.restore snap .log
    RdSync x p' r ∧
    (∃ cp cq, p'.findCol x = some cp ∧ r.findCol x = some cq ∧ ∀ i, cq.read i = cp.read i) ∧
    FillSync p' r := by
  dsimp only
  rw [newCommits_commits p0 ts (by rw [hl]; decide)]
  exact restore_tail_converges p0 s0 ts x k c c0 hids hckp hp h0 hts

/-- the recorder opened at `p0` (empty change stream): the tail is the primary's whole change stream, oldest first -/
theorem restore_tail_converges_stream (p0 s0 : Store) (ts : List Txn) (x : String) (k : NumKind) (c c0 : Col)
    (hids : IdsOK p0) (hl : p0.logger = .log) (hem : p0.emitted = []) (hckp : ComputedKinds p0)
    (hp : SourceOK p0 x k c) (h0 : TargetOK s0 x k c0) (hts : ∀ t ∈ ts, TxnWF t) :
    let p' := ts.foldl Store.commit p0
    let snap : Snap := { (p0.snapshot).1 with tail := p'.emitted.reverse }
    let r := s0.restore snap .log
    RdSync x p' r ∧
    (∃ cp cq, p'.findCol x = some cp ∧ r.findCol x = some cq ∧ ∀ i, cq.read i = cp.read i) ∧
    FillSync p' r := by
  dsimp only
  rw [commits_stream ts p0 (by rw [hl]; decide) hem]
  exact restore_tail_converges p0 s0 ts x k c c0 hids hckp hp h0 hts

/-! ## 4 — the complementary half: older entries are skipped -/

/-- **`restore_skips_older`.** Entries of the tail whose id is at most the id stored with their chunk are skipped: a tail
    `older ++ newer` with all of `older` failing the id test restores like the tail `newer` (whatever `newer` is). -/
theorem restore_skips_older (s : Store) (snap : Snap) (k : LoggerKind) (older newer : List Emitted)
    (htail : snap.tail = older ++ newer) (hold : ∀ e ∈ older, e.id ≤ snap.lastOf e.chunk) :
    s.restore snap k = s.restore { snap with tail := newer } k := by
  rw [restore_eq_replayAll, restore_eq_replayAll, htail, List.filter_append, filter_newer_none snap older hold]
  rfl

/-- **entries logged before the state was taken are older**: the recorder opened at `pa` (ids consistent), the commits `ts1`
    lead to `p0`, of which the state section is taken — every entry of `ts1` has an id at most the id stored with its chunk -/
theorem older_entries_skipped (pa : Store) (ts1 : List Txn) (h : IdsOK pa) :
    ∀ e ∈ emittedByAll pa ts1, e.id ≤ ((ts1.foldl Store.commit pa).snapshot).1.lastOf e.chunk := by
  intro e he
  rw [lastOf_snapshot]
  exact emittedByAll_le_commits ts1 pa h e he

/-- **3 and 4 together.** The tail holds, before the entries the commits `ts` emitted after the state was written, ANY
    entries `older` whose id is at most the id the collection stores with their chunk (commits the state already contains).
    `Restore` skips them and converges as in `restore_tail_converges`. -/
theorem restore_older_tail_converges (p0 s0 : Store) (ts : List Txn) (older : List Emitted) (x : String) (k : NumKind)
    (c c0 : Col) (hids : IdsOK p0) (hckp : ComputedKinds p0)
    (hp : SourceOK p0 x k c) (h0 : TargetOK s0 x k c0) (hts : ∀ t ∈ ts, TxnWF t)
    (hold : ∀ e ∈ older, e.id ≤ p0.commits.getD e.chunk 0) :
    let p' := ts.foldl Store.commit p0
    let snap : Snap := { (p0.snapshot).1 with tail := older ++ emittedByAll p0 ts }
    let r := s0.restore snap .log
    RdSync x p' r ∧
    (∃ cp cq, p'.findCol x = some cp ∧ r.findCol x = some cq ∧ ∀ i, cq.read i = cp.read i) ∧
    FillSync p' r := by
  dsimp only
  rw [restore_skips_older s0 _ .log older (emittedByAll p0 ts) rfl
    (fun e he => by rw [Snap.lastOf_tail, lastOf_snapshot]; exact hold e he)]
  exact restore_tail_converges p0 s0 ts x k c c0 hids hckp hp h0 hts

/-- **`restore_overlap_converges`** — 3 and 4 together: the recorder is opened at `pa`; the transactions `ts1` are committed
    (and logged) BEFORE the state section is written, of `p0 = ts1.foldl commit pa`; the transactions `ts2` after it. The
    snapshot holds the state of `p0` and the WHOLE log `emittedByAll pa (ts1 ++ ts2)` — the state already contains the
    commits of `ts1`. `Restore` skips them (id filter) and replays those of `ts2`: the result is the primary after
    `ts1 ++ ts2`. Without the filter the entries of `ts1` would be applied twice. -/
theorem restore_overlap_converges (pa s0 : Store) (ts1 ts2 : List Txn) (x : String) (k : NumKind) (c c0 : Col)
    (hids : IdsOK pa) (hckp : ComputedKinds (ts1.foldl Store.commit pa))
    (hp : SourceOK (ts1.foldl Store.commit pa) x k c) (h0 : TargetOK s0 x k c0) (hts : ∀ t ∈ ts2, TxnWF t) :
    let p0 := ts1.foldl Store.commit pa
    let p' := (ts1 ++ ts2).foldl Store.commit pa
    let snap : Snap := { (p0.snapshot).1 with tail := emittedByAll pa (ts1 ++ ts2) }
    let r := s0.restore snap .log
    RdSync x p' r ∧
    (∃ cp cq, p'.findCol x = some cp ∧ r.findCol x = some cq ∧ ∀ i, cq.read i = cp.read i) ∧
    FillSync p' r := by
  dsimp only
  rw [emittedByAll_append, List.foldl_append]
  exact restore_older_tail_converges _ s0 ts2 (emittedByAll pa ts1) x k c c0 (commits_idsOK ts1 pa hids) hckp hp h0 hts
    (emittedByAll_le_commits ts1 pa hids)

/-! ## 5 — `SourceOK` is an invariant: the conditions on the primary hold for every store reached by commits -/

/-- every `Put` the transaction issues for column `x` carries a value (typed writers store 2 / 4 / 8 bytes) -/
def PutsOK (x : String) (t : Txn) : Prop :=
  ∀ o ∈ markerAll t.updates ++ allFor t.updates x, o.typ = opPut → valRaw o.val ≠ []

instance (x : String) (t : Txn) : Decidable (PutsOK x t) := by unfold PutsOK; exact inferInstance

/-- **`sourceOK_commit`.** A commit of a well-formed transaction whose `Put`s carry a value keeps `SourceOK`, when the
    column's merge function never returns the empty byte string (numeric merges return `width` bytes) -/
theorem sourceOK_commit (p : Store) (t : Txn) (x : String) (k : NumKind) (c : Col) (hp : SourceOK p x k c)
    (hck : ComputedKinds p) (hwf : TxnWF t) (hput : PutsOK x t) (hmerge : ∀ v d, c.merge v d ≠ []) :
    ∃ c', SourceOK (p.commit t) x k c' ∧ c'.merge = c.merge := by
  obtain ⟨c', f, k', m', w', cv', cn', lv'⟩ := commit_num_source p t x k c hp.ne_row hp.find hp.kind hp.wf hp.cov hck
    hwf.chunkOK hput hmerge (fun i hb => hp.canon _ i rfl hb) hp.live
  have hpl := commit_plumb p t
  refine ⟨c', ⟨?_, ?_, f, k', w', cv', fun _ i _ hb => cn' i hb, lv',
    commit_fill_committed p t hwf.chunkOK hp.committed⟩, m'⟩
  · show ((p.commit t).names).Nodup
    rw [hpl.names]
    exact hp.names
  · have h := hpl.findCol rowColumn
    rw [hp.norow] at h
    cases hf : (p.commit t).findCol rowColumn with
    | none => rfl
    | some c2 => rw [hf] at h; cases h

theorem sourceOK_commits (ts : List Txn) :
    ∀ (p : Store) (x : String) (k : NumKind) (c : Col), SourceOK p x k c → ComputedKinds p →
      (∀ t ∈ ts, TxnWF t ∧ PutsOK x t) → (∀ v d, c.merge v d ≠ []) →
      ∃ c', SourceOK (ts.foldl Store.commit p) x k c' ∧ c'.merge = c.merge := by
  induction ts with
  | nil => intro p x k c hp _ _ _; exact ⟨c, hp, rfl⟩
  | cons t ts ih =>
    intro p x k c hp hck hts hmerge
    obtain ⟨c1, hp1, m1⟩ := sourceOK_commit p t x k c hp hck (hts t (by simp)).1 (hts t (by simp)).2 hmerge
    obtain ⟨c', hp', m'⟩ := ih (p.commit t) x k c1 hp1 (commit_computedKinds p t hck)
      (fun t' ht' => hts t' (by simp [ht'])) (fun v d => by rw [m1]; exact hmerge v d)
    exact ⟨c', hp', m'.trans m1⟩

theorem computedKinds_commits (ts : List Txn) : ∀ (p : Store), ComputedKinds p → ComputedKinds (ts.foldl Store.commit p) := by
  induction ts with
  | nil => intro p h; exact h
  | cons t ts ih => intro p h; exact ih _ (commit_computedKinds p t h)

/-- **`restore_overlap_converges_from`** — `restore_overlap_converges` with every hypothesis on the store `pa` the recorder
    was opened on: `pa` satisfies the source conditions, the transactions `ts1` (committed and logged before the state is
    written) and `ts2` (after) are well-formed, those of `ts1` carry a value in every `Put`. The snapshot = state after `ts1`
    + the whole log of `ts1 ++ ts2`; restored, it reads like the primary after `ts1 ++ ts2`. -/
theorem restore_overlap_converges_from (pa s0 : Store) (ts1 ts2 : List Txn) (x : String) (k : NumKind) (c c0 : Col)
    (hids : IdsOK pa) (hckp : ComputedKinds pa) (hp : SourceOK pa x k c) (hmerge : ∀ v d, c.merge v d ≠ [])
    (h0 : TargetOK s0 x k c0) (hts1 : ∀ t ∈ ts1, TxnWF t ∧ PutsOK x t) (hts2 : ∀ t ∈ ts2, TxnWF t) :
    let p0 := ts1.foldl Store.commit pa
    let p' := (ts1 ++ ts2).foldl Store.commit pa
    let snap : Snap := { (p0.snapshot).1 with tail := emittedByAll pa (ts1 ++ ts2) }
    let r := s0.restore snap .log
    RdSync x p' r ∧
    (∃ cp cq, p'.findCol x = some cp ∧ r.findCol x = some cq ∧ ∀ i, cq.read i = cp.read i) ∧
    FillSync p' r := by
  obtain ⟨c1, hp1, _⟩ := sourceOK_commits ts1 pa x k c hp hckp hts1 hmerge
  exact restore_overlap_converges pa s0 ts1 ts2 x k c1 c0 hids (computedKinds_commits ts1 pa hckp) hp1 h0 hts2

/-! ## 6 — non-vacuity -/

/-- the primary's column when the state is written: rows 5 (chunk 0) and 16389 (chunk 1) present; offset 9 is a deleted
    row — absent, its bytes still in place -/
def snBits : Bitmap := ((Array.replicate 32768 false).setIfInBounds 5 true).setIfInBounds 16389 true
def snData : Array Bytes :=
  (((Array.replicate 32768 []).setIfInBounds 5 (natToBE 8 10)).setIfInBounds 16389 (natToBE 8 7)).setIfInBounds 9 (natToBE 8 99)
def snCol : Col := { name := "n", kind := .num .i64, merge := addMerge64, nchunks := 2, bits := snBits, data := snData }

/-- the primary: two committed chunks (last commit ids 1 and 2), `.log` logger, recorder just opened -/
def snP0 : Store :=
  { cols := #[snCol], commits := #[1, 2], nextId := 2, logger := .log, count := 2, fill := snBits }

/-- the fresh target: `NewCollection` + `CreateColumn "n"` with another capacity, hash and merge function -/
def snS0 : Store := ((Store.new 512 .none (fun _ => 7)).createColumn "n" (.num .i64) (fun v _ => v)).1

def snT1 : Txn :=
  ([(rowColumn, ⟨opInsert, 9, .fixed 0 []⟩), ("n", ⟨opMerge, 9, v64 1⟩), ("n", ⟨opMerge, 5, v64 5⟩),
    ("n", ⟨opMerge, 16389, v64 1⟩), (rowColumn, ⟨opInsert, 16390, .fixed 0 []⟩), ("n", ⟨opPut, 16390, v64 3⟩)] :
      List (String × Op)).foldl (fun t p => t.putOp p.1 p.2) {}

def snT2 : Txn :=
  ([("n", ⟨opMerge, 16390, v64 4⟩), (rowColumn, ⟨opDelete, 5, .fixed 0 []⟩), ("n", ⟨opMerge, 16389, v64 2⟩)] :
      List (String × Op)).foldl (fun t p => t.putOp p.1 p.2) {}

theorem snT_wf : ∀ t ∈ [snT1, snT2], TxnWF t := by decide

theorem snP0_ids : IdsOK snP0 := by
  intro ch
  match ch with
  | 0 => decide
  | 1 => decide
  | n + 2 => simp [snP0]

theorem snP0_find : snP0.findCol "n" = some snCol := by simp [snP0, Store.findCol, snCol]

theorem snP0_computed : ComputedKinds snP0 := computedKinds_of_noComputed _ (.of_cols _ (by decide))

theorem snBits_true (i : Nat) (hb : Bits.get snBits i = true) : i = 5 ∨ i = 16389 := by
  simp only [snBits, Bits.get, Array.getElem?_setIfInBounds, Array.size_setIfInBounds, Array.size_replicate] at hb
  by_cases h1 : 16389 = i
  · exact Or.inr h1.symm
  · by_cases h5 : 5 = i
    · exact Or.inl h5.symm
    · simp [h1, h5, Array.getElem?_replicate] at hb
      split at hb <;> simp at hb

theorem snCol_bits : snCol.bits = snBits := by simp only [snCol]
theorem snCol_data : snCol.data = snData := by simp only [snCol]
theorem snP0_fill : snP0.fill = snBits := by simp only [snP0]

theorem snP0_source : SourceOK snP0 "n" .i64 snCol where
  names := by simp [NamesDistinct, snP0]
  norow := by simp [snP0, Store.findCol, snCol, rowColumn]
  find := snP0_find
  kind := rfl
  wf := ⟨by simp [snCol, snBits], by simp [snCol, snData]⟩
  cov := by decide
  canon := by
    intro ch i _ hb
    rw [snCol_bits] at hb
    rw [snCol_data]
    rcases snBits_true i hb with rfl | rfl <;> simp [snData, Array.getD_eq_getD_getElem?, natToBE]
  live := by
    intro i hb
    rw [snCol_bits] at hb
    rcases snBits_true i hb with rfl | rfl <;> decide
  committed := by
    intro i hb
    rw [snP0_fill] at hb
    rcases snBits_true i hb with rfl | rfl <;> decide

example : snP0.logger = .log ∧ snP0.emitted = [] := ⟨rfl, rfl⟩
example : snT1.dirtyChunks = [0, 1] ∧ snT2.dirtyChunks = [0, 1] := by decide +kernel
example : (∃ o ∈ allFor snT1.updates "n", o.typ = opMerge) ∧ (∃ o ∈ allFor snT2.updates "n", o.typ = opMerge) := by
  decide +kernel

/-- offset 9 of the primary is a deleted row whose bytes are still there: `NumSync` with a fresh target fails at this slot,
    `RdSync` does not look at it — and `snT1` merges into it -/
theorem snCol_stale : Bits.get snCol.bits 9 = false ∧ snCol.data.getD 9 [] ≠ [] := by
  rw [snCol_bits, snCol_data]
  constructor
  · simp [snBits, Bits.get]
  · simp [snData, Array.getD_eq_getD_getElem?, natToBE]

/-- the model evaluated: the two transactions emit four entries under the ids 3 … 6 (above `snP0.nextId = 2`, which is at
    least the ids 1, 2 the state stores): none is filtered out -/
example : ([snT1, snT2].foldl Store.commit snP0).emitted.map (fun e => (e.id, e.chunk)) = [(6, 1), (5, 0), (4, 1), (3, 0)] := by
  decide +kernel

/-- **the main theorem applied**: the state of `snP0` and the change stream of `snT1`, `snT2` restored into the fresh `snS0`
    give a collection whose column `n` reads like the primary's at every offset, with the same fill list — although the
    target's merge function differs and the primary merged into stale bytes -/
theorem ex_restore_converges :
    let p' := [snT1, snT2].foldl Store.commit snP0
    let r := snS0.restore { (snP0.snapshot).1 with tail := p'.emitted.reverse } .log
    (∃ cp cq, p'.findCol "n" = some cp ∧ r.findCol "n" = some cq ∧ ∀ i, cq.read i = cp.read i) ∧
    (∀ j, Bits.get r.fill j = Bits.get p'.fill j) := by
  obtain ⟨c0, h0, _⟩ := targetOK_fresh 512 .none (fun _ => 7) "n" .i64 (fun v _ => v) (by decide)
  obtain ⟨_, h2, h3⟩ := restore_tail_converges_stream snP0 snS0 [snT1, snT2] "n" .i64 snCol c0 snP0_ids rfl rfl
    snP0_computed snP0_source h0 snT_wf
  exact ⟨h2, h3⟩

/-- the hypotheses of 2 and 4 on the example -/
example : ∀ e ∈ emittedByAll snP0 [snT1, snT2], snP0.nextId < e.id ∧ (snP0.snapshot).1.newer e = true :=
  fun e he => ⟨(tail_all_newer snP0 _ snP0_ids e he).1, (tail_all_newer snP0 _ snP0_ids e he).2.2⟩

/-- an entry logged before the state was written (id 1, chunk 0 — the state stores id 1 with chunk 0) -/
def snOld : Emitted := ⟨1, 0, [(Buf.empty "n").put ⟨opPut, 5, v64 1000⟩]⟩

example : ∀ e ∈ [snOld], e.id ≤ (snP0.snapshot).1.lastOf e.chunk := by
  intro e he
  rw [List.mem_singleton] at he
  subst he
  rw [lastOf_snapshot]
  decide

/-- 3 and 4 together on the example: the old entry in front of the change stream is skipped (replayed, it would put 1000
    into row 5), the restore converges -/
theorem ex_older_skipped :
    let p' := [snT1, snT2].foldl Store.commit snP0
    let r := snS0.restore { (snP0.snapshot).1 with tail := [snOld] ++ emittedByAll snP0 [snT1, snT2] } .log
    (∃ cp cq, p'.findCol "n" = some cp ∧ r.findCol "n" = some cq ∧ ∀ i, cq.read i = cp.read i) ∧
    (∀ j, Bits.get r.fill j = Bits.get p'.fill j) := by
  obtain ⟨c0, h0, _⟩ := targetOK_fresh 512 .none (fun _ => 7) "n" .i64 (fun v _ => v) (by decide)
  obtain ⟨_, h2, h3⟩ := restore_older_tail_converges snP0 snS0 [snT1, snT2] [snOld] "n" .i64 snCol c0 snP0_ids
    snP0_computed snP0_source h0 snT_wf (by
      intro e he
      rw [List.mem_singleton] at he
      subst he
      decide)
  exact ⟨h2, h3⟩

/-! ### the state already contains logged commits

The recorder is opened on `snP0`; `snT1` is committed and logged BEFORE the state section is written, `snT2` after it. The
snapshot holds the state after `snT1` and the whole log (four entries). -/

theorem addMerge64_ne_nil : ∀ v d, addMerge64 v d ≠ [] := by
  intro v d h
  have := congrArg List.length h
  unfold addMerge64 at this
  rw [Store.natToBE_length] at this
  cases this

example : PutsOK "n" snT1 := by decide +kernel

/-- the ids: the state after `snT1` stores 3 and 4 with chunks 0 and 1; the log holds the entries 3, 4 (of `snT1`: skipped)
    and 5, 6 (of `snT2`: replayed) -/
example : (([snT1].foldl Store.commit snP0).snapshot).1.lastOf 0 = 3 ∧
    (([snT1].foldl Store.commit snP0).snapshot).1.lastOf 1 = 4 ∧
    (emittedByAll snP0 [snT1, snT2]).map (fun e => (e.id, e.chunk)) = [(3, 0), (4, 1), (5, 0), (6, 1)] := by
  rw [lastOf_snapshot, lastOf_snapshot]
  decide +kernel

example : (emittedByAll snP0 [snT1, snT2]).filter (([snT1].foldl Store.commit snP0).snapshot).1.newer =
    emittedByAll ([snT1].foldl Store.commit snP0) [snT2] := by
  have h := emittedByAll_append [snT1] [snT2] snP0
  simp only [List.singleton_append] at h
  rw [h, List.filter_append, filter_newer_none _ _ (older_entries_skipped snP0 [snT1] snP0_ids),
    tail_filter_all _ _ (idsOK_commits snP0 [snT1] snP0_ids)]
  rfl

/-- **3, 4 and 5 together on the example** -/
theorem ex_overlap_converges :
    let p0 := [snT1].foldl Store.commit snP0
    let p' := [snT1, snT2].foldl Store.commit snP0
    let r := snS0.restore { (p0.snapshot).1 with tail := emittedByAll snP0 [snT1, snT2] } .log
    (∃ cp cq, p'.findCol "n" = some cp ∧ r.findCol "n" = some cq ∧ ∀ i, cq.read i = cp.read i) ∧
    (∀ j, Bits.get r.fill j = Bits.get p'.fill j) := by
  obtain ⟨c0, h0, _⟩ := targetOK_fresh 512 .none (fun _ => 7) "n" .i64 (fun v _ => v) (by decide)
  have hts1 : ∀ t ∈ [snT1], TxnWF t ∧ PutsOK "n" t := by decide
  obtain ⟨_, h2, h3⟩ := restore_overlap_converges_from snP0 snS0 [snT1] [snT2] "n" .i64 snCol c0 snP0_ids snP0_computed
    snP0_source addMerge64_ne_nil h0 hts1 (fun t ht => snT_wf t (by simp at ht; simp [ht]))
  exact ⟨h2, h3⟩

/-! ### slots in sync: a primary without stale bytes -/

/-- the column of the example without the deleted row's bytes -/
def snDataC : Array Bytes := ((Array.replicate 32768 []).setIfInBounds 5 (natToBE 8 10)).setIfInBounds 16389 (natToBE 8 7)
def snColC : Col := { name := "n", kind := .num .i64, merge := addMerge64, nchunks := 2, bits := snBits, data := snDataC }
def snP0C : Store := { cols := #[snColC], commits := #[1, 2], nextId := 2, logger := .log, count := 2, fill := snBits }

theorem snColC_bits : snColC.bits = snBits := by simp only [snColC]
theorem snColC_data : snColC.data = snDataC := by simp only [snColC]
theorem snP0C_fill : snP0C.fill = snBits := by simp only [snP0C]

theorem snBits_false (i : Nat) (hb : Bits.get snBits i = false) : i ≠ 5 ∧ i ≠ 16389 := by
  constructor <;> intro e <;> subst e <;> simp [snBits, Bits.get] at hb

theorem snP0C_source : SourceOK snP0C "n" .i64 snColC where
  names := by simp [NamesDistinct, snP0C]
  norow := by simp [snP0C, Store.findCol, snColC, rowColumn]
  find := by simp [snP0C, Store.findCol, snColC]
  kind := rfl
  wf := ⟨by simp [snColC, snBits], by simp [snColC, snDataC]⟩
  cov := by decide
  canon := by
    intro ch i _ hb
    rw [snColC_bits] at hb
    rw [snColC_data]
    rcases snBits_true i hb with rfl | rfl <;> simp [snDataC, Array.getD_eq_getD_getElem?, natToBE]
  live := by
    intro i hb
    rw [snColC_bits] at hb
    rcases snBits_true i hb with rfl | rfl <;> decide
  committed := by
    intro i hb
    rw [snP0C_fill] at hb
    rcases snBits_true i hb with rfl | rfl <;> decide

/-- the added hypothesis of `restore_tail_converges_slots` is satisfiable -/
theorem snColC_clean : ∀ i, Bits.get snColC.bits i = false → snColC.data.getD i [] = [] := by
  intro i hb
  rw [snColC_bits] at hb
  rw [snColC_data]
  obtain ⟨h5, h16389⟩ := snBits_false i hb
  have h5' : ¬ 5 = i := fun e => h5 e.symm
  have h16389' : ¬ 16389 = i := fun e => h16389 e.symm
  simp only [snDataC, Array.getD_eq_getD_getElem?, Array.getElem?_setIfInBounds, h5', h16389', if_false,
    Array.getElem?_replicate]
  split <;> rfl

example : NumSync "n" ([snT1, snT2].foldl Store.commit snP0C)
    (snS0.restore { (snP0C.snapshot).1 with tail := emittedByAll snP0C [snT1, snT2] } .log) := by
  obtain ⟨c0, h0, hd0⟩ := targetOK_fresh 512 .none (fun _ => 7) "n" .i64 (fun v _ => v) (by decide)
  have hids : IdsOK snP0C := by
    intro ch
    match ch with
    | 0 => decide
    | 1 => decide
    | n + 2 => simp [snP0C]
  have hck : ComputedKinds snP0C := computedKinds_of_noComputed _ (.of_cols _ (by decide))
  exact restore_tail_converges_slots snP0C snS0 [snT1, snT2] "n" .i64 snColC c0 hids hck snP0C_source h0 snT_wf
    snColC_clean hd0

end ColumnVerif.Props.C08store

#print axioms ColumnVerif.Props.C08store.restore_eq_readState_replay
#print axioms ColumnVerif.Props.C08store.idsOK_commit
#print axioms ColumnVerif.Props.C08store.tail_all_newer
#print axioms ColumnVerif.Props.C08store.tail_filter_all
#print axioms ColumnVerif.Props.C08store.targetOK_fresh
#print axioms ColumnVerif.Props.C08store.restore_tail_converges
#print axioms ColumnVerif.Props.C08store.restore_tail_converges_slots
#print axioms ColumnVerif.Props.C08store.restore_tail_converges_newCommits
#print axioms ColumnVerif.Props.C08store.restore_tail_converges_stream
#print axioms ColumnVerif.Props.C08store.restore_skips_older
#print axioms ColumnVerif.Props.C08store.older_entries_skipped
#print axioms ColumnVerif.Props.C08store.restore_older_tail_converges
#print axioms ColumnVerif.Props.C08store.restore_overlap_converges
#print axioms ColumnVerif.Props.C08store.sourceOK_commit
#print axioms ColumnVerif.Props.C08store.sourceOK_commits
#print axioms ColumnVerif.Props.C08store.restore_overlap_converges_from
#print axioms ColumnVerif.Props.C08store.ex_overlap_converges
#print axioms ColumnVerif.Props.C08store.ex_restore_converges
#print axioms ColumnVerif.Props.C08store.ex_older_skipped
