import ColumnVerif.Lemmas.StoreComputed
import ColumnVerif.Props.C19
import ColumnVerif.Props.C03store
/-!
# C19 at store level — the calls a trigger receives during the real `Store.commit`

`Props/C19.lean` describes the calls for one pass (`trigger_apply_sem`, `trigger_sees_final_values_mainPass`,
`trigger_final_count`). Here a trigger `tr` attached to a data column `x` is followed through `Store.commit`
(plumbing: `C03store.commit_computed`):

* `commit_trigger_seen` (any data kind of the target): the call log grows by `seenEvents` — chunk by chunk in ascending
  order, the `Put` / `Delete` ops among the chunk's markers followed by what the buffer passes of `x` leave.
* `commit_trigger_events` (numeric target): per chunk, the `Delete` markers first, then `finalEvents` of the ops issued for
  the chunk — one `Put` call with the value finally stored for every `Put` / `Merge`, one `Delete` call for every
  `Delete`, in issue order (`numEvents`).
* `commit_trigger_row`: row by row — the calls for row `i` are, in issue order, those of the markers and ops the
  transaction issued for `i`, each `Put` / `Merge` reported with the value the slot holds right after it.
* `commit_trigger_count`, `commit_trigger_row_count`: exactly once.
-/
namespace ColumnVerif.Props.C19store
open ColumnVerif.Codec ColumnVerif.Store ColumnVerif.Bits

/-- **any data kind of the target**: the calls made during `s.commit t`, in call order -/
theorem commit_trigger_seen (s : Store) (t : Txn) (x tr tg : String) (col trg : Col)
    (hxr : x ≠ rowColumn) (hf : s.findCol x = some col) (hd : col.kind.isData = true)
    (hft : s.findCol tr = some trg) (htk : trg.kind = .trigger tg) (hcount : col.computed.count tr = 1)
    (hcomp : ∀ v ∈ t.updates, ∀ c, s.findCol v.column = some c → x ∉ c.computed)
    (hatt : ∀ v ∈ t.updates, v.column ≠ x → v.column ≠ tr ∧ ∀ c, s.findCol v.column = some c → tr ∉ c.computed)
    (hok : ChunksOK s.hash t.updates x t.dirtyChunks (capCol s t col)) :
    ∃ trg', (s.commit t).findCol tr = some trg' ∧ trg'.kind = .trigger tg ∧
      trg'.trig.reverse = trg.trig.reverse ++ seenEvents s.hash t.updates x t.dirtyChunks (capCol s t col) := by
  have hci : trg.kind.isComputed = true := by rw [htk]; rfl
  have g1 := Store.commit_computed s t x tr col trg hxr hf hd hft hci hcount hcomp hatt hok
  rw [capCol_trigger s t trg tg htk] at g1
  exact ⟨_, g1, (compChunks_sig _ _ _ _ _ _).kind.trans htk, compChunks_trigger _ _ _ tg _ _ _ htk⟩

theorem seenEvents_eq (hash : Bytes → Nat) (ups : List Buf) (x : String) (ch : Nat) (cs : List Nat) (col : Col) :
    seenEvents hash ups x [] col = [] ∧
    seenEvents hash ups x (ch :: cs) col =
      ((markerOps ups ch ++ seenFor hash x ch ups (applyData hash col ch (markerOps ups ch)).col).filter
        (fun o => decide (o.typ = opPut ∨ o.typ = opDelete))).map (fun o => ⟨o.idx, o.typ, valRaw o.val⟩) ++
      seenEvents hash ups x cs (applyData hash col ch (markerOps ups ch ++ opsFor ups x ch)).col := ⟨rfl, rfl⟩

/-- **C19 at store level** (numeric target): during `s.commit t` the trigger is called, chunk by chunk in ascending order,
    first for the `Delete` markers of the chunk, then for the ops issued for `x` in the chunk in issue order — a `Put`
    call carrying the value finally stored (after the merge) for every `Put` / `Merge`, a `Delete` call for every
    `Delete`, nothing else. The hypotheses hold again for the store after the commit. -/
theorem commit_trigger_events (s : Store) (t : Txn) (x tr : String) (k : NumKind) (tg : String) (col trg : Col)
    (hxr : x ≠ rowColumn) (hc : NumCol s x k col) (hft : s.findCol tr = some trg) (htk : trg.kind = .trigger tg)
    (hatt : Attached s x tr) (hinv : ∀ v ∈ t.updates, (v.column = x ∨ isMarkerBuf v = true) → ChunkOK v)
    (hnb : ∀ v ∈ t.updates, v.column ≠ tr) :
    ∃ col' trg', NumCol (s.commit t) x k col' ∧ (s.commit t).findCol tr = some trg' ∧ trg'.kind = .trigger tg ∧
      Attached (s.commit t) x tr ∧
      trg'.trig.reverse = trg.trig.reverse ++ numEvents s.hash t.updates x k t.dirtyChunks (capCol s t col) := by
  obtain ⟨a1, a2, a3, n1, n2, n3, _⟩ := commit_num_computed s t x tr k col trg hxr hc hft (by rw [htk]; rfl) hatt hinv hnb
  rw [capCol_trigger s t trg tg htk] at a2
  refine ⟨_, _, a1, a2, (compChunks_sig _ _ _ _ _ _).kind.trans htk, a3, ?_⟩
  rw [compChunks_trigger _ _ _ tg _ _ _ htk, seenEvents_num s.hash t.updates x k t.dirtyChunks _ n1 n2 n3
    (chunkOps_chunk t x hinv)]

theorem numEvents_eq (hash : Bytes → Nat) (ups : List Buf) (x : String) (k : NumKind) (ch : Nat) (cs : List Nat)
    (col : Col) :
    numEvents hash ups x k [] col = [] ∧
    numEvents hash ups x k (ch :: cs) col =
      (((markerOps ups ch).filter (fun o => decide (o.typ = opPut ∨ o.typ = opDelete))).map
          (fun o => (⟨o.idx, o.typ, valRaw o.val⟩ : TrigEvent)) ++
        ((opsFor ups x ch).mapIdx (fun j o =>
          let after := (((opsFor ups x ch).take (j + 1)).foldl (stepNum k)
            ((applyData hash col ch (markerOps ups ch)).col, [], [])).1
          if o.typ = opPut ∨ o.typ = opMerge then
            some (⟨o.idx, opPut, (after.data[o.idx]?).getD []⟩ : TrigEvent)
          else if o.typ = opDelete then some ⟨o.idx, opDelete, valRaw o.val⟩
          else none)).filterMap id) ++
      numEvents hash ups x k cs (applyData hash col ch (markerOps ups ch ++ opsFor ups x ch)).col := ⟨rfl, rfl⟩

theorem commits_trigger_events (x tr : String) (k : NumKind) (tg : String) (hxr : x ≠ rowColumn) (ts : List Txn) :
    ∀ (s : Store) (col trg : Col), NumCol s x k col → s.findCol tr = some trg → trg.kind = .trigger tg →
      Attached s x tr →
      (∀ t ∈ ts, (∀ v ∈ t.updates, (v.column = x ∨ isMarkerBuf v = true) → ChunkOK v) ∧ ∀ v ∈ t.updates, v.column ≠ tr) →
      ∃ col' trg' evs, NumCol (ts.foldl Store.commit s) x k col' ∧ (ts.foldl Store.commit s).findCol tr = some trg' ∧
        trg'.kind = .trigger tg ∧ trg'.trig.reverse = trg.trig.reverse ++ evs := by
  induction ts with
  | nil => intro s col trg hc hft htk _ _; exact ⟨col, trg, [], hc, hft, htk, by simp⟩
  | cons t ts ih =>
    intro s col trg hc hft htk hatt hts
    obtain ⟨col1, trg1, a1, a2, a3, a4, a5⟩ := commit_trigger_events s t x tr k tg col trg hxr hc hft htk hatt
      (hts t (by simp)).1 (hts t (by simp)).2
    obtain ⟨col2, trg2, evs, b1, b2, b3, b4⟩ := ih _ col1 trg1 a1 a2 a3 a4 (fun t' ht' => hts t' (by simp [ht']))
    simp only [List.foldl_cons]
    exact ⟨col2, trg2, _, b1, b2, b3, by rw [b4, a5, List.append_assoc]⟩

/-- **row by row**: the calls for row `i` made during `s.commit t` are, in issue order, those of the markers and the ops
    the transaction issued for `i` (`rowEvents`): every `Put` / `Merge` is reported as a `Put` of the value the slot holds
    right after it (`slotEffect` folded over the ops so far, starting from the slot before the commit), every `Delete`
    (marker or op) as a `Delete` -/
theorem commit_trigger_row (s : Store) (t : Txn) (x tr : String) (k : NumKind) (tg : String) (col trg : Col)
    (hxr : x ≠ rowColumn) (hc : NumCol s x k col) (hft : s.findCol tr = some trg) (htk : trg.kind = .trigger tg)
    (hatt : Attached s x tr) (hinv : ∀ v ∈ t.updates, (v.column = x ∨ isMarkerBuf v = true) → ChunkOK v)
    (hmk : ∀ o ∈ markerAll t.updates, isMarkerOp o) (hnb : ∀ v ∈ t.updates, v.column ≠ tr) (i : Nat) :
    ∃ trg', (s.commit t).findCol tr = some trg' ∧
      trg'.trig.reverse.filter (fun e => e.idx = i) =
        trg.trig.reverse.filter (fun e => e.idx = i) ++
          rowEvents col.merge k (slot col i)
            ((markerAll t.updates ++ allFor t.updates x).filter (fun o => o.idx = i)) := by
  obtain ⟨_, a2, _, n1, n2, n3, n4⟩ := commit_num_computed s t x tr k col trg hxr hc hft (by rw [htk]; rfl) hatt hinv hnb
  rw [capCol_trigger s t trg tg htk] at a2
  refine ⟨_, a2, ?_⟩
  rw [compChunks_trigger _ _ _ tg _ _ _ htk, List.filter_append, seenEvents_row s.hash t.updates x k t.dirtyChunks _ n1
    (sorted_nodup _ (dirtyChunks_sorted t)) n2 n3 (chunkOps_chunk t x hinv)
    (fun c _ o ho => isMarkerOp_ne_merge (hmk o (markerOps_sub_markerAll t.updates c o ho))) i, n4,
    (capCol_data s t col (by rw [hc.kind]; rfl)).2.2.2.1 i]
  congr 1
  by_cases hdc : chunkOf i ∈ t.dirtyChunks
  · rw [if_pos hdc, chunkOps_filter_idx t.updates x i hinv]
  · rw [if_neg hdc]
    have : (markerAll t.updates ++ allFor t.updates x).filter (fun o => o.idx = i) = [] := by
      rw [List.filter_eq_nil_iff]
      intro o ho e
      have e' : o.idx = i := by simpa using e
      exact hdc (e' ▸ issued_chunk_dirty t x hinv o ho)
    rw [this]
    rfl

/-- exactly once per row: as many calls for row `i` as `Put`, `Merge` and `Delete` ops (markers included) issued for it -/
theorem commit_trigger_row_count (s : Store) (t : Txn) (x tr : String) (k : NumKind) (tg : String) (col trg : Col)
    (hxr : x ≠ rowColumn) (hc : NumCol s x k col) (hft : s.findCol tr = some trg) (htk : trg.kind = .trigger tg)
    (hatt : Attached s x tr) (hinv : ∀ v ∈ t.updates, (v.column = x ∨ isMarkerBuf v = true) → ChunkOK v)
    (hmk : ∀ o ∈ markerAll t.updates, isMarkerOp o) (hnb : ∀ v ∈ t.updates, v.column ≠ tr) (i : Nat) :
    ∃ trg', (s.commit t).findCol tr = some trg' ∧
      (trg'.trig.filter (fun e => e.idx = i)).length =
        (trg.trig.filter (fun e => e.idx = i)).length +
          ((markerAll t.updates ++ allFor t.updates x).filter
            (fun o => o.idx = i ∧ (o.typ = opPut ∨ o.typ = opMerge ∨ o.typ = opDelete))).length := by
  obtain ⟨trg', g1, g2⟩ := commit_trigger_row s t x tr k tg col trg hxr hc hft htk hatt hinv hmk hnb i
  refine ⟨trg', g1, ?_⟩
  have h := congrArg List.length g2
  rw [List.length_append, rowEvents_length, List.filter_filter, List.filter_reverse, List.filter_reverse,
    List.length_reverse, List.length_reverse] at h
  rw [h]
  congr 2
  apply List.filter_congr
  intro o _
  simp [Bool.and_comm]

/-- exactly once: the number of calls made during the commit is, summed over the dirty chunks, the number of `Put`,
    `Merge` and `Delete` ops (markers included) applied in the pass of the chunk -/
theorem commit_trigger_count (s : Store) (t : Txn) (x tr : String) (k : NumKind) (tg : String) (col trg : Col)
    (hxr : x ≠ rowColumn) (hc : NumCol s x k col) (hft : s.findCol tr = some trg) (htk : trg.kind = .trigger tg)
    (hatt : Attached s x tr) (hmk : ∀ o ∈ markerAll t.updates, isMarkerOp o) (hnb : ∀ v ∈ t.updates, v.column ≠ tr) :
    ∃ trg', (s.commit t).findCol tr = some trg' ∧
      trg'.trig.length = trg.trig.length +
        (t.dirtyChunks.map (fun ch => ((chunkOps t.updates x ch).filter
          (fun o => o.typ = opPut ∨ o.typ = opMerge ∨ o.typ = opDelete)).length)).sum := by
  have hd : col.kind.isData = true := by rw [hc.kind]; rfl
  obtain ⟨hcomp, hatt'⟩ := hatt.hyps t.updates hnb
  obtain ⟨_, m2, _, _⟩ := capCol_meta s t col
  have hok := chunksOK_num s.hash t.updates x t.dirtyChunks (capCol s t col) k (m2.trans hc.kind)
  obtain ⟨trg', g1, _, g3⟩ := commit_trigger_seen s t x tr tg col trg hxr hc.find hd hft htk (hatt.once col hc.find)
    hcomp hatt' hok
  obtain ⟨_, _, _, _, _, c6⟩ := capCol_data s t col hd
  refine ⟨trg', g1, ?_⟩
  have h := congrArg List.length g3
  rw [List.length_append, List.length_reverse, List.length_reverse,
    seenEvents_length s.hash t.updates x k t.dirtyChunks _ (m2.trans hc.kind) (c6 hc.cov)
      (fun c _ o ho => isMarkerOp_ne_merge (hmk o (markerOps_sub_markerAll t.updates c o ho)))] at h
  exact h

/-! ## non-vacuity: the store and the transaction of `Props/C03store.lean` (index and trigger on the same column) -/

open C03store in
/-- the calls made in the pass of chunk 0 of `exStore.commit exTxn`, in call order: nothing for the `Insert` markers, row 3
    stored twice (the merge reported with the stored sum `[0, 7]`, not the delta `[0, 4]`), then row 4 (second section
    of chunk 0 in the buffer) -/
example : eventsOf (seenChunk exStore.hash exTxn.updates "n" 0 nCol) =
    [⟨3, opPut, [0, 3]⟩, ⟨3, opPut, [0, 7]⟩, ⟨4, opPut, [0, 2]⟩] := by
  unfold seenChunk
  rw [ex_seen0]
  decide

open C03store in
/-- rows 3, 4 and 20000 (second chunk) from the issued ops alone, and the total number of calls -/
theorem ex_trigger : ∃ trg', (exStore.commit exTxn).findCol "t" = some trg' ∧
    trg'.trig.reverse.filter (fun e => e.idx = 3) = [⟨3, opPut, [0, 3]⟩, ⟨3, opPut, [0, 7]⟩] ∧
    trg'.trig.reverse.filter (fun e => e.idx = 4) = [⟨4, opPut, [0, 2]⟩] ∧
    trg'.trig.reverse.filter (fun e => e.idx = 20000) = [⟨20000, opPut, [0, 9]⟩] ∧
    trg'.trig.length = 4 := by
  have row := fun i => commit_trigger_row exStore exTxn "n" "t" .u16 "n" nCol trgCol (by decide)
    ex_numCol exStore_find_t rfl ex_attached_t ex_numTxn.chunkOK ex_numTxn.markers (by decide) i
  obtain ⟨trg', h1, h2⟩ := row 3
  obtain ⟨t4, h3, h4⟩ := row 4
  obtain ⟨t5, h5, h6⟩ := row 20000
  obtain ⟨t6, h7, h8⟩ := commit_trigger_count exStore exTxn "n" "t" .u16 "n" nCol trgCol (by decide)
    ex_numCol exStore_find_t rfl ex_attached_t ex_numTxn.markers (by decide)
  rw [h1] at h3 h5 h7
  cases h3; cases h5; cases h7
  refine ⟨trg', h1, ?_, ?_, ?_, ?_⟩
  · rw [h2, nCol_slot]; decide
  · rw [h4, nCol_slot]; decide
  · rw [h6, nCol_slot]; decide
  · rw [h8, exTxn_dirty]; decide

open C03store in
/-- a later row deletion through a marker is reported once, as a `Delete` -/
example : ∃ col' trg' evs, NumCol ([exTxn, delTxn].foldl Store.commit exStore) "n" .u16 col' ∧
    ([exTxn, delTxn].foldl Store.commit exStore).findCol "t" = some trg' ∧ trg'.kind = .trigger "n" ∧
    trg'.trig.reverse = trgCol.trig.reverse ++ evs :=
  commits_trigger_events "n" "t" .u16 "n" (by decide +kernel) [exTxn, delTxn] exStore nCol trgCol ex_numCol exStore_find_t rfl
    ex_attached_t
    (by
      intro t ht
      simp only [List.mem_cons, List.not_mem_nil, or_false] at ht
      rcases ht with rfl | rfl
      · exact ⟨ex_numTxn.chunkOK, by decide +kernel⟩
      · exact ⟨ex_numTxn_del.chunkOK, by decide +kernel⟩)

section Axioms
#print axioms commit_trigger_seen
#print axioms commit_trigger_events
#print axioms commit_trigger_row
#print axioms commit_trigger_count
#print axioms ex_trigger
end Axioms

end ColumnVerif.Props.C19store
