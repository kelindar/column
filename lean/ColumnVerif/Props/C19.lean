import ColumnVerif.Lemmas.Index
import ColumnVerif.Model.Txn
/-!
# C19 — a trigger is called exactly once per committed store and once per committed row deletion

"…receiving the offset and the value finally stored, after any merge — …; stores of one transaction to the same
row are reported in issue order."

The trigger is a computed column: the computed pass hands it the section *after* the main pass has rewritten it
(`Merge` → `Put` of the stored result). Its call log `Col.trig` is kept most recent first, so `trig.reverse` is
call order.

* `trigger_apply_sem` (I2): one call per `Put` / `Delete` op handed over, in op order, none for other types.
* `trigger_sees_final_values` (I6): for a numeric column, the calls for a section are — in op order, exactly one
  per `Put`, `Merge` and `Delete` op and none for the others — `(idx, Put, value stored right after that op)` resp.
  `(idx, Delete, value of the delete op)`.
-/
namespace ColumnVerif.Props.C19
open ColumnVerif.Codec ColumnVerif.Bits ColumnVerif.Store

/-! ### I2 — the computed pass on a trigger -/

theorem trigger_apply_sem (c : Col) (target : String) (hk : c.kind = .trigger target) (ops : List Op) :
    (applyOther c ops).1.trig.reverse =
      c.trig.reverse ++
        (ops.filter (fun o => o.typ = opPut ∨ o.typ = opDelete)).map (fun o => ⟨o.idx, o.typ, valRaw o.val⟩)
    ∧ (applyOther c ops).2 = false := by
  rw [applyOther_trigger c target hk]
  refine ⟨?_, rfl⟩
  simp only
  rw [foldTrig_log]
  rfl

/-- exactly once: the number of new calls is the number of `Put` / `Delete` ops -/
theorem trigger_call_count (c : Col) (target : String) (hk : c.kind = .trigger target) (ops : List Op) :
    (applyOther c ops).1.trig.length =
      c.trig.length + (ops.filter (fun o => o.typ = opPut ∨ o.typ = opDelete)).length := by
  have h := congrArg List.length (trigger_apply_sem c target hk ops).1
  simpa using h

/-- ops of other types (`Merge`, `Skip`, `Insert`) cause no call -/
theorem trigger_ignores_others (c : Col) (target : String) (hk : c.kind = .trigger target) (ops : List Op)
    (h : ∀ o ∈ ops, o.typ ≠ opPut ∧ o.typ ≠ opDelete) : (applyOther c ops).1.trig = c.trig := by
  have h1 := (trigger_apply_sem c target hk ops).1
  have : ops.filter (fun o => o.typ = opPut ∨ o.typ = opDelete) = [] := by
    rw [List.filter_eq_nil_iff]
    intro o ho
    have := h o ho
    simp [this.1, this.2]
  rw [this] at h1
  simpa using h1

/-- issue order per row: the calls for row `i` are the `Put` / `Delete` ops addressed to `i`, in op order -/
theorem trigger_row_order (c : Col) (target : String) (hk : c.kind = .trigger target) (ops : List Op) (i : Nat) :
    (applyOther c ops).1.trig.reverse.filter (fun e => e.idx = i) =
      c.trig.reverse.filter (fun e => e.idx = i) ++
        (ops.filter (fun o => o.idx = i ∧ (o.typ = opPut ∨ o.typ = opDelete))).map
          (fun o => ⟨o.idx, o.typ, valRaw o.val⟩) := by
  rw [(trigger_apply_sem c target hk ops).1, List.filter_append, List.filter_map, List.filter_filter]
  congr 2
  apply List.filter_congr
  intro o _
  simp

theorem trigger_apply_same (c : Col) (target : String) (hk : c.kind = .trigger target) (ops : List Op) :
    (applyOther c ops).1.kind = c.kind ∧ (applyOther c ops).1.name = c.name := by
  rw [applyOther_trigger c target hk, foldTrig_eq]
  exact ⟨rfl, rfl⟩

/-! ### I6 — the values a trigger on a numeric column receives -/

/-- main pass of one section on a numeric column, then the computed pass of the rewritten section on a trigger:
    the new calls are, in op order, for op number `j`:
    `Put` or `Merge` ↦ `(idx, Put, v)` with `v` = the raw value the column holds at `idx` right after op `j`
    (for a `Merge`: the merged result, not the delta); `Delete` ↦ `(idx, Delete, value of the op)`;
    any other type ↦ no call. -/
theorem trigger_sees_final_values (hash : Bytes → Nat) (col trg : Col) (k : NumKind) (target : String)
    (chunk : Nat) (ops : List Op)
    (hk : col.kind = .num k) (htk : trg.kind = .trigger target) (hch : chunk < col.nchunks)
    (hin : InBounds col ops) :
    (applyOther trg (applyData hash col chunk ops).ops).1.trig.reverse =
      trg.trig.reverse ++
        (ops.mapIdx (fun j o =>
          let after := ((ops.take (j + 1)).foldl (stepNum k) (col, [], [])).1
          if o.typ = opPut ∨ o.typ = opMerge then
            some (⟨o.idx, opPut, (after.data[o.idx]?).getD []⟩ : TrigEvent)
          else if o.typ = opDelete then some ⟨o.idx, opDelete, valRaw o.val⟩
          else none)).filterMap id := by
  rw [applyData_num hash col k hk chunk hch, applyOther_trigger trg target htk]
  simp only
  rw [foldTrig_log, trig_rwList k ops col hin]
  rfl

/-- a whole buffer, in the order `commitUpdates` works — main pass over all sections of the chunk, then the
    computed pass over all rewritten sections: the calls are those of the concatenated sections, in issue order -/
theorem trigger_sees_final_values_sections (hash : Bytes → Nat) (col trg : Col) (k : NumKind) (target : String)
    (chunk : Nat) (secs : List (List Op))
    (hk : col.kind = .num k) (htk : trg.kind = .trigger target) (hch : chunk < col.nchunks)
    (hin : InBounds col secs.flatten) :
    (otherSecs trg (mainSecs hash chunk col secs).2.1).1.trig.reverse =
      trg.trig.reverse ++
        (secs.flatten.mapIdx (fun j o =>
          let after := ((secs.flatten.take (j + 1)).foldl (stepNum k) (col, [], [])).1
          if o.typ = opPut ∨ o.typ = opMerge then
            some (⟨o.idx, opPut, (after.data[o.idx]?).getD []⟩ : TrigEvent)
          else if o.typ = opDelete then some ⟨o.idx, opDelete, valRaw o.val⟩
          else none)).filterMap id := by
  rw [mainSecs_num hash chunk k secs col hk hch, otherSecs_trigger trg target htk]
  simp only
  rw [rwSecs_flatten, foldTrig_log, trig_rwList k _ col hin]
  rfl

/-- the same with the model's own `mainPass` over the transaction buffer `u` of the column -/
theorem trigger_sees_final_values_mainPass (hash : Bytes → Nat) (col trg : Col) (k : NumKind) (target : String)
    (chunk : Nat) (u : Buf)
    (hk : col.kind = .num k) (htk : trg.kind = .trigger target) (hch : chunk < col.nchunks)
    (hin : InBounds col (u.rangeOps chunk)) :
    (otherSecs trg ((mainPass hash col chunk u).2.1.range chunk)).1.trig.reverse =
      trg.trig.reverse ++
        ((u.rangeOps chunk).mapIdx (fun j o =>
          let after := (((u.rangeOps chunk).take (j + 1)).foldl (stepNum k) (col, [], [])).1
          if o.typ = opPut ∨ o.typ = opMerge then
            some (⟨o.idx, opPut, (after.data[o.idx]?).getD []⟩ : TrigEvent)
          else if o.typ = opDelete then some ⟨o.idx, opDelete, valRaw o.val⟩
          else none)).filterMap id := by
  rw [(mainPass_num hash col k hk chunk hch u).2.1]
  exact trigger_sees_final_values_sections hash col trg k target chunk (u.range chunk) hk htk hch hin

/-- a `Put` is reported with its own value: that *is* the value stored right after it -/
theorem put_value_is_stored (k : NumKind) (col : Col) (ops : List Op) (hin : InBounds col ops)
    (j : Nat) (hj : j < ops.length) (hp : ops[j].typ = opPut) :
    ((((ops.take (j + 1)).foldl (stepNum k) (col, [], [])).1.data[ops[j].idx]?).getD []) = valRaw ops[j].val := by
  rw [numeric_take_succ k col ops j hj]
  have hs := foldCol_shape k (ops.take j) col
  have ho := hin _ (List.getElem_mem hj)
  exact stepCol_data_put k _ ops[j] (by rw [hs.bsize]; exact ho.1) (by rw [hs.dsize]; exact ho.2) hp

/-- exactly once: the number of new calls for a section is its number of `Put`, `Merge` and `Delete` ops -/
theorem trigger_final_count (hash : Bytes → Nat) (col trg : Col) (k : NumKind) (target : String)
    (chunk : Nat) (ops : List Op)
    (hk : col.kind = .num k) (htk : trg.kind = .trigger target) (hch : chunk < col.nchunks) :
    (applyOther trg (applyData hash col chunk ops).ops).1.trig.length =
      trg.trig.length +
        (ops.filter (fun o => o.typ = opPut ∨ o.typ = opMerge ∨ o.typ = opDelete)).length := by
  rw [applyData_num hash col k hk chunk hch, applyOther_trigger trg target htk]
  simp only
  rw [← List.length_reverse, foldTrig_log, List.length_append, List.length_reverse, List.length_map, count_rwList]

/-! ### I7 — non-vacuity -/

def addMerge : Bytes → Bytes → Bytes := fun a d => [a.getD 0 0 + d.getD 0 0, a.getD 1 0 + d.getD 1 0]

def col0 : Col :=
  { name := "n", kind := .num .u16, merge := addMerge, nchunks := 1,
    bits := #[true, false, false, false], data := #[[0, 9], [], [], []] }

def trg0 : Col := { name := "t", kind := .trigger "n" }

/-- put, merge onto it, a skipped op, delete another row, merge into a never-written slot -/
def ops0 : List Op :=
  [⟨opPut, 1, .fixed 1 [0, 3]⟩, ⟨opMerge, 1, .fixed 1 [0, 4]⟩, ⟨opSkip, 3, .fixed 1 [0, 1]⟩,
   ⟨opDelete, 0, .fixed 0 []⟩, ⟨opMerge, 2, .fixed 1 [0, 9]⟩]

example : InBounds col0 ops0 := by decide

/-- the trigger handed the *unrewritten* section would miss both merges … -/
example : (applyOther trg0 ops0).1.trig.reverse = [⟨1, opPut, [0, 3]⟩, ⟨0, opDelete, []⟩] := by decide

/-- … after the main pass it sees the stored sums, in op order, and nothing for the `Skip` -/
example : (applyOther trg0 (applyData (fun _ => 0) col0 0 ops0).ops).1.trig.reverse =
    [⟨1, opPut, [0, 3]⟩, ⟨1, opPut, [0, 7]⟩, ⟨0, opDelete, []⟩, ⟨2, opPut, [0, 9]⟩] := by decide +kernel

end ColumnVerif.Props.C19
