import ColumnVerif.Lemmas.Swap
/-!
# C05 (last sentence) — what later readers see after a reader swapped a merge for its result

"After a reader has replaced a merge delta by its merged result, later readers see for every offset
the same sequence of operations with that merge turned into a put of the result."

Model: `Buf.swapAt b chunk k v` (`Model/Swap`, Go `Reader.Swap*` while ranging over `chunk`,
positioned on the `k`-th op). Vocabulary (all plain functions of the model's data):

* `opsOf b chunk` = `b.rangeOps chunk`: the ops of the sections of `chunk`, concatenated in write
  order. `rangeOps` does **not** filter `Skip`-marked ops, and neither does `locate`: position `k`
  counts every op of the chunk, skipped ones included.
* `rewriteNth ops k f` (`Model/Swap`): `ops` with position `k` replaced by `f` of it.
* `atIdx ops i` = the ops on offset `i`; `visible ops i` = the ops on offset `i` that are not
  marked `Skip` (what a later reader acts on); `NoLater ops k i` = no op after position `k` is on
  offset `i` (all three in `Lemmas/Swap`).
* `Buf.withSecs`, `Sec.withOps`, `Located` (`Lemmas/Swap`): the buffer with its section list
  replaced / a section with its ops replaced (header kept) / "the `k`-th op `o` of `chunk` is op
  `pos` of section `sec`, and `b.secs = pre ++ sec :: post`".

Added hypotheses (all decidable, satisfiable — see the examples at the end):
`b.Inv` (every buffer built through the writer API has it: `Buf.putAll_inv`) where `Buf.put` is
involved or the invariant is re-established; `v.WF` (the swapped-in value fits the wire format: a
fixed value has its code's width, a string is < 65536 bytes) **only** for re-establishing `Inv`;
`NoLater` for the per-offset sentence in the resizing case — necessary, see
`swapAt_resize_later_counterexample` (finding D12).
-/
namespace ColumnVerif.Props.C05swap
open ColumnVerif.Codec

/-- the ops a reader ranging over `chunk` walks, in order (`Skip`-marked ops included) -/
abbrev opsOf (b : Buf) (chunk : Nat) : List Op := b.rangeOps chunk

/-! ## 1. when `swapAt` is defined -/

theorem swapAt_none_of_le (b : Buf) (chunk k : Nat) (v : Val) (hk : (opsOf b chunk).length ≤ k) :
    b.swapAt chunk k v = none := by
  rw [Buf.swapAt, locate_of_le b.secs chunk k 0 hk]

/-- `swapAt` succeeds iff `k` is a position of the chunk and the new value either has the shape of
    the old one (in-place) or is a byte string (resizing swap). No invariant needed. -/
theorem swapAt_some_iff (b : Buf) (chunk k : Nat) (v : Val) :
    (b.swapAt chunk k v).isSome ↔
      ∃ o, (opsOf b chunk)[k]? = some o ∧ (sameShape o.val v = true ∨ ∃ bs, v = .str bs) := by
  cases ho : (opsOf b chunk)[k]? with
  | none => rw [swapAt_none_of_le b chunk k v (List.getElem?_eq_none_iff.1 ho)]; simp
  | some o =>
    obtain ⟨pre, sec, post, pos, hl⟩ := located_of_getElem? b chunk k o ho
    rw [hl.swapAt_eq]
    cases hs : sameShape o.val v <;> cases v <;> simp [hs]

theorem swapAt_defined (b : Buf) (chunk k : Nat) (v : Val) (hk : k < (opsOf b chunk).length)
    (hv : sameShape (opsOf b chunk)[k].val v = true ∨ ∃ bs, v = .str bs) :
    ∃ b', b.swapAt chunk k v = some b' :=
  Option.isSome_iff_exists.1 ((swapAt_some_iff b chunk k v).2 ⟨_, List.getElem?_eq_getElem hk, hv⟩)

/-! ## 2. same-shape swap: rewritten in place -/

/-- Section-wise: exactly the located section changes, and only at position `pos`; every header
    (`chunk`, `value`), `last`, `cur` and the column stay. -/
theorem swapAt_inplace_sections (b : Buf) (chunk k : Nat) (v : Val) (b' : Buf) (o : Op)
    (ho : (opsOf b chunk)[k]? = some o) (hs : sameShape o.val v = true)
    (h : b.swapAt chunk k v = some b') :
    ∃ pre sec post pos, Located b chunk k o pre sec post pos ∧
      b' = b.withSecs (pre ++ sec.withOps (rewriteNth sec.ops pos (fun o => swapInPlace o v)) :: post) := by
  obtain ⟨pre, sec, post, pos, hl⟩ := located_of_getElem? b chunk k o ho
  rw [hl.swapAt_eq, if_pos hs] at h
  exact ⟨pre, sec, post, pos, hl, (Option.some.inj h).symm⟩

/-- The chunk's ops are the old ones with the `k`-th replaced by `swapInPlace o v` (kind `Put`,
    same offset, value `v`); the chunk keeps its sections and their lengths; every other chunk's
    sections are untouched. -/
theorem swapAt_inplace_range (b : Buf) (chunk k : Nat) (v : Val) (b' : Buf) (o : Op)
    (ho : (opsOf b chunk)[k]? = some o) (hs : sameShape o.val v = true)
    (h : b.swapAt chunk k v = some b') :
    opsOf b' chunk = rewriteNth (opsOf b chunk) k (fun o => swapInPlace o v) ∧
    (b'.range chunk).map List.length = (b.range chunk).map List.length ∧
    (∀ c, c ≠ chunk → b'.range c = b.range c) ∧
    b'.chunks = b.chunks ∧ b'.last = b.last ∧ b'.cur = b.cur := by
  obtain ⟨pre, sec, post, pos, hl, rfl⟩ := swapAt_inplace_sections b chunk k v b' o ho hs h
  refine ⟨hl.rangeOps_rewrite _, hl.range_rewrite_lengths _ chunk,
    fun c hc => hl.range_rewrite_other _ c hc, ?_, rfl, rfl⟩
  simp [Buf.chunks, hl.secs_eq]

theorem swapInPlace_eq (o : Op) (v : Val) : swapInPlace o v = ⟨opPut, o.idx, v⟩ := rfl

/-- the invariant survives (needs the new value to fit the format) -/
theorem swapAt_inplace_inv (b : Buf) (chunk k : Nat) (v : Val) (b' : Buf) (o : Op)
    (hinv : b.Inv) (hv : v.WF)
    (ho : (opsOf b chunk)[k]? = some o) (hs : sameShape o.val v = true)
    (h : b.swapAt chunk k v = some b') : b'.Inv := by
  obtain ⟨pre, sec, post, pos, hl, rfl⟩ := swapAt_inplace_sections b chunk k v b' o ho hs h
  exact hl.inv_rewrite hinv _ (swapInPlace_idx v) (fun o ho => swapInPlace_WF o v ho hv)

/-- Per offset: every other offset's sequence is untouched; on the op's own offset the sequence is
    the old one with exactly this op (its position among the ops of that offset: the number of
    earlier ops on it) turned into `Put v`. -/
theorem swapAt_inplace_per_offset (b : Buf) (chunk k : Nat) (v : Val) (b' : Buf) (o : Op)
    (ho : (opsOf b chunk)[k]? = some o) (hs : sameShape o.val v = true)
    (h : b.swapAt chunk k v = some b') :
    (∀ i, i ≠ o.idx → atIdx (opsOf b' chunk) i = atIdx (opsOf b chunk) i) ∧
    atIdx (opsOf b' chunk) o.idx =
      rewriteNth (atIdx (opsOf b chunk) o.idx) (atIdx ((opsOf b chunk).take k) o.idx).length
        (fun o => ⟨opPut, o.idx, v⟩) := by
  have hr := (swapAt_inplace_range b chunk k v b' o ho hs h).1
  rw [hr]
  exact ⟨fun i hi => atIdx_rewriteNth_ne _ k _ o i ho (swapInPlace_idx v) (fun e => hi e.symm),
    atIdx_rewriteNth_eq _ k _ o ho (swapInPlace_idx v)⟩

/-- The property's sentence, same-shape case (no side condition): later readers see, for every
    offset, the same sequence with that op turned into a put of the result. -/
theorem swapAt_inplace_visible (b : Buf) (chunk k : Nat) (v : Val) (b' : Buf) (o : Op)
    (ho : (opsOf b chunk)[k]? = some o) (hs : sameShape o.val v = true)
    (h : b.swapAt chunk k v = some b') (i : Nat) :
    visible (opsOf b' chunk) i =
      visible (rewriteNth (opsOf b chunk) k (fun o => ⟨opPut, o.idx, v⟩)) i := by
  rw [(swapAt_inplace_range b chunk k v b' o ho hs h).1]
  rfl

/-! ## 3. resizing swap (`.str` of another length): `Skip` + appended `Put` -/

/-- What `Buf.put` does here. The appended `Put o.idx v` belongs to the reader's chunk. If that
    chunk is the buffer's current one (`b.cur = some chunk`), the last section — which is a section
    of `chunk` — is extended; otherwise a new section `⟨chunk, b.last, [Put]⟩` is opened at the END
    of the buffer. In both cases `last` becomes `o.idx` and `cur` becomes `chunk`. -/
theorem swapAt_resize_sections (b : Buf) (chunk k : Nat) (v : Val) (b' : Buf) (o : Op) (bs : Bytes)
    (hinv : b.Inv)
    (ho : (opsOf b chunk)[k]? = some o) (hs : sameShape o.val v = false) (hv : v = .str bs)
    (h : b.swapAt chunk k v = some b') :
    chunkOf o.idx = chunk ∧ b'.last = o.idx ∧ b'.cur = some chunk ∧ b'.column = b.column ∧
    ∃ pre sec post pos, Located b chunk k o pre sec post pos ∧
      let marked := pre ++ sec.withOps (rewriteNth sec.ops pos markSkip) :: post
      (b.cur = some chunk ∧ ∃ init l, marked = init ++ [l] ∧ l.chunk = chunk ∧
          b'.secs = init ++ [l.withOps (l.ops ++ [⟨opPut, o.idx, v⟩])]) ∨
      (b.cur ≠ some chunk ∧ b'.secs = marked ++ [⟨chunk, b.last, [⟨opPut, o.idx, v⟩]⟩]) := by
  obtain ⟨pre, sec, post, pos, hl, hch, hinv1, rfl⟩ := swapAt_resize_secs b chunk k v b' o bs hinv ho hs hv h
  refine ⟨hch, Buf.last_put _ _, hch ▸ Buf.cur_put _ _, Buf.column_put _ _, pre, sec, post, pos, hl, ?_⟩
  have := Buf.secs_put _ ⟨opPut, o.idx, v⟩ hinv1
  rwa [Buf.secs_withSecs, hch] at this

/-- Flattened ops of the chunk: the `k`-th op is marked `Skip` (its bytes stay) and `Put o.idx v`
    is appended at the end of the chunk's ops; every other chunk's sections are untouched. -/
theorem swapAt_resize_range (b : Buf) (chunk k : Nat) (v : Val) (b' : Buf) (o : Op) (bs : Bytes)
    (hinv : b.Inv)
    (ho : (opsOf b chunk)[k]? = some o) (hs : sameShape o.val v = false) (hv : v = .str bs)
    (h : b.swapAt chunk k v = some b') :
    opsOf b' chunk = rewriteNth (opsOf b chunk) k markSkip ++ [⟨opPut, o.idx, v⟩] ∧
    (∀ c, c ≠ chunk → b'.range c = b.range c) := by
  obtain ⟨pre, sec, post, pos, hl, hch, hinv1, rfl⟩ := swapAt_resize_secs b chunk k v b' o bs hinv ho hs hv h
  constructor
  · show Buf.rangeOps _ chunk = _
    rw [(Buf.range_put _ _ _ hinv1).2, hl.rangeOps_rewrite, if_pos hch]
  · intro c hc
    rw [(Buf.range_put _ _ _ hinv1).1 (by rw [hch]; exact fun e => hc e.symm)]
    exact hl.range_rewrite_other _ c hc

/-- the invariant survives (needs the new string to fit the format: < 65536 bytes) -/
theorem swapAt_resize_inv (b : Buf) (chunk k : Nat) (v : Val) (b' : Buf) (o : Op) (bs : Bytes)
    (hinv : b.Inv) (hwf : v.WF)
    (ho : (opsOf b chunk)[k]? = some o) (hs : sameShape o.val v = false) (hv : v = .str bs)
    (h : b.swapAt chunk k v = some b') : b'.Inv := by
  obtain ⟨pre, sec, post, pos, hl, _, hinv1, rfl⟩ := swapAt_resize_secs b chunk k v b' o bs hinv ho hs hv h
  exact Buf.put_inv _ _ hinv1 ⟨(by decide : opPut < 16), (hl.op_wf hinv).2.1, hwf⟩

/-- **The property's sentence, resizing case.** If no later op of the chunk is on the swapped op's
    offset, later readers see for every offset the same sequence of (non-skipped) operations with
    that merge turned into a put of the result. -/
theorem swapAt_resize_visible (b : Buf) (chunk k : Nat) (v : Val) (b' : Buf) (o : Op) (bs : Bytes)
    (hinv : b.Inv)
    (ho : (opsOf b chunk)[k]? = some o) (hs : sameShape o.val v = false) (hv : v = .str bs)
    (h : b.swapAt chunk k v = some b')
    (hno : NoLater (opsOf b chunk) k o.idx) (i : Nat) :
    visible (opsOf b' chunk) i =
      visible (rewriteNth (opsOf b chunk) k (fun o => ⟨opPut, o.idx, v⟩)) i := by
  rw [(swapAt_resize_range b chunk k v b' o bs hinv ho hs hv h).1]
  exact visible_resize _ k o v i ho hno

/-- Without `NoLater` the other offsets are still exact: only the swapped op's own offset can see
    the appended `Put` overtake a later op. -/
theorem swapAt_resize_visible_other (b : Buf) (chunk k : Nat) (v : Val) (b' : Buf) (o : Op)
    (bs : Bytes) (hinv : b.Inv)
    (ho : (opsOf b chunk)[k]? = some o) (hs : sameShape o.val v = false) (hv : v = .str bs)
    (h : b.swapAt chunk k v = some b') (i : Nat) (hi : i ≠ o.idx) :
    visible (opsOf b' chunk) i = visible (opsOf b chunk) i := by
  rw [(swapAt_resize_range b chunk k v b' o bs hinv ho hs hv h).1]
  exact visible_resize_other _ k o v i ho (fun e => hi e.symm)

/-! ## 4. finding D12: `NoLater` is necessary -/

/-- a merge on offset 1 followed by a later put on the same offset -/
def laterBuf : Buf :=
  (Buf.empty "s").putAll [⟨opMerge, 1, .str [97, 98]⟩, ⟨opPut, 1, .str [122, 122]⟩]

/-- The reader swaps the merge (position 0) for a 3-byte result. Every hypothesis of
    `swapAt_resize_visible` but `NoLater` holds, and the per-offset sequences differ: later readers
    see `Put "zz"` THEN `Put "abc"` on offset 1 (the appended put overtook the later op), where the
    property promises `Put "abc"` then `Put "zz"`. -/
theorem swapAt_resize_later_counterexample :
    laterBuf.Inv ∧
    ∃ b' o, laterBuf.swapAt 0 0 (.str [97, 98, 99]) = some b' ∧
      (opsOf laterBuf 0)[0]? = some o ∧ sameShape o.val (.str [97, 98, 99]) = false ∧
      ¬ NoLater (opsOf laterBuf 0) 0 o.idx ∧
      visible (opsOf b' 0) 1 = [⟨opPut, 1, .str [122, 122]⟩, ⟨opPut, 1, .str [97, 98, 99]⟩] ∧
      visible (rewriteNth (opsOf laterBuf 0) 0 (fun o => ⟨opPut, o.idx, .str [97, 98, 99]⟩)) 1 =
        [⟨opPut, 1, .str [97, 98, 99]⟩, ⟨opPut, 1, .str [122, 122]⟩] ∧
      visible (opsOf b' 0) 1 ≠
        visible (rewriteNth (opsOf laterBuf 0) 0 (fun o => ⟨opPut, o.idx, .str [97, 98, 99]⟩)) 1 := by
  refine ⟨Buf.putAll_inv _ _ (Buf.empty_inv "s") (by decide), ?_⟩
  refine ⟨(laterBuf.swapAt 0 0 (.str [97, 98, 99])).get (by decide), ⟨opMerge, 1, .str [97, 98]⟩,
    by simp, by decide, by decide, by decide, by decide, by decide, by decide⟩

/-! ## 5. non-vacuity -/

/-- two chunks interleaved: chunk 0 has two sections -/
def sampleBuf : Buf :=
  (Buf.empty "s").putAll
    [⟨opPut, 5, .fixed 1 [1, 2]⟩, ⟨opMerge, 7, .str [104, 105]⟩, ⟨opPut, 20000, .fixed 2 [0, 0, 0, 1]⟩,
     ⟨opMerge, 9, .fixed 3 [0, 0, 0, 0, 0, 0, 0, 1]⟩, ⟨opPut, 6, .str [120]⟩]

theorem sampleBuf_inv : sampleBuf.Inv := Buf.putAll_inv _ _ (Buf.empty_inv "s") (by decide +kernel)

example : sampleBuf.range 0 =
    [[⟨opPut, 5, .fixed 1 [1, 2]⟩, ⟨opMerge, 7, .str [104, 105]⟩],
     [⟨opMerge, 9, .fixed 3 [0, 0, 0, 0, 0, 0, 0, 1]⟩, ⟨opPut, 6, .str [120]⟩]] := by decide +kernel

/-- in place, fixed width, in the second section of chunk 0 (position 2 of the chunk) -/
example : ∃ b' o, sampleBuf.swapAt 0 2 (.fixed 3 [0, 0, 0, 0, 0, 0, 0, 7]) = some b' ∧
    (opsOf sampleBuf 0)[2]? = some o ∧ sameShape o.val (.fixed 3 [0, 0, 0, 0, 0, 0, 0, 7]) = true ∧
    (Val.fixed 3 [0, 0, 0, 0, 0, 0, 0, 7]).WF ∧
    b'.range 0 = [[⟨opPut, 5, .fixed 1 [1, 2]⟩, ⟨opMerge, 7, .str [104, 105]⟩],
      [⟨opPut, 9, .fixed 3 [0, 0, 0, 0, 0, 0, 0, 7]⟩, ⟨opPut, 6, .str [120]⟩]] :=
  ⟨(sampleBuf.swapAt 0 2 (.fixed 3 [0, 0, 0, 0, 0, 0, 0, 7])).get (by decide +kernel),
    ⟨opMerge, 9, .fixed 3 [0, 0, 0, 0, 0, 0, 0, 1]⟩,
    by simp, by decide +kernel, by decide +kernel, by decide +kernel, by decide +kernel⟩

/-- in place, same-length string (position 1) -/
example : ∃ b' o, sampleBuf.swapAt 0 1 (.str [72, 73]) = some b' ∧
    (opsOf sampleBuf 0)[1]? = some o ∧ sameShape o.val (.str [72, 73]) = true ∧
    opsOf b' 0 = [⟨opPut, 5, .fixed 1 [1, 2]⟩, ⟨opPut, 7, .str [72, 73]⟩,
      ⟨opMerge, 9, .fixed 3 [0, 0, 0, 0, 0, 0, 0, 1]⟩, ⟨opPut, 6, .str [120]⟩] :=
  ⟨(sampleBuf.swapAt 0 1 (.str [72, 73])).get (by decide +kernel), ⟨opMerge, 7, .str [104, 105]⟩, by simp,
    by decide +kernel, by decide +kernel, by decide +kernel⟩

/-- resizing, `NoLater` holds, the buffer's current chunk is the reader's: last section extended -/
example : ∃ b' o, sampleBuf.swapAt 0 1 (.str [72, 73, 74]) = some b' ∧
    (opsOf sampleBuf 0)[1]? = some o ∧ sameShape o.val (.str [72, 73, 74]) = false ∧
    (Val.str [72, 73, 74]).WF ∧ NoLater (opsOf sampleBuf 0) 1 o.idx ∧ sampleBuf.cur = some 0 ∧
    b'.range 0 = [[⟨opPut, 5, .fixed 1 [1, 2]⟩, ⟨opSkip, 7, .str [104, 105]⟩],
      [⟨opMerge, 9, .fixed 3 [0, 0, 0, 0, 0, 0, 0, 1]⟩, ⟨opPut, 6, .str [120]⟩,
       ⟨opPut, 7, .str [72, 73, 74]⟩]] :=
  ⟨(sampleBuf.swapAt 0 1 (.str [72, 73, 74])).get (by decide +kernel), ⟨opMerge, 7, .str [104, 105]⟩,
    by simp, by decide +kernel, by decide +kernel, by decide +kernel, by decide +kernel, by decide +kernel, by decide +kernel⟩

/-- resizing while the buffer's current chunk is another one: a new section at the end -/
def sampleBuf2 : Buf :=
  (Buf.empty "s").putAll [⟨opMerge, 7, .str [104, 105]⟩, ⟨opPut, 20000, .fixed 2 [0, 0, 0, 1]⟩]

example : sampleBuf2.Inv := Buf.putAll_inv _ _ (Buf.empty_inv "s") (by decide +kernel)

example : ∃ b' o, sampleBuf2.swapAt 0 0 (.str []) = some b' ∧
    (opsOf sampleBuf2 0)[0]? = some o ∧ sameShape o.val (.str []) = false ∧
    NoLater (opsOf sampleBuf2 0) 0 o.idx ∧ sampleBuf2.cur = some 1 ∧
    b'.chunks = [0, 1, 0] ∧
    b'.range 0 = [[⟨opSkip, 7, .str [104, 105]⟩], [⟨opPut, 7, .str []⟩]] ∧
    b'.range 1 = sampleBuf2.range 1 :=
  ⟨(sampleBuf2.swapAt 0 0 (.str [])).get (by decide), ⟨opMerge, 7, .str [104, 105]⟩,
    by simp, by decide, by decide, by decide, by decide, by decide, by decide, by decide⟩

/-- why `v.WF` is asked for the invariant: `sameShape` on fixed values compares the width CODE only,
    so the model accepts a 1-byte payload under the 8-byte code and the resulting op is not well-formed -/
example : ∃ b', sampleBuf.swapAt 0 2 (.fixed 3 [1]) = some b' ∧ ¬ (∀ o ∈ opsOf b' 0, o.WF) :=
  ⟨(sampleBuf.swapAt 0 2 (.fixed 3 [1])).get (by decide +kernel), by simp, by decide +kernel⟩

/-- a fixed value of another width on a string op is refused -/
example : sampleBuf.swapAt 0 1 (.fixed 1 [0, 0]) = none := by decide +kernel
/-- out of range -/
example : sampleBuf.swapAt 0 4 (.str [1]) = none := by decide +kernel

end ColumnVerif.Props.C05swap

section Axioms
open ColumnVerif.Props.C05swap
#print axioms swapAt_some_iff
#print axioms swapAt_defined
#print axioms swapAt_inplace_sections
#print axioms swapAt_inplace_range
#print axioms swapAt_inplace_inv
#print axioms swapAt_inplace_per_offset
#print axioms swapAt_inplace_visible
#print axioms swapAt_resize_sections
#print axioms swapAt_resize_range
#print axioms swapAt_resize_inv
#print axioms swapAt_resize_visible
#print axioms swapAt_resize_visible_other
#print axioms swapAt_resize_later_counterexample
end Axioms
