import ColumnVerif.Lemmas.Sorted
/-!
# C16 — sorted index: invariant, per-offset semantics, ordered iteration

"Ascending iteration over a sorted index visits exactly the rows of the current selection that hold a
value in the indexed string column, each once, in non-decreasing order of their current values —
including rows with equal values, after any history of inserts, overwrites, merges and deletes."

* S1 `bytesLt` / `entryLt` are strict total orders.
* S2 `SortInv` (strictly sorted entries, every entry recorded in `back`) holds for the empty index and
  is kept by `applyOther` on any op list (and by the back-fill of `CreateSortIndex`).
* S3 the entry of an offset after a section is decided by the last Put / Delete addressed to it.
* S4 `Ascend` = the offsets of the entries, in entry order, restricted to the selection: no duplicates,
  exactly the selected offsets that have an entry, keys non-decreasing (ties in offset order).
* S5 concrete examples: equal keys coexist; non-vacuity of `SortInv`.
-/
namespace ColumnVerif.Props.C16
open ColumnVerif.Codec ColumnVerif.Bits ColumnVerif.Store

/-! ## S1 — the comparators are strict total orders -/

theorem bytesLt_irrefl (a : Bytes) : bytesLt a a = false := Store.bytesLt_irrefl a

theorem bytesLt_trans (a b c : Bytes) (h1 : bytesLt a b = true) (h2 : bytesLt b c = true) : bytesLt a c = true :=
  Store.bytesLt_trans h1 h2

theorem bytesLt_trichotomy (a b : Bytes) : bytesLt a b = true ∨ a = b ∨ bytesLt b a = true :=
  Store.bytesLt_trichotomy a b

theorem entryLt_irrefl (a : Bytes × Nat) : entryLt a a = false := Store.entryLt_irrefl a

theorem entryLt_trans (a b c : Bytes × Nat) (h1 : entryLt a b = true) (h2 : entryLt b c = true) :
    entryLt a c = true := Store.entryLt_trans h1 h2

theorem entryLt_trichotomy (a b : Bytes × Nat) : entryLt a b = true ∨ a = b ∨ entryLt b a = true :=
  Store.entryLt_trichotomy a b

/-- exactly one of the three cases holds -/
theorem entryLt_asymm (a b : Bytes × Nat) (h : entryLt a b = true) : entryLt b a = false ∧ a ≠ b := by
  refine ⟨Store.entryLt_asymm h, ?_⟩
  intro e; subst e; rw [Store.entryLt_irrefl] at h; cases h

theorem bytesLt_asymm (a b : Bytes) (h : bytesLt a b = true) : bytesLt b a = false ∧ a ≠ b :=
  ⟨Store.bytesLt_asymm h, Store.bytesLt_ne h⟩

/-! ## S2 — the invariant -/

/-- `SortInv c`: the entries are strictly sorted by `entryLt`, and every entry `(k, o)` is the one
    `back` records for `o` (hence at most one entry per offset) -/
example (c : Col) : SortInv c ↔
    (List.Pairwise (fun a b => entryLt a b = true) c.entries ∧
     ∀ k o, (k, o) ∈ c.entries → c.back.get? o = some k) := Iff.rfl

/-- a fresh sorted index (`CreateSortIndex` before the back-fill) -/
theorem sorted_empty_inv (name target : String) : SortInv { name := name, kind := .sorted target } :=
  ⟨List.Pairwise.nil, nofun⟩

theorem sorted_nil_inv (c : Col) (h : c.entries = []) : SortInv c := by
  unfold SortInv
  rw [h]
  exact ⟨List.Pairwise.nil, nofun⟩

theorem one_entry_per_offset (c : Col) (h : SortInv c) (a b : Bytes × Nat) (ha : a ∈ c.entries)
    (hb : b ∈ c.entries) (e : a.2 = b.2) : a = b := entry_unique c h ha hb e

/-- `applyOther` keeps the invariant, for every op list (and every column kind: the other kinds never
    touch `entries` / `back`) -/
theorem sorted_apply_inv (c : Col) (ops : List Op) (h : SortInv c) : SortInv (applyOther c ops).1 :=
  applyOther_inv c ops h

theorem sorted_apply_no_panic (c : Col) (t : String) (hk : c.kind = .sorted t) (ops : List Op) :
    (applyOther c ops).2 = false := by
  rw [applyOther_sorted c t hk]

/-- the invariant after any history of sections applied to a fresh index -/
theorem sorted_history_inv (name target : String) (history : List (List Op)) :
    SortInv (history.foldl (fun c ops => (applyOther c ops).1) { name := name, kind := .sorted target }) :=
  foldl_preserves SortInv _ (fun c ops h => applyOther_inv c ops h) _ _ (sorted_empty_inv name target)

/-- the back-fill of `CreateSortIndex` keeps the invariant -/
theorem sorted_backfill_inv (s : Store) (target : Col) (name tgt : String) :
    SortInv (s.backfill target { name := name, kind := .sorted tgt }).1 :=
  backfill_inv s target _ (sorted_empty_inv name tgt)

/-! ## S3 — the entry of an offset -/

example (c : Col) (o : Nat) : entryOf c o = (c.entries.find? (fun e => e.2 = o)).map (·.1) := rfl

theorem entryOf_eq_some (c : Col) (h : SortInv c) (o : Nat) (k : Bytes) :
    entryOf c o = some k ↔ (k, o) ∈ c.entries := entryOf_eq_some_iff c h o k

/-- the entry of offset `o` after a section: the fold of the Puts / Deletes addressed to `o`, in
    order, over its previous entry. A Put after a Put replaces, a Delete removes, delete-then-reinsert
    works; ops on other offsets — even with the same key — do not matter. -/
theorem sorted_apply_sem (c : Col) (t : String) (hk : c.kind = .sorted t) (h : SortInv c) (ops : List Op) (o : Nat) :
    entryOf (applyOther c ops).1 o =
      (ops.filter (·.idx = o)).foldl
        (fun cur op => if op.typ = opPut then some (valRaw op.val) else if op.typ = opDelete then none else cur)
        (entryOf c o) := by
  rw [applyOther_sorted c t hk]
  exact foldl_sortedStep_sem ops c h o

theorem sorted_apply_kind (c : Col) (t : String) (hk : c.kind = .sorted t) (ops : List Op) :
    (applyOther c ops).1.kind = .sorted t ∧ (applyOther c ops).1.name = c.name := by
  rw [applyOther_sorted c t hk]
  refine foldl_preserves (fun a : Col => a.kind = .sorted t ∧ a.name = c.name) _ (fun a o ha => ?_) ops c ⟨hk, rfl⟩
  unfold sortedStep
  split
  · exact ha
  · split <;> exact ha

/-! ## S4 — ascending iteration -/

/-- membership of offset `o` in the transaction's selection when `Ascend` runs -/
def selected (s : Store) (t : Txn) (o : Nat) : Bool := Bits.get (t.initialize s).sel o

/-- the current key of offset `o` in the index -/
def keyOf (c : Col) (o : Nat) : Bytes := (entryOf c o).getD []

theorem ascend_eq (s : Store) (t : Txn) (name tgt : String) (c : Col)
    (hc : s.findCol name = some c) (hk : c.kind = .sorted tgt) :
    t.ascend s name = (t.initialize s, some ((c.entries.map (·.2)).filter (selected s t))) := by
  unfold Txn.ascend
  simp only [hc, hk]
  rfl

theorem ascend_mem (s : Store) (t : Txn) (c : Col) (o : Nat) :
    o ∈ (c.entries.map (·.2)).filter (selected s t) ↔ selected s t o = true ∧ (entryOf c o).isSome = true := by
  rw [List.mem_filter, entryOf_isSome_iff, List.mem_map, and_comm]
  constructor
  · rintro ⟨hs, ⟨k, _⟩, hm, rfl⟩
    exact ⟨hs, k, hm⟩
  · rintro ⟨hs, k, hm⟩
    exact ⟨hs, (k, o), hm, rfl⟩

/-- C16: `Ascend` over a sorted index that satisfies the invariant returns a list `l` that
    has no duplicates, contains exactly the selected offsets holding an entry, and whose keys never
    decrease -/
theorem ascend_sem (s : Store) (t : Txn) (name tgt : String) (c : Col)
    (hc : s.findCol name = some c) (hk : c.kind = .sorted tgt) (h : SortInv c) :
    ∃ l, (t.ascend s name).2 = some l ∧
      l = (c.entries.map (·.2)).filter (selected s t) ∧
      l.Nodup ∧
      (∀ o, o ∈ l ↔ selected s t o = true ∧ (entryOf c o).isSome = true) ∧
      List.Pairwise (fun a b => ¬ bytesLt (keyOf c b) (keyOf c a) = true) l :=
  ⟨_, by rw [ascend_eq s t name tgt c hc hk], rfl, (offsets_nodup c h).filter _, ascend_mem s t c,
    (offsets_keys_sorted c h).filter _⟩

/-- the same on the entries: the visited offsets are those of the sub-list of selected entries, which is
    strictly sorted by (key, offset) — equal keys are visited in offset order — and each visited
    offset's current key is the key of its entry -/
theorem ascend_entries (s : Store) (t : Txn) (c : Col) (h : SortInv c) :
    let sub := c.entries.filter (fun e => selected s t e.2)
    (c.entries.map (·.2)).filter (selected s t) = sub.map (·.2) ∧
    List.Pairwise (fun a b => entryLt a b = true) sub ∧
    List.Sublist sub c.entries ∧
    ∀ e ∈ sub, keyOf c e.2 = e.1 := by
  refine ⟨?_, h.1.filter _, List.filter_sublist, ?_⟩
  · rw [List.filter_map]; rfl
  · intro e he
    unfold keyOf
    rw [entryOf_of_mem c h (List.mem_filter.mp he).1]
    rfl

/-- S3 + S4: after a section, `Ascend` visits the selected offsets whose last Put / Delete is a Put -/
theorem ascend_after_apply (s : Store) (t : Txn) (c : Col) (tgt : String) (hk : c.kind = .sorted tgt)
    (h : SortInv c) (ops : List Op) (o : Nat) :
    o ∈ ((applyOther c ops).1.entries.map (·.2)).filter (selected s t) ↔
      selected s t o = true ∧
      ((ops.filter (·.idx = o)).foldl
        (fun cur op => if op.typ = opPut then some (valRaw op.val) else if op.typ = opDelete then none else cur)
        (entryOf c o)).isSome = true := by
  rw [ascend_mem, sorted_apply_sem c tgt hk h]

/-! ## the index follows its string column (extra; guard D12) -/

/-- `strVal c o`: the value the string / record column `c` holds at `o`; `InSync c ix`: the index has
    an entry for `o` iff the column holds a value there, and the entry's key is that value -/
example (c ix : Col) : InSync c ix ↔ ∀ o, entryOf ix o = strVal c o := Iff.rfl

example (c : Col) (o : Nat) :
    strVal c o = if Bits.get c.bits o then some ((c.data[o]?).getD []) else none := rfl

/-- `strVal` is what `LoadString` returns (presence bitmap within the allocated chunks) -/
theorem strVal_is_read (c : Col) (hk : c.kind = .str ∨ c.kind = .record)
    (hsz : c.bits.size ≤ 16384 * c.nchunks) (o : Nat) : c.read o = strVal c o :=
  read_eq_strVal c hk hsz o

/-- one section applied to a string column (main pass: Puts, Deletes, merges rewritten in place
    into Puts of the merged value) and then, as rewritten, to its sorted index: if they agreed before
    they agree after — provided no merge of the section changed the length of its delta (the section
    appended nothing: finding D12 otherwise). -/
theorem sorted_sync_apply (hash : Bytes → Nat) (c ix : Col) (t : String) (chunk : Nat) (ops : List Op)
    (hk : c.kind = .str ∨ c.kind = .record) (hik : ix.kind = .sorted t)
    (hch : chunk < c.nchunks) (hin : InBounds c ops) (hinv : SortInv ix) (hs : InSync c ix)
    (happ : (applyData hash c chunk ops).appended = []) :
    InSync (applyData hash c chunk ops).col (applyOther ix (applyData hash c chunk ops).ops).1 :=
  applyData_sync hash c ix t chunk ops hk hik hch hin hinv hs happ

theorem sorted_sync_apply_nomerge (hash : Bytes → Nat) (c ix : Col) (t : String) (chunk : Nat) (ops : List Op)
    (hk : c.kind = .str ∨ c.kind = .record) (hik : ix.kind = .sorted t)
    (hch : chunk < c.nchunks) (hin : InBounds c ops) (hinv : SortInv ix) (hs : InSync c ix)
    (hm : ∀ o ∈ ops, o.typ ≠ opMerge) :
    InSync (applyData hash c chunk ops).col (applyOther ix (applyData hash c chunk ops).ops).1 :=
  applyData_sync hash c ix t chunk ops hk hik hch hin hinv hs (applyData_of_no_merge hash c chunk ops hm).2

/-- C16 in terms of the column: with index and column in sync, `Ascend` visits exactly the selected
    rows holding a value in the column, each once, in non-decreasing order of those values -/
theorem ascend_sem_column (s : Store) (t : Txn) (name tgt : String) (c ix : Col)
    (hc : s.findCol name = some ix) (hk : ix.kind = .sorted tgt) (h : SortInv ix) (hs : InSync c ix) :
    ∃ l, (t.ascend s name).2 = some l ∧
      l.Nodup ∧
      (∀ o, o ∈ l ↔ selected s t o = true ∧ (strVal c o).isSome = true) ∧
      List.Pairwise (fun a b => ¬ bytesLt ((strVal c b).getD []) ((strVal c a).getD []) = true) l := by
  obtain ⟨l, h1, _, h3, h4, h5⟩ := ascend_sem s t name tgt ix hc hk h
  refine ⟨l, h1, h3, ?_, ?_⟩
  · intro o; rw [h4 o, hs o]
  · refine h5.imp fun hab => ?_
    unfold keyOf at hab
    rwa [hs _, hs _] at hab

/-- the hypotheses are satisfiable: an empty string column and a fresh index are in sync -/
example : InSync { name := "name", kind := .str } { name := "by_name", kind := .sorted "name" } := by
  intro o
  simp [entryOf, strVal, Bits.get]

/-! ## S5 — concrete examples (non-vacuity) -/

/-- what one op does to the entries of an index that satisfies the invariant: `back` is not consulted.
    The examples evaluate this list fold: kernel evaluation of `applyOther` itself gets stuck on the hash map `back` -/
def entriesStep (es : List (Bytes × Nat)) (o : Op) : List (Bytes × Nat) :=
  if o.typ = opPut then insertSorted (valRaw o.val, o.idx) (es.filter (fun e => e.2 ≠ o.idx))
  else if o.typ = opDelete then es.filter (fun e => e.2 ≠ o.idx)
  else es

theorem applyOther_entries (c : Col) (t : String) (hk : c.kind = .sorted t) (h : SortInv c) (ops : List Op) :
    (applyOther c ops).1.entries = ops.foldl entriesStep c.entries := by
  rw [applyOther_sorted c t hk]
  show (ops.foldl sortedStep c).entries = _
  clear hk
  induction ops generalizing c with
  | nil => rfl
  | cons o ops ih =>
    rw [List.foldl_cons, List.foldl_cons, ih _ (sortedStep_inv c h o)]
    congr 1
    unfold entriesStep
    by_cases hp : o.typ = opPut
    · rw [if_pos hp, sortedStep_put c h o hp]
    · by_cases hd : o.typ = opDelete
      · rw [if_neg hp, if_pos hd, sortedStep_delete c h o hd]
      · rw [if_neg hp, if_neg hd, sortedStep_other c o hp hd]

def idx0 : Col := { name := "by_name", kind := .sorted "name" }
def putS (i : Nat) (k : Bytes) : Op := ⟨opPut, i, .str k⟩
def del (i : Nat) : Op := ⟨opDelete, i, .fixed 0 []⟩

/-- two rows with the same key are both present after two Puts, in offset order -/
theorem equal_keys_coexist :
    (applyOther idx0 [putS 1 [7], putS 2 [7]]).1.entries = [([7], 1), ([7], 2)] := by
  rw [applyOther_entries idx0 "name" rfl (sorted_empty_inv _ _)]
  decide +kernel

/-- the same through `entryOf` (by the general semantics theorem, no evaluation of the index) -/
example : entryOf (applyOther idx0 [putS 1 [7], putS 2 [7]]).1 1 = some [7] ∧
          entryOf (applyOther idx0 [putS 1 [7], putS 2 [7]]).1 2 = some [7] := by
  rw [sorted_apply_sem idx0 "name" rfl (sorted_empty_inv _ _), sorted_apply_sem idx0 "name" rfl (sorted_empty_inv _ _)]
  decide +kernel

/-- equal keys inserted in descending offset order still end up in offset order -/
example : (applyOther idx0 [putS 2 [7], putS 1 [7]]).1.entries = [([7], 1), ([7], 2)] := by
  rw [applyOther_entries idx0 "name" rfl (sorted_empty_inv _ _)]
  decide +kernel

/-- a history with an overwrite (offset 2: "\x07" → "\x09"), a delete-then-reinsert (offset 3) and
    three rows sharing the key "\x07" at some time -/
def history : List Op := [putS 2 [7], putS 1 [7], putS 3 [5], putS 2 [9], del 3, putS 3 [7, 0], putS 4 [7]]
def idx1 : Col := (applyOther idx0 history).1

theorem idx1_entries : idx1.entries = [([7], 1), ([7], 4), ([7, 0], 3), ([9], 2)] := by
  unfold idx1
  rw [applyOther_entries idx0 "name" rfl (sorted_empty_inv _ _)]
  decide +kernel

example : SortInv idx1 ∧ idx1.entries ≠ [] :=
  ⟨sorted_apply_inv idx0 history (sorted_empty_inv _ _), by rw [idx1_entries]; simp⟩

/-- the invariant is not trivially true: entries out of order violate it … -/
example : ¬ SortInv { name := "x", kind := .sorted "y", entries := [([7], 2), ([7], 1)] } := by
  intro h
  exact absurd h.1 (by decide)

/-- … and so does an entry `back` does not know -/
example : ¬ SortInv { name := "x", kind := .sorted "y", entries := [([7], 2)] } := by
  intro h
  have := h.2 [7] 2 (by simp)
  simp [Std.HashMap.get?_eq_getElem?] at this

/-- `Ascend` on a concrete store: rows 1, 3, 4 selected (2 is not), keys "\x07", "\x07", "\x07\x00" -/
example :
    let st : Store := { cols := #[{ name := "name", kind := .str }, idx1] }
    let tx : Txn := { setup := true, sel := #[false, true, false, true, true, true] }
    (tx.ascend st "by_name").2 = some [1, 4, 3] := by
  intro st tx
  obtain ⟨hk, hn⟩ : idx1.kind = .sorted "name" ∧ idx1.name = "by_name" := sorted_apply_kind idx0 "name" rfl history
  have hc : st.findCol "by_name" = some idx1 := by
    simp [st, Store.findCol, hn]
  rw [ascend_eq st tx "by_name" "name" idx1 hc hk, idx1_entries]
  decide +kernel

/-! ### the hypotheses of the sync theorem are satisfiable -/

def col0 : Col := Col.grow { name := "name", kind := .str } 0

theorem col0_shape : col0.kind = .str ∧ col0.nchunks = 1 ∧ col0.bits.size = 16384 ∧ col0.data.size = 16384 := by
  simp [col0, Col.grow]

theorem col0_sync : InSync col0 idx0 := by
  intro o
  have : Bits.get col0.bits o = false := by
    simp [col0, Col.grow, Bits.get, Array.getElem?_replicate]
    split <;> rfl
  simp [entryOf, strVal, this, idx0]

/-- all hypotheses of `sorted_sync_apply_nomerge` hold for a fresh one-chunk string column, a fresh
    index and the history of the examples above -/
example : InSync (applyData (fun _ => 0) col0 0 history).col
    (applyOther idx0 (applyData (fun _ => 0) col0 0 history).ops).1 := by
  apply sorted_sync_apply_nomerge _ col0 idx0 "name" 0 history (Or.inl col0_shape.1) rfl
  · rw [col0_shape.2.1]; decide
  · rw [InBounds, col0_shape.2.2.1, col0_shape.2.2.2]; decide
  · exact sorted_empty_inv _ _
  · exact col0_sync
  · decide
end ColumnVerif.Props.C16
