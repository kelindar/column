import ColumnVerif.Lemmas.Replay
import ColumnVerif.Props.C01str
import ColumnVerif.Props.C15conc
import ColumnVerif.Props.C09
/-!
# C06 — a replica fed the change stream converges

"If every commit emitted by a collection is replayed, in emission order, on a second collection with
the same schema, then whenever the first collection is quiescent the two hold identical rows and
values. This holds for any history — inserts with offset reuse, deletes, merges, transactions
spanning several blocks — and for any interleaving of concurrent writers."

The property is proved in two layers, as the model is built:

* **Q1 — sequential core** (`Model/Store.lean`). What the primary hands to the logger for a section
  is the section *as rewritten by the main pass* (`(applyData …).ops`, followed by `.appended` for
  strings). Replaying that on any other column reproduces the primary's slots. For numeric columns
  there is no side condition at all (`num_rewritten_replay_same`, `replica_stays_in_sync_num`,
  `replica_converges_num` for a whole history of commits); for string / record columns the guard of
  finding D12 is needed (`replica_stays_in_sync_str`, `replica_converges_str`).
  The rewritten section contains no `Merge` (`rewritten_has_no_merge`): the emitted commit is
  *absolute*, the replay never consults the replica's merge function
  (`replay_ignores_replica_merge`).
* **Q2 — schedule part** (`Conc/Machine.lean`). For every interleaving of any number of writers on
  any number of chunks and an arbitrary merge function: the logger stream of a chunk is the apply
  order of that chunk, each entry carries the absolute value its commit left, so a replica that
  replays the stream holds the primary's value whenever the primary is quiescent
  (`stream_converges`), and the value after some prefix of the primary's commits at any other time
  (`replica_is_prefix_state`).

Vocabulary: `slot c i = (presence bit of i, raw bytes of slot i)`; `InBounds c ops` — every offset
of the section lies inside the column's arrays; `VisEq t s` — the two slots look the same to a
reader (same presence bit; same bytes when present).
-/
namespace ColumnVerif.Props.C06
open ColumnVerif.Codec ColumnVerif.Bits ColumnVerif.Store ColumnVerif.Conc

/-! ## Q1 — numeric columns: the rewritten section replayed on another column -/

/-- `numeric_rewrite_no_merge`, re-exported: no `Merge` is left in what the main pass of a numeric
    column leaves in the buffer — the emitted commit is absolute. -/
theorem rewritten_has_no_merge (k : NumKind) (c : Col) (ops : List Op) :
    ∀ o ∈ (ops.foldl (stepNum k) (c, [], [])).2.1.reverse, o.typ ≠ opMerge := by
  rw [foldNum_rewritten]
  exact rwList_no_merge k ops c

theorem rewritten_same_offsets (k : NumKind) (c : Col) (ops : List Op) :
    (ops.foldl (stepNum k) (c, [], [])).2.1.reverse.map (·.idx) = ops.map (·.idx) := by
  rw [foldNum_rewritten]
  exact map_idx_rwList k ops c

/-- every op that is not a `Merge` is emitted unchanged; a `Merge` is emitted as a `Put` (of the
    merged value, `numeric_rewrite` in C03) -/
theorem rewritten_of_no_merge (k : NumKind) (c : Col) (ops : List Op) (h : ∀ o ∈ ops, o.typ ≠ opMerge) :
    (ops.foldl (stepNum k) (c, [], [])).2.1.reverse = ops := by
  rw [foldNum_rewritten]
  exact rwList_of_no_merge k ops c h

/-- **Q1, main statement.** Let `r` be the result of the numeric main pass over `ops` on the primary
    `c`. Replaying the REWRITTEN ops `r.2.1.reverse` with `stepNum` on ANY other column `c2` — any
    previous content, ANY merge function, even another numeric kind `k2` (the width is only
    consulted by a `Merge`, and there is none) — leaves, at every offset `i` that some Put / Merge
    of `ops` addresses, exactly the slot the primary has. -/
theorem num_rewritten_replay_same (k k2 : NumKind) (c c2 : Col) (ops : List Op) (i : Nat)
    (hin : InBounds c ops) (hin2 : InBounds c2 ops)
    (hs : ∃ o ∈ ops, o.idx = i ∧ (o.typ = opPut ∨ o.typ = opMerge)) :
    let r := ops.foldl (stepNum k) (c, [], [])
    slot (r.2.1.reverse.foldl (stepNum k2) (c2, [], [])).1 i = slot r.1 i := by
  dsimp only
  rw [foldNum_rewritten, foldNum_col, foldNum_col]
  exact foldCol_replay k k2 ops c c2 i hin hin2 (Or.inl hs)

theorem num_rewritten_replay_keeps_sync (k k2 : NumKind) (c c2 : Col) (ops : List Op) (i : Nat)
    (hin : InBounds c ops) (hin2 : InBounds c2 ops) (hs : slot c2 i = slot c i) :
    let r := ops.foldl (stepNum k) (c, [], [])
    slot (r.2.1.reverse.foldl (stepNum k2) (c2, [], [])).1 i = slot r.1 i := by
  dsimp only
  rw [foldNum_rewritten, foldNum_col, foldNum_col]
  exact foldCol_replay k k2 ops c c2 i hin hin2 (Or.inr hs)

/-- If only Deletes (and Put / Merge) or other op types address `i` — at least one Put / Merge /
    Delete, or slots that looked the same before — the two slots look the same to a reader: same
    presence bit, same value when present. (The stale bytes of an absent row are not carried by a
    Delete, so the raw bytes may differ.) -/
theorem num_rewritten_replay_visible (k k2 : NumKind) (c c2 : Col) (ops : List Op) (i : Nat)
    (hin : InBounds c ops) (hin2 : InBounds c2 ops)
    (hs : (∃ o ∈ ops, o.idx = i ∧ (o.typ = opPut ∨ o.typ = opMerge ∨ o.typ = opDelete)) ∨
          VisEq (slot c2 i) (slot c i)) :
    let r := ops.foldl (stepNum k) (c, [], [])
    VisEq (slot (r.2.1.reverse.foldl (stepNum k2) (c2, [], [])).1 i) (slot r.1 i) := by
  dsimp only
  rw [foldNum_rewritten, foldNum_col, foldNum_col]
  exact foldCol_replay_vis k k2 ops c c2 i hin hin2 hs

theorem num_rewritten_replay_presence (k k2 : NumKind) (c c2 : Col) (ops : List Op) (i : Nat)
    (hin : InBounds c ops) (hin2 : InBounds c2 ops)
    (hs : ∃ o ∈ ops, o.idx = i ∧ (o.typ = opPut ∨ o.typ = opMerge ∨ o.typ = opDelete)) :
    let r := ops.foldl (stepNum k) (c, [], [])
    (slot (r.2.1.reverse.foldl (stepNum k2) (c2, [], [])).1 i).1 = (slot r.1 i).1 :=
  (num_rewritten_replay_visible k k2 c c2 ops i hin hin2 (Or.inl hs)).1

theorem num_rewritten_replay_untouched (k k2 : NumKind) (c c2 : Col) (ops : List Op) (i : Nat)
    (hin2 : InBounds c2 ops) (hno : ∀ o ∈ ops, o.idx ≠ i) :
    let r := ops.foldl (stepNum k) (c, [], [])
    slot (r.2.1.reverse.foldl (stepNum k2) (c2, [], [])).1 i = slot c2 i := by
  dsimp only
  rw [foldNum_rewritten, foldNum_col]
  exact rwList_frame k k2 ops c c2 i hin2 hno

/-- The replay never consults the replica's merge function: give the replica any other merge
    function `m'` and any other numeric kind, every slot ends the same. -/
theorem replay_ignores_replica_merge (k k2 k3 : NumKind) (c c2 : Col) (m' : Bytes → Bytes → Bytes)
    (ops : List Op) (i : Nat) (hin2 : InBounds c2 ops) :
    let r := ops.foldl (stepNum k) (c, [], [])
    slot (r.2.1.reverse.foldl (stepNum k3) ({ c2 with merge := m' }, [], [])).1 i =
      slot (r.2.1.reverse.foldl (stepNum k2) (c2, [], [])).1 i := by
  dsimp only
  rw [foldNum_rewritten, foldNum_col, foldNum_col]
  exact foldCol_no_merge_indep k2 k3 _ c2 { c2 with merge := m' } i (hin2.rewritten k c)
    (hin2.rewritten k c) (rwList_no_merge k ops c) rfl

/-! ### through `applyData` — one commit -/

theorem applyData_num_replay_same_slot (hash hash2 : Bytes → Nat) (k k2 : NumKind) (c c2 : Col) (chunk : Nat)
    (ops : List Op) (i : Nat) (hk : c.kind = .num k) (hk2 : c2.kind = .num k2)
    (hc : chunk < c.nchunks) (hc2 : chunk < c2.nchunks)
    (hin : InBounds c ops) (hin2 : InBounds c2 ops)
    (hs : (∃ o ∈ ops, o.idx = i ∧ (o.typ = opPut ∨ o.typ = opMerge)) ∨ slot c2 i = slot c i) :
    slot (applyData hash2 c2 chunk (applyData hash c chunk ops).ops).col i =
      slot (applyData hash c chunk ops).col i := by
  have h := applyData_num_replay hash hash2 k k2 c c2 chunk ops i hk hk2 hc hc2 hin hin2 hs
  have ha : (applyData hash c chunk ops).appended = [] := by rw [applyData_num hash c k hk chunk hc ops]
  rw [ha, List.append_nil] at h
  exact h

theorem applyData_num_emitted (hash : Bytes → Nat) (k : NumKind) (c : Col) (chunk : Nat) (ops : List Op)
    (hk : c.kind = .num k) (hc : chunk < c.nchunks) :
    (applyData hash c chunk ops).appended = [] ∧ (applyData hash c chunk ops).panic = false ∧
    (∀ o ∈ (applyData hash c chunk ops).ops, o.typ ≠ opMerge) ∧
    (applyData hash c chunk ops).ops.map (·.idx) = ops.map (·.idx) := by
  rw [applyData_num hash c k hk chunk hc ops]
  exact ⟨rfl, rfl, rwList_no_merge k ops c, map_idx_rwList k ops c⟩

/-- **Replica stays in sync (numeric).** A replica whose slots all equal the primary's, fed the
    section the primary emits for a commit, has again all slots equal to the primary's — any
    section (repeated offsets, merges, deletes, markers), any two merge functions. -/
theorem replica_stays_in_sync_num (hash hash2 : Bytes → Nat) (k k2 : NumKind) (c c2 : Col) (chunk : Nat)
    (ops : List Op) (hk : c.kind = .num k) (hk2 : c2.kind = .num k2)
    (hc : chunk < c.nchunks) (hc2 : chunk < c2.nchunks)
    (hin : InBounds c ops) (hin2 : InBounds c2 ops)
    (hsync : ∀ i, slot c2 i = slot c i) :
    ∀ i, slot (applyData hash2 c2 chunk (applyData hash c chunk ops).ops).col i =
      slot (applyData hash c chunk ops).col i :=
  fun i => applyData_num_replay_same_slot hash hash2 k k2 c c2 chunk ops i hk hk2 hc hc2 hin hin2
    (Or.inr (hsync i))

/-- … hence every typed read returns the same on both sides (same number of chunks) -/
theorem replica_stays_in_sync_num_read (hash hash2 : Bytes → Nat) (k k2 : NumKind) (c c2 : Col) (chunk : Nat)
    (ops : List Op) (hk : c.kind = .num k) (hk2 : c2.kind = .num k2)
    (hc : chunk < c.nchunks) (hc2 : chunk < c2.nchunks) (hn : c2.nchunks = c.nchunks)
    (hin : InBounds c ops) (hin2 : InBounds c2 ops)
    (hsync : ∀ i, slot c2 i = slot c i) :
    ∀ i, (applyData hash2 c2 chunk (applyData hash c chunk ops).ops).col.read i =
      (applyData hash c chunk ops).col.read i := by
  intro i
  have hsh := applyData_sameShape hash c chunk ops
  have hsh2 := applyData_sameShape hash2 c2 chunk (applyData hash c chunk ops).ops
  exact read_num_of_slot_eq (hsh.kind.trans hk) (hsh2.kind.trans hk2)
    (by rw [hsh.nchunks, hsh2.nchunks]; exact hn) i
    (replica_stays_in_sync_num hash hash2 k k2 c c2 chunk ops hk hk2 hc hc2 hin hin2 hsync i)

/-- … and with arrays of the same size the presence bitmap and the data array are *identical* -/
theorem replica_stays_identical_num (hash hash2 : Bytes → Nat) (k k2 : NumKind) (c c2 : Col) (chunk : Nat)
    (ops : List Op) (hk : c.kind = .num k) (hk2 : c2.kind = .num k2)
    (hc : chunk < c.nchunks) (hc2 : chunk < c2.nchunks)
    (hin : InBounds c ops) (hin2 : InBounds c2 ops)
    (hb : c2.bits = c.bits) (hd : c2.data = c.data) :
    (applyData hash2 c2 chunk (applyData hash c chunk ops).ops).col.bits = (applyData hash c chunk ops).col.bits ∧
    (applyData hash2 c2 chunk (applyData hash c chunk ops).ops).col.data = (applyData hash c chunk ops).col.data := by
  have hsh := applyData_sameShape hash c chunk ops
  have hsh2 := applyData_sameShape hash2 c2 chunk (applyData hash c chunk ops).ops
  apply arrays_eq_of_slots
  · rw [hsh.bsize, hsh2.bsize, hb]
  · rw [hsh.dsize, hsh2.dsize, hd]
  · apply replica_stays_in_sync_num hash hash2 k k2 c c2 chunk ops hk hk2 hc hc2 hin hin2
    intro i; unfold slot; rw [hb, hd]

/-! ### a history of commits (numeric) -/

/-- **Convergence over any history (numeric), per offset.** The primary applies the commits
    `(chunk, section)` one after the other (`primaryRun`) and emits each rewritten section; the
    replica replays the emitted commits in emission order (`replicaRun`). Offset `i` ends with the
    primary's slot if some Put / Merge anywhere in the history addresses it — the replica need not
    have been in sync — or if it was in sync before. -/
theorem replica_converges_num_at (hash hash2 : Bytes → Nat) (k k2 : NumKind) (commits : List (Nat × List Op))
    (c c2 : Col) (i : Nat) (hk : c.kind = .num k) (hk2 : c2.kind = .num k2)
    (hok : ∀ p ∈ commits, p.1 < c.nchunks ∧ p.1 < c2.nchunks ∧ InBounds c p.2 ∧ InBounds c2 p.2)
    (hs : (∃ p ∈ commits, ∃ o ∈ p.2, o.idx = i ∧ (o.typ = opPut ∨ o.typ = opMerge)) ∨
          slot c2 i = slot c i) :
    slot (replicaRun hash2 c2 (primaryRun hash c commits).2) i = slot (primaryRun hash c commits).1 i :=
  replicaRun_num hash hash2 k k2 commits c c2 i hk hk2 hok hs

/-- **Convergence over any history (numeric).** A replica in sync before the history is in sync
    after it, at every offset; its typed reads agree with the primary's. -/
theorem replica_converges_num (hash hash2 : Bytes → Nat) (k k2 : NumKind) (commits : List (Nat × List Op))
    (c c2 : Col) (hk : c.kind = .num k) (hk2 : c2.kind = .num k2) (hn : c2.nchunks = c.nchunks)
    (hok : ∀ p ∈ commits, p.1 < c.nchunks ∧ InBounds c p.2 ∧ InBounds c2 p.2)
    (hsync : ∀ i, slot c2 i = slot c i) :
    (∀ i, slot (replicaRun hash2 c2 (primaryRun hash c commits).2) i = slot (primaryRun hash c commits).1 i) ∧
    (∀ i, (replicaRun hash2 c2 (primaryRun hash c commits).2).read i = (primaryRun hash c commits).1.read i) := by
  have hok' : ∀ p ∈ commits, p.1 < c.nchunks ∧ p.1 < c2.nchunks ∧ InBounds c p.2 ∧ InBounds c2 p.2 := by
    intro p hp
    obtain ⟨a, b, d⟩ := hok p hp
    exact ⟨a, by rw [hn]; exact a, b, d⟩
  have hslots := fun i => replicaRun_num hash hash2 k k2 commits c c2 i hk hk2 hok' (Or.inr (hsync i))
  refine ⟨hslots, ?_⟩
  intro i
  have hsh := primaryRun_shape hash commits c
  have hsh2 := replicaRun_shape hash2 (primaryRun hash c commits).2 c2
  exact read_num_of_slot_eq (hsh.kind.trans hk) (hsh2.kind.trans hk2)
    (by rw [hsh.nchunks, hsh2.nchunks]; exact hn) i (hslots i)

/-! ## Q1 — string / record columns (guard: finding D12) -/

/-- **Replica stays in sync (strings / records).** What is emitted for a string section is the
    rewritten section followed by the puts appended for resizing merges. Guard (finding D12): no op
    on an offset follows a resizing merge on that offset in the same section. -/
theorem replica_stays_in_sync_str (hash hash2 : Bytes → Nat) (c c2 : Col) (chunk : Nat) (ops : List Op)
    (hk : c.kind = .str ∨ c.kind = .record) (hk2 : c2.kind = .str ∨ c2.kind = .record)
    (hc : chunk < c.nchunks) (hc2 : chunk < c2.nchunks)
    (hin : InBounds c ops) (hin2 : InBounds c2 ops)
    (hg : ∀ i, NoOpAfterResize i (traceStr (c, [], []) ops))
    (hsync : ∀ i, slot c2 i = slot c i) :
    ∀ i, slot (applyData hash2 c2 chunk
        ((applyData hash c chunk ops).ops ++ (applyData hash c chunk ops).appended)).col i =
      slot (applyData hash c chunk ops).col i :=
  fun i => C01str.applyData_replay_same_slot hash hash2 c c2 chunk ops i hk hk2 hc hc2 hin hin2 (hg i)
    (Or.inr (hsync i))

theorem guard_of_appended_nil (hash : Bytes → Nat) (c : Col) (chunk : Nat) (ops : List Op)
    (hk : c.kind = .str ∨ c.kind = .record) (hc : chunk < c.nchunks) (hin : InBounds c ops)
    (ha : (applyData hash c chunk ops).appended = []) :
    ∀ i, NoOpAfterResize i (traceStr (c, [], []) ops) := by
  rw [applyData_str hash c chunk ops hk hc] at ha
  exact noOpAfterResize_of_appended_nil c ops hin ha

/-- the same with the other guard: nothing was appended through the parent buffer (no merge of the
    section changed the length of its value) — then the rewritten section alone is replayed -/
theorem replica_stays_in_sync_str_noresize (hash hash2 : Bytes → Nat) (c c2 : Col) (chunk : Nat) (ops : List Op)
    (hk : c.kind = .str ∨ c.kind = .record) (hk2 : c2.kind = .str ∨ c2.kind = .record)
    (hc : chunk < c.nchunks) (hc2 : chunk < c2.nchunks)
    (hin : InBounds c ops) (hin2 : InBounds c2 ops)
    (ha : (applyData hash c chunk ops).appended = [])
    (hsync : ∀ i, slot c2 i = slot c i) :
    ∀ i, slot (applyData hash2 c2 chunk (applyData hash c chunk ops).ops).col i =
      slot (applyData hash c chunk ops).col i := by
  intro i
  have h := replica_stays_in_sync_str hash hash2 c c2 chunk ops hk hk2 hc hc2 hin hin2
    (guard_of_appended_nil hash c chunk ops hk hc hin ha) hsync i
  rw [ha, List.append_nil] at h
  exact h

/-- **Convergence over any guarded history (strings / records).** `GuardedRun hash c commits`: every
    commit satisfies the D12 guard on the column state it is applied to. -/
theorem replica_converges_str (hash hash2 : Bytes → Nat) (commits : List (Nat × List Op)) (c c2 : Col)
    (hk : c.kind = .str ∨ c.kind = .record) (hk2 : c2.kind = .str ∨ c2.kind = .record)
    (hok : ∀ p ∈ commits, p.1 < c.nchunks ∧ p.1 < c2.nchunks ∧ InBounds c p.2 ∧ InBounds c2 p.2)
    (hg : GuardedRun hash c commits)
    (hsync : ∀ i, slot c2 i = slot c i) :
    ∀ i, slot (replicaRun hash2 c2 (primaryRun hash c commits).2) i = slot (primaryRun hash c commits).1 i :=
  fun i => replicaRun_str hash hash2 commits c c2 i hk hk2 hok hg (Or.inr (hsync i))

/-- without the guard the statement is false: finding D12 (`C01str.resize_then_put_counterexample`),
    restated as "a replica in sync before the commit is not in sync after it" -/
theorem str_unguarded_counterexample :
    let c := C01str.concatCol
    let r := applyData (fun _ => 0) c 0 C01str.d12Ops
    slot (applyData (fun _ => 0) c 0 (r.ops ++ r.appended)).col 0 ≠ slot r.col 0 := by
  decide

/-! ## Q2 — the schedule part: every interleaving of the abstract machine -/

section Schedule
variable {cfg : ProtoCfg} {merge : Nat → Nat → Nat} {w0 w : W}

/-- `valueAt` is what the commit really leaves: at the moment a commit is handed to the logger
    (`emit`, the thread is at `wroteB c id`) — and from its `storeAcc` on — the chunk's current value
    is `valueAt … id`. -/
theorem emit_carries_current_value (hi : Init w0) (hr : Reach cfg merge w0 w) {t c id : Nat}
    (h : w.pc t = .wroteAcc c id ∨ w.pc t = .wroteA c id ∨ w.pc t = .wroteB c id) :
    valueAt merge (w0.acc c) (w.applied c) id = w.acc c := by
  have hinv := reach_inv hi hr
  have hids := hinv.str.pend t c id (by rcases h with h | h | h <;> rw [h] <;> rfl)
  rw [C09.merge_fold hi hr c]
  unfold idsOf at hids
  cases happ : w.applied c with
  | nil => rw [happ] at hids; simp at hids
  | cons r older =>
    rw [happ] at hids
    simp only [List.map_cons, List.cons.injEq] at hids
    rw [← hids.1, valueAt_head]

/-- … and that value is not affected by what is applied later: for the id of ANY applied commit,
    `valueAt` is the fold of the records up to and including that commit -/
theorem valueAt_is_prefix_fold (hi : Init w0) (hr : Reach cfg merge w0 w) (c : Nat)
    (newer older : List Rec) (r : Rec) (h : w.applied c = newer ++ r :: older) :
    valueAt merge (w0.acc c) (w.applied c) r.id = foldAcc merge (w0.acc c) (r :: older) := by
  have hnd := C15conc.ids_nodup hi hr c
  unfold idsOf at hnd
  rw [h] at hnd ⊢
  apply valueAt_append
  intro x hx e
  rw [List.map_append, List.map_cons] at hnd
  have := (List.nodup_append.1 hnd).2.2 x.id (List.mem_map.2 ⟨x, hx, rfl⟩) r.id (by simp)
  exact this e

/-- **Q2, main statement.** For every interleaving of any number of writers on any number of
    chunks, arbitrary merge function: whenever the primary is quiescent, a replica that replayed the
    stream entries of chunk `c` in arrival order holds the primary's value of `c`. -/
theorem stream_converges (hi : Init w0) (hr : Reach cfg merge w0 w) (hq : Quiescent w) (c : Nat) :
    replicaAcc merge (w0.acc c) (w.applied c) ((w.stream.filter (·.1 = c)).map (·.2)) = w.acc c := by
  rw [C15conc.stream_quiescent hi hr hq c, C09.merge_fold hi hr c]
  exact replicaAcc_all merge (w0.acc c) (w.applied c)

/-- **Non-quiescent form.** At any moment the replica of chunk `c` holds the primary's value after a
    prefix of the primary's commits: all of them, or — while a writer of `c` is between its
    `storeAcc` and its `emit` — all but the most recent one. -/
theorem replica_is_prefix_state (hi : Init w0) (hr : Reach cfg merge w0 w) (c : Nat) :
    let rep := replicaAcc merge (w0.acc c) (w.applied c) ((w.stream.filter (·.1 = c)).map (·.2))
    rep = foldAcc merge (w0.acc c) (w.applied c) ∨
      ((∃ t x, w.pc t = .wroteAcc c x ∨ w.pc t = .wroteA c x ∨ w.pc t = .wroteB c x) ∧
        rep = foldAcc merge (w0.acc c) (w.applied c).tail) := by
  intro rep
  rcases C15conc.stream_is_apply_order hi hr c with h | ⟨t, x, hpc, h⟩
  · left
    show replicaAcc merge (w0.acc c) (w.applied c) ((w.stream.filter (·.1 = c)).map (·.2)) = _
    rw [h]
    exact replicaAcc_all merge (w0.acc c) (w.applied c)
  · right
    refine ⟨⟨t, x, hpc⟩, ?_⟩
    show replicaAcc merge (w0.acc c) (w.applied c) ((w.stream.filter (·.1 = c)).map (·.2)) = _
    have hs : (w.stream.filter (·.1 = c)).map (·.2) = ((w.applied c).map (·.id)).tail := by
      have : idsOf w c = (w.applied c).map (·.id) := rfl
      rw [← this, h]; rfl
    rw [hs]
    exact replicaAcc_tail merge (w0.acc c) (w.applied c) (C15conc.ids_nodup hi hr c)

/-- the replica is never ahead of the primary and at most one commit behind: in the window it
    holds exactly the value the primary had before the commit in flight -/
theorem replica_equals_primary_outside_window (hi : Init w0) (hr : Reach cfg merge w0 w) (c : Nat)
    (hn : ∀ t x, w.pc t ≠ .wroteAcc c x ∧ w.pc t ≠ .wroteA c x ∧ w.pc t ≠ .wroteB c x) :
    replicaAcc merge (w0.acc c) (w.applied c) ((w.stream.filter (·.1 = c)).map (·.2)) = w.acc c := by
  rw [C15conc.stream_eq_of_no_pending hi hr c hn, C09.merge_fold hi hr c]
  exact replicaAcc_all merge (w0.acc c) (w.applied c)

/-! ### all chunks at once; entries of different chunks commute -/

/-- the absolute value entry `(c, id)` of the stream carries -/
def entryValue (merge : Nat → Nat → Nat) (w0 w : W) (c id : Nat) : Nat :=
  valueAt merge (w0.acc c) (w.applied c) id

/-- **Only the per-chunk order matters.** The replica of all chunks replays the whole stream
    (`replayStream`, entries of all chunks interleaved as they arrived). Its value of chunk `c` is
    the replica value of the sub-stream of `c` … -/
theorem replay_order_matters_only_per_chunk (merge : Nat → Nat → Nat) (w0 w : W) (s : List (Nat × Nat))
    (c : Nat) :
    replayStream (entryValue merge w0 w) w0.acc s c =
      replicaAcc merge (w0.acc c) (w.applied c) ((s.filter (·.1 = c)).map (·.2)) := by
  rw [replayStream_chunk]; rfl

/-- … hence two arrival orders with the same per-chunk sub-streams (entries of different chunks
    swapped in any way) leave the replica in the same state -/
theorem replay_commutes_across_chunks (merge : Nat → Nat → Nat) (w0 w : W) (s s' : List (Nat × Nat))
    (h : ∀ c, s.filter (·.1 = c) = s'.filter (·.1 = c)) :
    replayStream (entryValue merge w0 w) w0.acc s = replayStream (entryValue merge w0 w) w0.acc s' := by
  funext c
  rw [replay_order_matters_only_per_chunk, replay_order_matters_only_per_chunk, h c]

/-- **Convergence, all chunks.** Whenever the primary is quiescent, the replica that replayed the
    whole stream holds the primary's value of every chunk. -/
theorem stream_converges_all (hi : Init w0) (hr : Reach cfg merge w0 w) (hq : Quiescent w) :
    replayStream (entryValue merge w0 w) w0.acc w.stream = w.acc := by
  funext c
  rw [replay_order_matters_only_per_chunk]
  exact stream_converges hi hr hq c

end Schedule

/-! ## Q3 — non-vacuity -/

/-- a 4-slot i32 column, merge = byte-wise addition (any function will do) -/
def numCol : Col :=
  { name := "n", kind := .num .i32, merge := fun a d => List.zipWith (· + ·) a d, nchunks := 1,
    bits := #[true, false, true, false], data := #[[1, 0, 0, 0], [], [7, 7, 7, 7], []] }

/-- a replica with other content and another merge function -/
def numReplica : Col :=
  { name := "n", kind := .num .i32, merge := fun a _ => a, nchunks := 1,
    bits := #[false, true, true, true], data := #[[9, 9, 9, 9], [8, 8, 8, 8], [7, 7, 7, 7], [6]] }

/-- a section with repeated offsets out of order, merges on present / absent / just-deleted rows,
    a delete after a put, an insert marker -/
def numOps : List Op :=
  [⟨opMerge, 1, .fixed 2 [5, 0, 0, 0]⟩, ⟨opPut, 0, .fixed 2 [2, 0, 0, 0]⟩, ⟨opInsert, 3, .fixed 0 []⟩,
   ⟨opMerge, 0, .fixed 2 [3, 0, 0, 0]⟩, ⟨opDelete, 1, .fixed 0 []⟩, ⟨opMerge, 1, .fixed 2 [4, 0, 0, 0]⟩,
   ⟨opPut, 3, .fixed 2 [1, 1, 1, 1]⟩, ⟨opDelete, 3, .fixed 0 []⟩]

example : InBounds numCol numOps := by decide
example : InBounds numReplica numOps := by decide
example : numCol.kind = .num .i32 ∧ numReplica.kind = .num .i32 ∧ 0 < numCol.nchunks ∧ 0 < numReplica.nchunks :=
  ⟨rfl, rfl, by decide, by decide⟩
example : ∃ o ∈ numOps, o.idx = 0 ∧ (o.typ = opPut ∨ o.typ = opMerge) := by decide
/-- offset 2 is addressed by nothing and the two columns agree on it -/
example : slot numReplica 2 = slot numCol 2 := by decide

/-- what the primary emits: every Merge became a Put of the merged value (the merge on the absent
    row 1 read the zero-padded empty slot; the one after the Delete read the stale bytes) -/
example :
    (applyData (fun _ => 0) numCol 0 numOps).ops =
      [⟨opPut, 1, .fixed 2 [5, 0, 0, 0]⟩, ⟨opPut, 0, .fixed 2 [2, 0, 0, 0]⟩, ⟨opInsert, 3, .fixed 0 []⟩,
       ⟨opPut, 0, .fixed 2 [5, 0, 0, 0]⟩, ⟨opDelete, 1, .fixed 0 []⟩, ⟨opPut, 1, .fixed 2 [9, 0, 0, 0]⟩,
       ⟨opPut, 3, .fixed 2 [1, 1, 1, 1]⟩, ⟨opDelete, 3, .fixed 0 []⟩] := by decide +kernel

/-- the replica (other content, other merge function) ends with the primary's slots at the offsets
    written by a Put / Merge (0, 1) and at the offset in sync before (2); offset 3 (Put then Delete)
    also coincides here because the Put resynchronised it -/
example :
    let r := applyData (fun _ => 0) numCol 0 numOps
    (List.range 4).map (slot (applyData (fun _ => 0) numReplica 0 r.ops).col) = (List.range 4).map (slot r.col) := by
  decide +kernel

example :
    slot (applyData (fun _ => 0) numReplica 0 (applyData (fun _ => 0) numCol 0 numOps).ops).col 0 =
      slot (applyData (fun _ => 0) numCol 0 numOps).col 0 :=
  applyData_num_replay_same_slot _ _ .i32 .i32 numCol numReplica 0 numOps 0 rfl rfl (by decide) (by decide)
    (by decide) (by decide) (Or.inl (by decide))

/-- Delete-only on an offset the replica held other stale bytes for: same presence bit, raw bytes
    differ — why full slot equality asks for a Put / Merge or for sync before -/
theorem delete_only_stale_bytes_differ :
    let ops : List Op := [⟨opDelete, 0, .fixed 0 []⟩]
    let r := applyData (fun _ => 0) numCol 0 ops
    slot r.col 0 = (false, [1, 0, 0, 0]) ∧
    slot (applyData (fun _ => 0) numReplica 0 r.ops).col 0 = (false, [9, 9, 9, 9]) := by
  decide

/-- a two-commit history on chunk 0 satisfies the hypotheses of `replica_converges_num` -/
def numHistory : List (Nat × List Op) := [(0, numOps), (0, [⟨opMerge, 2, .fixed 2 [1, 2, 3, 4]⟩, ⟨opDelete, 0, .fixed 0 []⟩])]

example : ∀ p ∈ numHistory, p.1 < numCol.nchunks ∧ InBounds numCol p.2 ∧ InBounds numCol p.2 := by decide

/-- a replica that starts as a copy of the primary but merges differently ends identical -/
example :
    let rep : Col := { numCol with merge := fun a _ => a }
    (List.range 4).map (slot (replicaRun (fun _ => 0) rep (primaryRun (fun _ => 0) numCol numHistory).2)) =
      (List.range 4).map (slot (primaryRun (fun _ => 0) numCol numHistory).1) := by
  decide +kernel

/-- strings: the guarded sample section of C01str, replica a copy with another merge function -/
example : ∀ i, NoOpAfterResize i (traceStr (C01str.concatCol, [], []) C01str.sampleOps) := by
  intro i
  by_cases h : i < 4
  · have : ∀ j < 4, NoOpAfterResize j (traceStr (C01str.concatCol, [], []) C01str.sampleOps) := by decide +kernel
    exact this i h
  · apply List.pairwise_of_forall_mem_list
    intro a ha b hb e
    exfalso
    have : ∀ p ∈ traceStr (C01str.concatCol, [], []) C01str.sampleOps, p.1.idx < 4 := by decide +kernel
    have := this a ha
    omega

/-! ### the schedule part on a concrete run: two writers interleaved on one chunk -/

/-- Threads 0 and 1 both commit chunk 0 (delta 5 each), `begin` steps interleaved, thread 0 first
    through the latch; 18 steps; the end world is quiescent. -/
theorem run_two_writers (cfg : ProtoCfg) (h : cfg.idInsideLatch = true) (merge : Nat → Nat → Nat) :
    ∃ w, Reach cfg merge Demo.w0 w ∧ Quiescent w ∧ w.applied 0 = [⟨1, 2, 5⟩, ⟨0, 1, 5⟩] ∧
      w.stream = [(0, 2), (0, 1)] ∧ w.acc 0 = merge (merge 0 5) 5 := by
  have r1 := Reach.step (Reach.refl (cfg := cfg) (merge := merge) (w0 := Demo.w0))
    (Step.begin Demo.w0 0 0 [] rfl rfl h)
  have r2 := Reach.step r1 (Step.begin _ 1 0 [] rfl rfl h)
  have r3 := Reach.step r2 (Step.acquire _ 0 0 none rfl rfl rfl)
  have r4 := Reach.step r3 (Step.draw _ 0 0 rfl)
  have r5 := Reach.step r4 (Step.load _ 0 0 1 rfl)
  have r6 := Reach.step r5 (Step.storeAcc _ 0 0 1 0 rfl)
  have r7 := Reach.step r6 (Step.writeA _ 0 0 1 rfl)
  have r8 := Reach.step r7 (Step.writeB _ 0 0 1 rfl)
  have r9 := Reach.step r8 (Step.emit _ 0 0 1 rfl)
  have r10 := Reach.step r9 (Step.release _ 0 0 1 rfl)
  have r11 := Reach.step r10 (Step.acquire _ 1 0 none rfl rfl rfl)
  have r12 := Reach.step r11 (Step.draw _ 1 0 rfl)
  have r13 := Reach.step r12 (Step.load _ 1 0 2 rfl)
  have r14 := Reach.step r13 (Step.storeAcc _ 1 0 2 (merge 0 5) rfl)
  have r15 := Reach.step r14 (Step.writeA _ 1 0 2 rfl)
  have r16 := Reach.step r15 (Step.writeB _ 1 0 2 rfl)
  have r17 := Reach.step r16 (Step.emit _ 1 0 2 rfl)
  have r18 := Reach.step r17 (Step.release _ 1 0 2 rfl)
  refine ⟨_, r18, ?_, rfl, rfl, rfl⟩
  intro t
  by_cases h1 : t = 1
  · simp [setPc, h1]
  · by_cases h0 : t = 0
    · simp [setPc, h0]
    · simp [setPc, h0, h1, Demo.w0]

/-- the replica of that run: fed `[2, 1]` (most recent first) it holds `merge (merge 0 5) 5` -/
example (merge : Nat → Nat → Nat) : ∃ w, Reach ProtoCfg.good merge Demo.w0 w ∧ Quiescent w ∧
    replicaAcc merge 0 (w.applied 0) [2, 1] = merge (merge 0 5) 5 ∧
    replayStream (entryValue merge Demo.w0 w) Demo.w0.acc w.stream = w.acc := by
  obtain ⟨w, hr, hq, happ, hs, hacc⟩ := run_two_writers ProtoCfg.good rfl merge
  refine ⟨w, hr, hq, ?_, stream_converges_all Demo.init_w0 hr hq⟩
  have := stream_converges Demo.init_w0 hr hq 0
  rw [hs, hacc] at this
  exact this

/-- mid-commit the replica is one commit behind: after thread 0's `storeAcc` (6 steps) nothing has
    been emitted, the primary holds `merge 0 5`, the replica still `0` -/
example (merge : Nat → Nat → Nat) : ∃ w, Reach ProtoCfg.good merge Demo.w0 w ∧ w.acc 0 = merge 0 5 ∧
    replicaAcc merge (Demo.w0.acc 0) (w.applied 0) ((w.stream.filter (·.1 = 0)).map (·.2)) = 0 := by
  have r1 := Reach.step (Reach.refl (cfg := ProtoCfg.good) (merge := merge) (w0 := Demo.w0))
    (Step.begin Demo.w0 0 0 [] rfl rfl rfl)
  have r3 := Reach.step r1 (Step.acquire _ 0 0 none rfl rfl rfl)
  have r4 := Reach.step r3 (Step.draw _ 0 0 rfl)
  have r5 := Reach.step r4 (Step.load _ 0 0 1 rfl)
  have r6 := Reach.step r5 (Step.storeAcc _ 0 0 1 0 rfl)
  exact ⟨_, r6, rfl, rfl⟩

end ColumnVerif.Props.C06
