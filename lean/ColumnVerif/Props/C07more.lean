import ColumnVerif.Lemmas.RestoreMore
import ColumnVerif.Props.C07
import ColumnVerif.Props.C11
/-!
# C07, second half — Count, later inserts, and a second snapshot of the restored collection

"… and the same Count. The restored collection then behaves like the original under further transactions: new inserts
never overwrite restored rows and later snapshots round-trip again."

`r := s0.readState (s.snapshot).1` is the restored store throughout.

1. **Count.** `Store.count` is written by the recount at the end of `commitMarkers` only (besides `next` / `free`), and
   `commitMarkers` only runs for a chunk whose `row` buffer is not empty. So `r.count = Bits.count r.fill` does *not* follow
   from `0 < s.nChunks` alone (`readState_count_needs_hypothesis`: a snapshot of one chunk without live rows leaves a stale
   counter of the target as it is). It holds when the target is quiescent (`readState_count`; a new collection: `count = 0`,
   empty fill list) or when some committed chunk of the source holds a live row (`readState_count_live`). `FillInv`
   (C11's invariant) of the target is kept (`readState_fillInv`). With a quiescent source whose live rows all lie in
   committed chunks and a target with an empty fill list: `r.count = s.count` (`readState_count_eq`) — no condition on the
   lengths of the two fill lists is needed (`count_congr`).
2. **Later inserts.** `restored_insert_is_fresh`, `restored_insert_not_restored_row`, `restored_inserts_never_collide`.
3. **A second snapshot.** `snapshotOps_congr` (Lemmas/RestoreMore), `snapshot_again_numeric` (the numeric column's snapshot
   of every committed chunk — ops and panic flag — is the same in `r` and in `s`; `CanonAt` is *not* needed: `Snapshot`
   writes `padTo width` of the raw slot and `padTo` is idempotent), `snapshot_again_row`, `readState_nChunks`.
-/
namespace ColumnVerif.Props.C07more
open ColumnVerif.Codec ColumnVerif.Store ColumnVerif.Bits
open ColumnVerif.Props.C07 ColumnVerif.Props.C11

/-! ## 1 — Count -/

/-- every relation between the number of set fill bits and the row counter that holds on the diagonal is kept by
    `readState` of any snapshot into any store -/
theorem readState_countRel (R : Nat → Nat → Prop) (hR : ∀ n, R n n) (s s0 : Store)
    (h0 : R (Bits.count s0.fill) s0.count) :
    R (Bits.count (s0.readState (s.snapshot).1).fill) (s0.readState (s.snapshot).1).count := by
  rw [readState_snapshot]
  exact readChunks_induct s s0 (fun _ st => R (Bits.count st.fill) st.count) _ h0
    (fun n st _ ih => commit_countRel R hR st _ ih)

/-- **`readState_count`**: restored into a quiescent store (a new collection: `count = 0`, no fill bit), the counter is the
    number of occupied offsets -/
theorem readState_count (s s0 : Store) (h0 : s0.count = Bits.count s0.fill) :
    (s0.readState (s.snapshot).1).count = Bits.count (s0.readState (s.snapshot).1).fill :=
  readState_countRel (fun n c => c = n) (fun _ => rfl) s s0 h0

/-- **`FillInv`** (C11) of the target is kept by the restore -/
theorem readState_fillInv (s s0 : Store) (h0 : FillInv s0) : FillInv (s0.readState (s.snapshot).1) :=
  readState_countRel (fun n c => n ≤ c) (fun _ => Nat.le_refl _) s s0 h0

theorem chunkTxn_marker (s : Store) (j : Nat) (hb : Bits.get s.fill j = true) :
    (chunkTxn s (j / 16384)).updates.find? isMarkerBuf = some (rowBufOf s (j / 16384)) := by
  have hne : rowMarkers s (j / 16384) ≠ [] := by
    intro e
    have := rowMarkers_filter s (j / 16384) j
    rw [e, if_pos ⟨rfl, hb⟩] at this
    cases this
  have hm : isMarkerBuf (rowBufOf s (j / 16384)) = true := by
    unfold isMarkerBuf
    rw [(rowBuf_ops s (j / 16384)).2.2.1]
    unfold rowBufOf
    rw [(putAll_empty_rangeOps rowColumn (rowMarkers s (j / 16384)) (j / 16384) (rowMarkers_chunk s _)).2.2.2.1]
    cases h : rowMarkers s (j / 16384) with
    | nil => exact absurd h hne
    | cons o os => simp
  unfold chunkTxn
  simp only
  rw [chunkState_buffers, List.find?_cons, hm]

/-- **`readState_count_live`**: when some committed chunk of the source holds a live row, the restore ends recounted,
    whatever the counter of the target was -/
theorem readState_count_live (s s0 : Store) (j : Nat) (hj : j / 16384 < s.nChunks) (hb : Bits.get s.fill j = true) :
    (s0.readState (s.snapshot).1).count = Bits.count (s0.readState (s.snapshot).1).fill := by
  rw [readState_snapshot]
  -- recounted from the chunk of `j` on
  refine readChunks_induct s s0 (fun n st => j / 16384 < n → st.count = Bits.count st.fill) _ (fun h => by omega) ?_ hj
  intro n st _ ih hn
  by_cases h : j / 16384 < n
  · exact commit_countRel (fun n c => c = n) (fun _ => rfl) _ _ (ih h)
  · have e : n = j / 16384 := by omega
    rw [e]
    apply commit_recount _ _ _ (chunkTxn_marker s j hb)
    intro hd
    have := chunkTxn_last s (j / 16384)
    rw [hd] at this
    cases this

theorem readState_fillInv_live (s s0 : Store) (j : Nat) (hj : j / 16384 < s.nChunks) (hb : Bits.get s.fill j = true) :
    FillInv (s0.readState (s.snapshot).1) := by
  unfold FillInv
  rw [readState_count_live s s0 j hj hb]
  exact Nat.le_refl _

theorem readState_fill_eq (s s0 : Store) (hn : NamesDistinct s) (hr : s.findCol rowColumn = none)
    (hcommitted : ∀ j, Bits.get s.fill j = true → j / 16384 < s.nChunks)
    (hfresh : ∀ j, Bits.get s0.fill j = false) (j : Nat) :
    Bits.get (s0.readState (s.snapshot).1).fill j = Bits.get s.fill j := by
  by_cases hj : j / 16384 < s.nChunks
  · exact readState_fill_fresh s s0 hn hr hfresh j hj
  · rw [readState_fill s s0 hn hr j, if_neg (fun h => hj h.1), hfresh j]
    cases hb : Bits.get s.fill j with
    | false => rfl
    | true => exact absurd (hcommitted j hb) hj

/-- **`readState_count_eq`** — "the same Count": quiescent source, every live row in a committed chunk; quiescent target
    with an empty fill list. No hypothesis on the sizes of the fill lists. -/
theorem readState_count_eq (s s0 : Store) (hn : NamesDistinct s) (hr : s.findCol rowColumn = none)
    (hq : s.count = Bits.count s.fill) (hcommitted : ∀ j, Bits.get s.fill j = true → j / 16384 < s.nChunks)
    (h0 : s0.count = Bits.count s0.fill) (hfresh : ∀ j, Bits.get s0.fill j = false) :
    (s0.readState (s.snapshot).1).count = s.count := by
  rw [readState_count s s0 h0, hq]
  exact count_congr _ _ (readState_fill_eq s s0 hn hr hcommitted hfresh)

/-! ## 2 — new inserts never overwrite restored rows -/

/-- **`restored_insert_is_fresh`**: the offset the next insert into the restored collection receives is unoccupied -/
theorem restored_insert_is_fresh (s s0 : Store) (h0 : FillInv s0) :
    Bits.get (s0.readState (s.snapshot).1).fill (s0.readState (s.snapshot).1).next.2 = false :=
  next_is_free _ (readState_fillInv s s0 h0)

/-- … hence it is not the offset of any restored row (a row live in a committed chunk of the source) -/
theorem restored_insert_not_restored_row (s s0 : Store) (hn : NamesDistinct s) (hr : s.findCol rowColumn = none)
    (h0 : FillInv s0) (j : Nat) (hj : j / 16384 < s.nChunks) (hb : Bits.get s.fill j = true) :
    (s0.readState (s.snapshot).1).next.2 ≠ j := by
  intro e
  have h1 := restored_insert_is_fresh s s0 h0
  rw [e, readState_fill s s0 hn hr j, if_pos ⟨hj, hb⟩] at h1
  cases h1

/-- … the reservation leaves every restored row occupied … -/
theorem restored_insert_keeps_rows (s s0 : Store) (hn : NamesDistinct s) (hr : s.findCol rowColumn = none)
    (h0 : FillInv s0) (j : Nat) (hj : j / 16384 < s.nChunks) (hb : Bits.get s.fill j = true) :
    Bits.get (s0.readState (s.snapshot).1).next.1.fill j = true := by
  rw [next_frame _ j (fun e => restored_insert_not_restored_row s s0 hn hr h0 j hj hb e.symm),
    readState_fill s s0 hn hr j, if_pos ⟨hj, hb⟩]

/-- … and so does every later history of inserts, failed inserts, commits and rollbacks (C11 from the restored store on) -/
theorem restored_inserts_never_collide (s s0 : Store) (h0 : FillInv s0) (ops : List FillOp)
    (hok : histOk (s0.readState (s.snapshot).1) ops) :
    ∀ p ∈ runFill (s0.readState (s.snapshot).1) ops, p.2 = false :=
  inserts_never_collide _ ops (readState_fillInv s s0 h0) hok

/-! ## 3 — later snapshots round-trip again -/

/-- **`snapshot_again_numeric`**: hypotheses of `readState_readback` (no `CanonAt`). For every committed chunk of the
    source, `Column.Snapshot(chunk)` of the numeric column `x` writes the same ops (and raises no panic) in the restored
    store as in the source. -/
theorem snapshot_again_numeric (s s0 : Store) (x : String) (k : NumKind) (c c0 : Col)
    (hn : NamesDistinct s) (hr : s.findCol rowColumn = none)
    (hf : s.findCol x = some c) (hk : c.kind = .num k) (hcovc : s.commits.size ≤ c.nchunks)
    (hf0 : s0.findCol x = some c0) (hk0 : c0.kind = .num k) (hw0 : ColWF c0) (hcov0 : s0.commits.size ≤ c0.nchunks)
    (hcomp0 : ∀ n c', s0.findCol n = some c' → x ∉ c'.computed)
    (hfresh : ∀ i, Bits.get c0.bits i = false) :
    ∃ col', (s0.readState (s.snapshot).1).findCol x = some col' ∧ col'.kind = .num k ∧ col'.name = c.name ∧
      ∀ ch, ch < s.nChunks → col'.snapshotOps ch = c.snapshotOps ch ∧ (c.snapshotOps ch).2 = false := by
  rw [readState_snapshot]
  obtain ⟨col', f, k', _, _, _, n', _, _, sl⟩ := readState_upTo s s0 x k c c0 hn hr hf hk hcovc hf0 hk0 hw0 hcov0 hcomp0
    s.nChunks (Nat.le_refl _)
  refine ⟨col', f, k', (findCol_name f).trans (findCol_name hf).symm, fun ch hch => ?_⟩
  have hcc : ch < c.nchunks := by unfold Store.nChunks at hch; omega
  refine ⟨?_, by rw [snapshotOps_raw c (by rw [hk]; rfl) ch hcc]⟩
  apply snapshotOps_congr_slot col' c k k' hk ch (by omega) hcc
  intro i hi
  rw [sl i]
  by_cases hb : Bits.get c.bits i = true
  · rw [if_pos ⟨by omega, hb⟩]
    refine ⟨by unfold slot; rw [hb], fun _ => ?_⟩
    simp only
    unfold slot
    simp only
    rw [← getD_eq, padTo_idem]
  · rw [if_neg (fun h => hb h.2)]
    have e1 : (slot c0 i).1 = false := hfresh i
    have e2 : (slot c i).1 = false := by unfold slot; simpa using hb
    refine ⟨by rw [e1, e2], fun h => ?_⟩
    rw [e1] at h; cases h

/-- … so the buffer `writeState` emits for column `x` and a committed chunk is the same in both snapshots -/
theorem snapshot_again_numeric_buf (s s0 : Store) (x : String) (k : NumKind) (c c0 : Col)
    (hn : NamesDistinct s) (hr : s.findCol rowColumn = none)
    (hf : s.findCol x = some c) (hk : c.kind = .num k) (hcovc : s.commits.size ≤ c.nchunks)
    (hf0 : s0.findCol x = some c0) (hk0 : c0.kind = .num k) (hw0 : ColWF c0) (hcov0 : s0.commits.size ≤ c0.nchunks)
    (hcomp0 : ∀ n c', s0.findCol n = some c' → x ∉ c'.computed)
    (hfresh : ∀ i, Bits.get c0.bits i = false) :
    ∃ col', (s0.readState (s.snapshot).1).findCol x = some col' ∧
      ∀ ch, ch < s.nChunks →
        (Buf.empty col'.name).putAll (col'.snapshotOps ch).1 = (Buf.empty c.name).putAll (c.snapshotOps ch).1 := by
  obtain ⟨col', f, _, nm, h⟩ := snapshot_again_numeric s s0 x k c c0 hn hr hf hk hcovc hf0 hk0 hw0 hcov0 hcomp0 hfresh
  exact ⟨col', f, fun ch hch => by rw [nm, (h ch hch).1]⟩

/-- with `CanonAt`: the restored column reads like the source *and* snapshots like the source -/
theorem snapshot_again_numeric_exact (s s0 : Store) (x : String) (k : NumKind) (c c0 : Col)
    (hn : NamesDistinct s) (hr : s.findCol rowColumn = none)
    (hf : s.findCol x = some c) (hk : c.kind = .num k) (hcovc : s.commits.size ≤ c.nchunks)
    (hf0 : s0.findCol x = some c0) (hk0 : c0.kind = .num k) (hw0 : ColWF c0) (hcov0 : s0.commits.size ≤ c0.nchunks)
    (hcomp0 : ∀ n c', s0.findCol n = some c' → x ∉ c'.computed)
    (hfresh : ∀ i, Bits.get c0.bits i = false) (hcanon : ∀ ch, CanonAt c ch) :
    ∃ col', (s0.readState (s.snapshot).1).findCol x = some col' ∧
      (∀ i, i / 16384 < s.nChunks → col'.read i = c.read i) ∧
      ∀ ch, ch < s.nChunks → (col'.snapshotOps ch).1 = (c.snapshotOps ch).1 := by
  obtain ⟨col', f, _, _, h⟩ := snapshot_again_numeric s s0 x k c c0 hn hr hf hk hcovc hf0 hk0 hw0 hcov0 hcomp0 hfresh
  obtain ⟨col2, f2, h2⟩ := readState_readback_exact s s0 x k c c0 hn hr hf hk hcovc hf0 hk0 hw0 hcov0 hcomp0 hfresh hcanon
  rw [f] at f2
  injection f2 with f2
  subst f2
  exact ⟨col', f, h2, fun ch hch => by rw [(h ch hch).1]⟩

/-- **`snapshot_again_row`**: the `row` buffer of every committed chunk is the same in a snapshot of the restored store -/
theorem snapshot_again_row (s s0 : Store) (hn : NamesDistinct s) (hr : s.findCol rowColumn = none)
    (hfresh : ∀ j, Bits.get s0.fill j = false) (ch : Nat) (hch : ch < s.nChunks) :
    rowBufOf (s0.readState (s.snapshot).1) ch = rowBufOf s ch ∧
    ((s0.readState (s.snapshot).1).chunkState ch).1.buffers.head? = (s.chunkState ch).1.buffers.head? := by
  have h := rowBufOf_congr (s0.readState (s.snapshot).1) s ch
    (fun j hj => readState_fill_fresh s s0 hn hr hfresh j (by omega))
  refine ⟨h, ?_⟩
  rw [chunkState_buffers, chunkState_buffers, h]
  rfl

/-- the restored store has as many chunks as the source when the target had no more (a new collection has none or one):
    a snapshot of the restored store walks the same chunks -/
theorem readState_nChunks (s s0 : Store) :
    (s0.readState (s.snapshot).1).nChunks = max s0.nChunks s.nChunks := by
  rw [readState_snapshot]
  exact readState_commits_size_upTo s s0 s.nChunks

theorem readState_nChunks_eq (s s0 : Store) (h : s0.nChunks ≤ s.nChunks) :
    (s0.readState (s.snapshot).1).nChunks = s.nChunks := by
  rw [readState_nChunks]; omega

/-! ## why `0 < s.nChunks` alone does not give `count = Bits.count fill`

A chunk whose `row` buffer is empty is committed without `commitMarkers`, hence without a recount: a snapshot of one
chunk that holds no live row, read into a target whose counter is stale, leaves the counter as it is. -/

theorem readState_count_noLive (s s0 : Store) (hr : s.findCol rowColumn = none)
    (hdead : ∀ j, j / 16384 < s.nChunks → Bits.get s.fill j = false) :
    (s0.readState (s.snapshot).1).count = s0.count := by
  rw [readState_snapshot]
  refine readChunks_induct s s0 (fun _ st => st.count = s0.count) _ rfl ?_
  intro n st hn ih
  rw [commit_count_noMarkers _ _ (chunkTxn_noMarker s n hr (fun j hj => hdead j (by omega)))]
  exact ih

def emptySrc : Store := { commits := #[0] }
def staleTgt : Store := { count := 5 }

/-- one committed chunk, no live row, target with a stale counter: `count = 5`, no fill bit set -/
theorem readState_count_needs_hypothesis :
    0 < emptySrc.nChunks ∧ (staleTgt.readState (emptySrc.snapshot).1).count = 5 ∧
    Bits.count (staleTgt.readState (emptySrc.snapshot).1).fill = 0 := by
  have hr : emptySrc.findCol rowColumn = none := by simp [emptySrc, Store.findCol]
  have e : ∀ j, Bits.get emptySrc.fill j = false := by intro j; simp [emptySrc, Bits.get]
  refine ⟨by decide, ?_, ?_⟩
  · rw [readState_count_noLive emptySrc staleTgt hr (fun j _ => e j)]
    rfl
  · apply count_zero_of_get
    intro j
    rw [readState_fill emptySrc staleTgt (by simp [NamesDistinct, emptySrc]) hr j,
      if_neg (fun h => by rw [e j] at h; cases h.2)]
    simp [staleTgt, Bits.get]

/-! ## 4 — non-vacuity: the example stores of `Props/C07.lean` -/

theorem freshStore_quiescent : freshStore.count = Bits.count freshStore.fill := by decide
theorem freshStore_fillInv : FillInv freshStore := by unfold FillInv; decide
theorem freshStore_fill_empty : ∀ j, Bits.get freshStore.fill j = false := by
  intro j; simp [freshStore, Bits.get]

theorem srcStore_live5 : Bits.get srcStore.fill 5 = true := by simp [srcStore, Bits.get]

/-- a sufficient size condition for "every live row lies in a committed chunk": the fill list is not longer than the
    committed chunks (bits beyond the end of the list read `false`) -/
theorem committed_of_size (s : Store) (h : s.fill.size ≤ 16384 * s.nChunks) :
    ∀ j, Bits.get s.fill j = true → j / 16384 < s.nChunks := by
  intro j hj
  have hlt : j < s.fill.size := lt_size_of_get hj
  omega

theorem srcStore_committed : ∀ j, Bits.get srcStore.fill j = true → j / 16384 < srcStore.nChunks :=
  committed_of_size srcStore (by simp [srcStore, Store.nChunks])

theorem count_replicate_set (n i : Nat) (h : i < n) :
    Bits.count ((Array.replicate n false).setIfInBounds i true) = 1 := by
  unfold Bits.count
  rw [Array.toList_setIfInBounds, Array.toList_replicate,
    countP_set_true _ i (by rw [List.length_replicate]; exact h) (List.getElem_replicate ..), List.countP_replicate]
  rfl

theorem srcStore_fill_count : Bits.count srcStore.fill = 1 := by
  simp only [srcStore]
  exact count_replicate_set 16384 5 (by decide)

/-- the source of the example with its row counter in the quiescent state (one live row; `srcStore` itself keeps the
    default `count := 0`, which no hypothesis of `Props/C07.lean` looks at) -/
def srcStoreQ : Store :=
  { cols := #[src], commits := #[3], fill := (Array.replicate 16384 false).setIfInBounds 5 true, count := 1 }

theorem srcStoreQ_names : NamesDistinct srcStoreQ := by simp [NamesDistinct, srcStoreQ]
theorem srcStoreQ_norow : srcStoreQ.findCol rowColumn = none := by
  simp [srcStoreQ, Store.findCol, src, rowColumn]
theorem srcStoreQ_quiescent : srcStoreQ.count = Bits.count srcStoreQ.fill := by
  simp only [srcStoreQ]
  exact (count_replicate_set 16384 5 (by decide)).symm
theorem srcStoreQ_committed : ∀ j, Bits.get srcStoreQ.fill j = true → j / 16384 < srcStoreQ.nChunks :=
  committed_of_size srcStoreQ (by simp [srcStoreQ, Store.nChunks])

example : (freshStore.readState (srcStore.snapshot).1).count = Bits.count (freshStore.readState (srcStore.snapshot).1).fill :=
  readState_count srcStore freshStore freshStore_quiescent

example : (freshStore.readState (srcStore.snapshot).1).count = Bits.count (freshStore.readState (srcStore.snapshot).1).fill :=
  readState_count_live srcStore freshStore 5 (by decide) srcStore_live5

example : FillInv (freshStore.readState (srcStore.snapshot).1) := readState_fillInv srcStore freshStore freshStore_fillInv

example : (freshStore.readState (srcStoreQ.snapshot).1).count = srcStoreQ.count ∧ srcStoreQ.count = 1 :=
  ⟨readState_count_eq srcStoreQ freshStore srcStoreQ_names srcStoreQ_norow srcStoreQ_quiescent srcStoreQ_committed
    freshStore_quiescent freshStore_fill_empty, rfl⟩

example : Bits.get (freshStore.readState (srcStore.snapshot).1).fill (freshStore.readState (srcStore.snapshot).1).next.2 = false :=
  restored_insert_is_fresh srcStore freshStore freshStore_fillInv

example : (freshStore.readState (srcStore.snapshot).1).next.2 ≠ 5 :=
  restored_insert_not_restored_row srcStore freshStore srcStore_names srcStore_norow freshStore_fillInv 5 (by decide)
    srcStore_live5

example : ∃ col', (freshStore.readState (srcStore.snapshot).1).findCol "n" = some col' ∧ col'.kind = .num .u32 ∧
    col'.name = src.name ∧
    ∀ ch, ch < srcStore.nChunks → col'.snapshotOps ch = src.snapshotOps ch ∧ (src.snapshotOps ch).2 = false :=
  snapshot_again_numeric srcStore freshStore "n" .u32 src fresh srcStore_names srcStore_norow srcStore_find rfl
    (by decide) freshStore_find rfl fresh_wf (by decide) freshStore_computed fresh_empty

example : ∃ col', (freshStore.readState (srcStore.snapshot).1).findCol "n" = some col' ∧
    (∀ i, i / 16384 < srcStore.nChunks → col'.read i = src.read i) ∧
    ∀ ch, ch < srcStore.nChunks → (col'.snapshotOps ch).1 = (src.snapshotOps ch).1 :=
  snapshot_again_numeric_exact srcStore freshStore "n" .u32 src fresh srcStore_names srcStore_norow srcStore_find rfl
    (by decide) freshStore_find rfl fresh_wf (by decide) freshStore_computed fresh_empty src_canon

example : rowBufOf (freshStore.readState (srcStore.snapshot).1) 0 = rowBufOf srcStore 0 :=
  (snapshot_again_row srcStore freshStore srcStore_names srcStore_norow freshStore_fill_empty 0 (by decide)).1

example : (freshStore.readState (srcStore.snapshot).1).nChunks = srcStore.nChunks :=
  readState_nChunks_eq srcStore freshStore (by decide)

end ColumnVerif.Props.C07more

#print axioms ColumnVerif.Props.C07more.readState_countRel
#print axioms ColumnVerif.Props.C07more.readState_count
#print axioms ColumnVerif.Props.C07more.readState_count_live
#print axioms ColumnVerif.Props.C07more.readState_fillInv
#print axioms ColumnVerif.Props.C07more.readState_count_eq
#print axioms ColumnVerif.Props.C07more.readState_count_noLive
#print axioms ColumnVerif.Props.C07more.readState_count_needs_hypothesis
#print axioms ColumnVerif.Props.C07more.restored_insert_is_fresh
#print axioms ColumnVerif.Props.C07more.restored_insert_not_restored_row
#print axioms ColumnVerif.Props.C07more.restored_insert_keeps_rows
#print axioms ColumnVerif.Props.C07more.restored_inserts_never_collide
#print axioms ColumnVerif.Store.snapshotOps_congr
#print axioms ColumnVerif.Store.snapshotOps_congr_pad
#print axioms ColumnVerif.Props.C07more.snapshot_again_numeric
#print axioms ColumnVerif.Props.C07more.snapshot_again_numeric_buf
#print axioms ColumnVerif.Props.C07more.snapshot_again_numeric_exact
#print axioms ColumnVerif.Props.C07more.snapshot_again_row
#print axioms ColumnVerif.Props.C07more.readState_nChunks
