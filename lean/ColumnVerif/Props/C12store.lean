import ColumnVerif.Lemmas.StoreRead
import ColumnVerif.Props.C12
/-!
# C12 at store level — the key invariant through the real `Store.commit`

`Props/C12.lean` proves that one `applyData` pass over a key column keeps `KeyInv` (the table `seek` maps exactly the keys
of present rows to their rows) when the section meets the guard `WFKeyOps`. Here the statement is carried through
`Store.commit` with `Lemmas/StoreCol.commit_col`: the key column after a commit is the fold over the dirty chunks of
`applyData` over the chunk's markers followed by the ops issued for the key column in that chunk (`chunkOps`), so the guard
is `WFKeyOps` of exactly those op lists, each in the state in which it is applied (`WFKeyChunks`; for a list of
transactions `WFKeyTxns`).

The `row` markers take part: a `Delete` marker reaches the key column through `commitMarkers` and releases the key of the
deleted row (`stepKey`'s delete branch) — which is why `DeleteKey` frees a key — so they are part of the guarded op list.

Hypotheses (all decidable / satisfiable, see the example in `Props/C01storeAny.lean`):
* `pk ≠ "row"`, `s.findCol pk = some kc`, `kc.kind = .key`;
* `ColWF kc` — `bits` and `data` have `16384 * nchunks` slots (what `Col.grow` produces). Needed because `commitCapacity`
  grows both arrays: with `bits` longer than `data` the invariant would not survive the growth;
* `pk` is not a computed column attached to an updated column (follows from `ComputedKinds s`);
* `KeyInv kc` and the guard `WFKeyChunks`.
-/
namespace ColumnVerif.Props.C12store
open ColumnVerif.Codec ColumnVerif.Bits ColumnVerif.Store

/-- the guard of C12 for a whole commit: for every dirty chunk, in order, the markers of the chunk followed by the ops
    issued for the key column in that chunk meet `WFKeyOps` in the state the previous chunks leave -/
def WFKeyChunks (hash : Bytes → Nat) (ups : List Buf) (pk : String) : List Nat → Col → Prop
  | [], _ => True
  | ch :: cs, c =>
    WFKeyOps c (chunkOps ups pk ch) ∧ WFKeyChunks hash ups pk cs (applyData hash c ch (chunkOps ups pk ch)).col

instance decWFKeyChunks (hash : Bytes → Nat) (ups : List Buf) (pk : String) :
    (cs : List Nat) → (c : Col) → Decidable (WFKeyChunks hash ups pk cs c)
  | [], _ => isTrue trivial
  | ch :: cs, c =>
    have := decWFKeyChunks hash ups pk cs (applyData hash c ch (chunkOps ups pk ch)).col
    inferInstanceAs (Decidable (_ ∧ _))

/-- `C12.applyData_key_inv` without the "chunk allocated" hypothesis (a missing chunk leaves the column alone) -/
theorem applyData_key_inv_any (hash : Bytes → Nat) (c : Col) (chunk : Nat) (ops : List Op)
    (hk : c.kind = .key) (hinv : KeyInv c) (hw : WFKeyOps c ops) : KeyInv (applyData hash c chunk ops).col := by
  by_cases hc : chunk < c.nchunks
  · exact C12.applyData_key_inv hash c chunk ops hk hc hinv hw
  · rw [applyData_of_ge hash c chunk ops (by omega)]; exact hinv

theorem colChunks_key_inv (hash : Bytes → Nat) (ups : List Buf) (pk : String) (cs : List Nat) :
    ∀ col : Col, col.kind = .key → KeyInv col → WFKeyChunks hash ups pk cs col →
      KeyInv (colChunks hash ups pk cs col) := by
  induction cs with
  | nil => intro col _ hinv _; exact hinv
  | cons c cs ih =>
    intro col hk hinv hwf
    rw [colChunks_cons]
    exact ih _ (by rw [(applyData_sameShape hash col c _).kind]; exact hk)
      (applyData_key_inv_any hash col c _ hk hinv hwf.1) hwf.2

/-- `Grow` (through `commitCapacity`) keeps the key invariant of a well-formed key column -/
theorem capCol_key_inv (s : Store) (t : Txn) (kc : Col) (hk : kc.kind = .key) (hw : ColWF kc) (hinv : KeyInv kc) :
    KeyInv (capCol s t kc) := by
  have hd : kc.kind.isData = true := by rw [hk]; rfl
  obtain ⟨g1, _, g3, g4, g5, _⟩ := capCol_data s t kc hd
  have hw' := g5 hw
  have hmul : 16384 * kc.nchunks ≤ 16384 * (capCol s t kc).nchunks := Nat.mul_le_mul_left _ g3
  exact keyInv_transfer kc _ g1 g4 (by rw [hw.bsize, hw'.bsize]; exact hmul) (by rw [hw.dsize, hw'.dsize]; exact hmul)
    (by rw [hw.bsize, hw.dsize]; exact Nat.le_refl _) hinv

/-- **`commit_key_inv`**: if `KeyInv` holds for the key column of `s` and the ops of every dirty chunk addressed to the key
    column (markers included) meet `WFKeyOps` in the state in which they are applied, then `KeyInv` holds for the key
    column of `s.commit t` — which is the column `colChunks` computes, of the same kind, well-formed again -/
theorem commit_key_inv (s : Store) (t : Txn) (pk : String) (kc : Col)
    (hxr : pk ≠ rowColumn) (hf : s.findCol pk = some kc) (hk : kc.kind = .key) (hw : ColWF kc)
    (hcomp : ∀ v ∈ t.updates, ∀ c, s.findCol v.column = some c → pk ∉ c.computed)
    (hinv : KeyInv kc)
    (hwf : WFKeyChunks s.hash t.updates pk t.dirtyChunks (capCol s t kc)) :
    ∃ kc', (s.commit t).findCol pk = some kc' ∧ kc'.kind = .key ∧ ColWF kc' ∧ kc.nchunks ≤ kc'.nchunks ∧
      KeyInv kc' ∧ kc' = colChunks s.hash t.updates pk t.dirtyChunks (capCol s t kc) := by
  have hd : kc.kind.isData = true := by rw [hk]; rfl
  have hk1 : (capCol s t kc).kind = .key := (capCol_meta s t kc).2.1.trans hk
  have hna : NoAppend s.hash t.updates pk t.dirtyChunks (capCol s t kc) :=
    NoAppend_of_kind _ _ _ _ _ (by rw [hk1]; exact ⟨fun h => (by cases h), fun h => (by cases h)⟩)
  have hsh := colChunks_shape s.hash t.updates pk t.dirtyChunks (capCol s t kc)
  obtain ⟨_, _, g3, _, g5, _⟩ := capCol_data s t kc hd
  refine ⟨_, commit_col s t pk kc hxr hf hd hcomp hna, hsh.kind.trans hk1, ColWF.of_shape hsh (g5 hw),
    by rw [hsh.nchunks]; exact g3, ?_, rfl⟩
  exact colChunks_key_inv s.hash t.updates pk t.dirtyChunks _ hk1 (capCol_key_inv s t kc hk hw hinv) hwf

/-- the guard for a sequence of transactions: each one's `WFKeyChunks` in the store the previous commits leave -/
def WFKeyTxns (pk : String) : List Txn → Store → Prop
  | [], _ => True
  | t :: ts, s =>
    (∀ kc, s.findCol pk = some kc → WFKeyChunks s.hash t.updates pk t.dirtyChunks (capCol s t kc)) ∧
    WFKeyTxns pk ts (s.commit t)

/-- **`commits_key_inv`**: any sequence of committed transactions (fixed schema) keeps the key invariant -/
theorem commits_key_inv (pk : String) (hxr : pk ≠ rowColumn) (ts : List Txn) :
    ∀ (s : Store) (kc : Col), s.findCol pk = some kc → kc.kind = .key → ColWF kc → KeyInv kc →
      (∀ t ∈ ts, ∀ v ∈ t.updates, ∀ c, s.findCol v.column = some c → pk ∉ c.computed) → WFKeyTxns pk ts s →
      ∃ kc', (ts.foldl Store.commit s).findCol pk = some kc' ∧ kc'.kind = .key ∧ ColWF kc' ∧ kc.nchunks ≤ kc'.nchunks ∧
        KeyInv kc' := by
  induction ts with
  | nil =>
    intro s kc hf hk hw hinv _ _
    exact ⟨kc, hf, hk, hw, Nat.le_refl _, hinv⟩
  | cons t ts ih =>
    intro s kc hf hk hw hinv hcomp hwf
    simp only [List.foldl_cons]
    obtain ⟨kc1, f1, k1, w1, n1, i1, _⟩ := commit_key_inv s t pk kc hxr hf hk hw (hcomp t (by simp)) hinv (hwf.1 kc hf)
    obtain ⟨kc2, f2, k2, w2, n2, i2⟩ := ih (s.commit t) kc1 f1 k1 w1 i1 (by
      intro t' ht' v hv c hc
      obtain ⟨c0, hc0, e, _⟩ := commit_back s t v.column c hc
      rw [e]
      exact hcomp t' (by simp [ht']) v hv c0 hc0) hwf.2
    exact ⟨kc2, f2, k2, w2, Nat.le_trans n1 n2, i2⟩

/-- **`offsetOf_after_commit`**: after the commit, `OffsetOf(key)` answers `i` exactly when row `i` is present in the key
    column and its key is `key` — in the raw form (`C12.offsetOf_iff_present`) and as seen by the typed reader
    (`C12.lookup_reaches`); hence at most one live row holds any given key -/
theorem offsetOf_after_commit (s : Store) (t : Txn) (pk : String) (kc : Col) (hpk : s.pk = some pk)
    (hxr : pk ≠ rowColumn) (hf : s.findCol pk = some kc) (hk : kc.kind = .key) (hw : ColWF kc)
    (hcomp : ∀ v ∈ t.updates, ∀ c, s.findCol v.column = some c → pk ∉ c.computed)
    (hinv : KeyInv kc)
    (hwf : WFKeyChunks s.hash t.updates pk t.dirtyChunks (capCol s t kc)) :
    ∃ kc', (s.commit t).findCol pk = some kc' ∧ KeyInv kc' ∧
      (∀ key i, (s.commit t).offsetOf key = some i ↔
        (Bits.get kc'.bits i = true ∧ keyAt kc' i = key ∧ i < kc'.bits.size ∧ i < kc'.data.size)) ∧
      (∀ key i, (s.commit t).offsetOf key = some i ↔ kc'.read i = some key) ∧
      (∀ key i j, kc'.read i = some key → kc'.read j = some key → i = j) := by
  obtain ⟨kc', f', k', w', _, i', _⟩ := commit_key_inv s t pk kc hxr hf hk hw hcomp hinv hwf
  have hpk' : (s.commit t).pk = some pk := (commit_pk s t).trans hpk
  refine ⟨kc', f', i', ?_, ?_, ?_⟩
  · intro key i
    exact C12.offsetOf_iff_present (s.commit t) key pk kc' hpk' f' i' i
  · intro key i
    rw [C12.offsetOf_eq (s.commit t) key pk kc' hpk' f']
    exact C12.lookup_reaches kc' i' k' w'.dsize key i
  · intro key i j h1 h2
    exact C12.key_unique_read kc' i' k' w'.dsize key i j h1 h2

theorem offsetOf_after_commits (pk : String) (hxr : pk ≠ rowColumn) (ts : List Txn) (s : Store) (kc : Col)
    (hpk : s.pk = some pk) (hf : s.findCol pk = some kc) (hk : kc.kind = .key) (hw : ColWF kc) (hinv : KeyInv kc)
    (hcomp : ∀ t ∈ ts, ∀ v ∈ t.updates, ∀ c, s.findCol v.column = some c → pk ∉ c.computed)
    (hwf : WFKeyTxns pk ts s) :
    ∃ kc', (ts.foldl Store.commit s).findCol pk = some kc' ∧ KeyInv kc' ∧
      (∀ key i, (ts.foldl Store.commit s).offsetOf key = some i ↔ kc'.read i = some key) ∧
      (∀ key i j, kc'.read i = some key → kc'.read j = some key → i = j) := by
  obtain ⟨kc', f', k', w', _, i'⟩ := commits_key_inv pk hxr ts s kc hf hk hw hinv hcomp hwf
  have hpk' : (ts.foldl Store.commit s).pk = some pk := by
    have : ∀ (ts : List Txn) (s : Store), (ts.foldl Store.commit s).pk = s.pk := by
      intro ts
      induction ts with
      | nil => intro s; rfl
      | cons t ts ih => intro s; simp only [List.foldl_cons]; rw [ih, commit_pk]
    rw [this]; exact hpk
  refine ⟨kc', f', i', ?_, ?_⟩
  · intro key i
    rw [C12.offsetOf_eq _ key pk kc' hpk' f']
    exact C12.lookup_reaches kc' i' k' w'.dsize key i
  · intro key i j h1 h2
    exact C12.key_unique_read kc' i' k' w'.dsize key i j h1 h2

end ColumnVerif.Props.C12store
