import ColumnVerif.Conc.SnapInvariants
/-!
# C08 — a snapshot taken under concurrent commits restores to a consistent cut

`Conc/SnapMachine.lean` is `Snapshot` running against committing writers as a small-step machine:
any number of writers, any number of chunks, any schedule; the recorder pointer load and the log
append of a writer are separate steps, so `sClose` and `sCopy` may fall between them. A chunk's
content is the list of commit ids applied to it, most recent first; "the block after a prefix of its
commits (in apply order)" is therefore a *suffix* `(w.content c).drop k` of that list.

Everything below holds in **every** world reachable from an initial world (`Init w0`, `Reach w0 w`).

* N1  latch mutual exclusion; the content of a chunk is strictly decreasing with ids in `(0, next]`;
      `lastId` is the head of the content, or the id drawn and not yet applied; the log of a chunk is
      strictly decreasing and contained in the content;
* N2  the recorder is on exactly while `spc = .opened _`; what `readChunk` stored is a suffix of the
      content, and the id stored with it is its head;
* N3  prefix closure of the recorded set: (logged ids of `c` newer than the id read) ++ (content read)
      is a suffix of the content — exactly the content, up to the commit of a holder that has applied
      and not yet appended, while the recorder is on;
* N4  `consistent_cut`: after `sCopy` the restored block is a suffix of the content at the moment of
      the copy, hence of the final content, and contains every commit whose latch section had
      finished when the snapshot call began;
* N5  the restored list is strictly decreasing (no commit twice, none out of order);
* N6  a concrete run: one commit before the snapshot, one recorded during it, `restored = [2, 1]`.
-/
namespace ColumnVerif.Props.C08
open ColumnVerif.Conc.Snap

section
variable {w0 w : W}

/-! ### N1 — basic invariants -/

theorem inLatch_iff (p : WPC) (c : Nat) :
    InLatch p c ↔ p = .held c ∨ (∃ id, p = .drawn c id) ∨ (∃ id, p = .applied c id) ∨
      (∃ id b, p = .sawRecorder c id b) ∨ ∃ id, p = .recorded c id := by
  cases p <;> simp [InLatch, latchChunk]

/-- a writer at `held/drawn/applied/sawRecorder/recorded c …` is the holder of `c` -/
theorem latch_holder (hi : Init w0) (hr : Reach w0 w) {t c : Nat} (h : InLatch (w.pc t) c) :
    w.holder c = some t :=
  (reach_inv hi hr).m.whold t c h

/-- … and the holder of `c` is at such a pc -/
theorem holder_in_section (hi : Init w0) (hr : Reach w0 w) {t c : Nat} (h : w.holder c = some t) :
    InLatch (w.pc t) c :=
  (reach_inv hi hr).m.hpc t c h

/-- at most one writer per chunk is inside the latch section -/
theorem latch_exclusive (hi : Init w0) (hr : Reach w0 w) {t u c : Nat} (ht : InLatch (w.pc t) c)
    (hu : InLatch (w.pc u) c) : t = u :=
  (reach_inv hi hr).m.unique ht hu

/-- the content of a chunk is strictly decreasing: no commit applied twice, ids increase in apply order -/
theorem content_strictly_ordered (hi : Init w0) (hr : Reach w0 w) (c : Nat) :
    (w.content c).Pairwise (· > ·) :=
  (reach_inv hi hr).c.sorted c

/-- applied ids are non-zero and at most the counter -/
theorem content_bounds (hi : Init w0) (hr : Reach w0 w) (c : Nat) :
    ∀ x ∈ w.content c, 0 < x ∧ x ≤ w.next :=
  fun x hx => ⟨(reach_inv hi hr).c.pos c x hx, (reach_inv hi hr).c.bound c x hx⟩

/-- a writer between `draw` and `apply`: `commits[c]` is its id, which is above everything applied -/
theorem lastId_drawn (hi : Init w0) (hr : Reach w0 w) {t c id : Nat} (h : w.pc t = .drawn c id) :
    w.lastId c = id ∧ ∀ x ∈ w.content c, x < id :=
  ⟨(reach_inv hi hr).c.drawn_last t c id h, fun x hx => (reach_inv hi hr).c.drawn_gt t c id x h hx⟩

/-- otherwise `commits[c]` is the id of the last commit applied to `c` -/
theorem lastId_head (hi : Init w0) (hr : Reach w0 w) {c : Nat} (h : ∀ t id, w.pc t ≠ .drawn c id) :
    w.lastId c = (w.content c).headD 0 :=
  (reach_inv hi hr).lastId_head h

/-- the log restricted to a chunk is strictly decreasing (most recent first) -/
theorem log_strictly_ordered (hi : Init w0) (hr : Reach w0 w) (c : Nat) :
    ((w.log.filter (·.1 = c)).map (·.2)).Pairwise (· > ·) :=
  (reach_inv hi hr).l.sorted c

/-- every logged commit of a chunk has been applied to it -/
theorem log_subset_content (hi : Init w0) (hr : Reach w0 w) (c : Nat) :
    ∀ x ∈ (w.log.filter (·.1 = c)).map (·.2), x ∈ w.content c :=
  (reach_inv hi hr).l.mem c

/-! ### N2 — recorder flag, `readChunk` -/

/-- the recorder is installed exactly while the snapshot thread is between `sOpen` and `sClose` -/
theorem recorder_iff_opened (hi : Init w0) (hr : Reach w0 w) :
    w.recorder = true ↔ ∃ todo, w.spc = .opened todo := by
  have h := (reach_inv hi hr).r.flag
  constructor
  · intro hrec
    cases hs : w.spc with
    | opened todo => exact ⟨todo, rfl⟩
    | _ => rw [hs, hrec] at h; cases h
  · rintro ⟨todo, hs⟩; rw [hs] at h; exact h

/-- what `readChunk` stored for a chunk is the chunk after a prefix of its commits, and the id stored
    with it is the last commit of that prefix -/
theorem read_is_prefix (hi : Init w0) (hr : Reach w0 w) {c l : Nat} {cont : List Nat}
    (hread : w.snapRead c = some (l, cont)) :
    (∃ k, cont = (w.content c).drop k) ∧ l = cont.headD 0 :=
  ⟨suffix_drop (((reach_inv hi hr).chunk c).read_suffix hread),
    ((reach_inv hi hr).chunk c).read_last l cont hread⟩

/-! ### N3 — prefix closure of the recorded set -/

/-- the logged commits of `c` newer than the id read, followed by the content read, are the chunk
    after a prefix of its commits: no commit is missing from the middle, at every point of the run -/
theorem recorded_prefix_closed (hi : Init w0) (hr : Reach w0 w) {c l : Nat} {cont : List Nat}
    (hread : w.snapRead c = some (l, cont)) :
    ∃ k, ((w.log.filter (fun p => p.1 = c ∧ p.2 > l)).map (·.2)) ++ cont = (w.content c).drop k :=
  suffix_drop ((reach_inv hi hr).n.suffix c l cont hread)

/-- while the recorder is on nothing is missing at all, except the commit of the current holder of
    `c` between `apply` and `appendLog` -/
theorem recorded_complete_while_open (hi : Init w0) (hr : Reach w0 w) (hrec : w.recorder = true)
    {c l : Nat} {cont : List Nat} (hread : w.snapRead c = some (l, cont)) :
    ((w.log.filter (fun p => p.1 = c ∧ p.2 > l)).map (·.2)) ++ cont = w.content c ∨
      ∃ t id, (w.pc t = .applied c id ∨ w.pc t = .sawRecorder c id true) ∧
        w.content c = id :: (((w.log.filter (fun p => p.1 = c ∧ p.2 > l)).map (·.2)) ++ cont) :=
  (reach_inv hi hr).recorded_tight hrec hread

/-- … i.e. the recorded set lags the content by at most one commit while the recorder is on -/
theorem recorded_lag_le_one (hi : Init w0) (hr : Reach w0 w) (hrec : w.recorder = true)
    {c l : Nat} {cont : List Nat} (hread : w.snapRead c = some (l, cont)) :
    ∃ j, j ≤ 1 ∧
      ((w.log.filter (fun p => p.1 = c ∧ p.2 > l)).map (·.2)) ++ cont = (w.content c).drop j := by
  rcases recorded_complete_while_open hi hr hrec hread with h | ⟨t, id, _, h⟩
  · exact ⟨0, by omega, by rw [h]; rfl⟩
  · exact ⟨1, by omega, by rw [h]; rfl⟩

/-- a writer that saw the recorder on will append exactly the one missing commit — also after
    `sClose` -/
theorem late_append_is_next (hi : Init w0) (hr : Reach w0 w) {t c id l : Nat} {cont : List Nat}
    (hread : w.snapRead c = some (l, cont)) (hpc : w.pc t = .sawRecorder c id true) :
    w.content c = id :: (((w.log.filter (fun p => p.1 = c ∧ p.2 > l)).map (·.2)) ++ cont) :=
  (reach_inv hi hr).n.sawOn t c id l cont hread hpc

/-! ### N4 — the consistent cut -/

/-- After `sCopy`, for every chunk that was read: the restored block is
    1. the primary's block after a prefix of the commits applied to it *as of the copy* (nothing that
       was not committed when `Snapshot` returned),
    2. hence the block after a prefix of the commits in the final apply order (nothing lost from the
       middle, nothing out of order), and
    3. it contains every commit whose latch section had finished when the snapshot call began. -/
theorem consistent_cut (hi : Init w0) (hr : Reach w0 w) (hc : w.spc = .copied) (c : Nat) (l : Nat)
    (cont : List Nat) (hread : w.snapRead c = some (l, cont)) :
    (∃ k, restored w c = some ((w.contentAtCopy c).drop k)) ∧
    (∃ k, restored w c = some ((w.content c).drop k)) ∧
    (∃ m r, restored w c = some r ∧ w.doneBeforeOpen c = r.drop m) := by
  have h := reach_inv hi hr
  obtain ⟨h1, h2, h3⟩ := h.restored_cut hc hread
  rw [restored_eq hread]
  refine ⟨?_, ?_, ?_⟩
  · obtain ⟨k, hk⟩ := suffix_drop h1
    exact ⟨k, by rw [hk]⟩
  · obtain ⟨k, hk⟩ := suffix_drop (h1.trans h2)
    exact ⟨k, by rw [hk]⟩
  · obtain ⟨m, hm⟩ := suffix_drop h3
    exact ⟨m, _, rfl, hm⟩

/-- a restored commit was applied to the chunk (no phantom commits), in every reachable world -/
theorem restored_subset_content (hi : Init w0) (hr : Reach w0 w) {c : Nat} {r : List Nat}
    (hres : restored w c = some r) : ∀ x ∈ r, x ∈ w.content c := by
  have h := reach_inv hi hr
  cases hread : w.snapRead c with
  | none => simp [restored, hread] at hres
  | some p =>
    obtain ⟨l, cont⟩ := p
    rw [restored_eq hread] at hres
    injection hres with hres
    subst hres
    exact fun x hx => (h.restored_suffix hread).subset hx

/-! ### N5 — no commit twice -/

/-- the restored list is strictly decreasing: no commit is applied twice or out of order -/
theorem restored_strictly_ordered (hi : Init w0) (hr : Reach w0 w) {c : Nat} {r : List Nat}
    (hres : restored w c = some r) : r.Pairwise (· > ·) := by
  have h := reach_inv hi hr
  cases hread : w.snapRead c with
  | none => simp [restored, hread] at hres
  | some p =>
    obtain ⟨l, cont⟩ := p
    rw [restored_eq hread] at hres
    injection hres with hres
    subst hres
    exact (h.c.sorted c).sublist (h.restored_suffix hread).sublist

end

/-! ### N6 — non-vacuity: a concrete run -/

namespace Demo

/-- writers 0 and 1 each commit chunk 0 -/
def w0 : W where
  next := 0
  holder := fun _ => none
  lastId := fun _ => 0
  content := fun _ => []
  recorder := false
  log := []
  pc := fun _ => .idle
  todo := fun t => if t < 2 then [0] else []
  spc := .notStarted
  snapRead := fun _ => none
  snapLog := []
  doneBeforeOpen := fun _ => []
  contentAtCopy := fun _ => []

theorem init_w0 : Init w0 :=
  ⟨fun _ => rfl, fun _ => rfl, rfl, rfl, rfl, rfl, fun _ => rfl,
    fun _ => ⟨by simp [w0], rfl, by simp [w0], by simp [w0]⟩⟩

/-- writer 0 commits chunk 0 (id 1, not recorded); `sOpen`; `readChunk 0`; writer 1 commits chunk 0
    (id 2, recorded); `sClose`; `sCopy` -/
theorem run : ∃ w, Reach w0 w ∧ w.spc = .copied ∧ w.snapRead 0 = some (1, [1]) ∧
    w.snapLog = [(0, 2)] ∧ w.content 0 = [2, 1] ∧ w.contentAtCopy 0 = [2, 1] ∧
    w.doneBeforeOpen 0 = [1] ∧ restored w 0 = some [2, 1] := by
  have r0 : Reach w0 w0 := Reach.refl
  have r1 := Reach.step r0 (Step.begin _ 0 0 [] rfl rfl)
  have r2 := Reach.step r1 (Step.acquire _ 0 0 rfl rfl)
  have r3 := Reach.step r2 (Step.draw _ 0 0 rfl)
  have r4 := Reach.step r3 (Step.apply _ 0 0 1 rfl)
  have r5 := Reach.step r4 (Step.loadRecorder _ 0 0 1 rfl)
  have r6 := Reach.step r5 (Step.skipLog _ 0 0 1 rfl)
  have r7 := Reach.step r6 (Step.release _ 0 0 1 rfl)
  have r8 := Reach.step r7 (Step.sOpen _ [0] rfl)
  have r9 := Reach.step r8 (Step.sRead _ 0 [] rfl rfl)
  have r10 := Reach.step r9 (Step.begin _ 1 0 [] rfl rfl)
  have r11 := Reach.step r10 (Step.acquire _ 1 0 rfl rfl)
  have r12 := Reach.step r11 (Step.draw _ 1 0 rfl)
  have r13 := Reach.step r12 (Step.apply _ 1 0 2 rfl)
  have r14 := Reach.step r13 (Step.loadRecorder _ 1 0 2 rfl)
  have r15 := Reach.step r14 (Step.appendLog _ 1 0 2 rfl)
  have r16 := Reach.step r15 (Step.release _ 1 0 2 rfl)
  have r17 := Reach.step r16 (Step.sClose _ rfl)
  have r18 := Reach.step r17 (Step.sCopy _ rfl)
  exact ⟨_, r18, rfl, rfl, rfl, rfl, rfl, rfl, rfl⟩

/-- the hypotheses of `consistent_cut` are satisfiable, and its conclusion on the run above -/
example : ∃ w, Reach w0 w ∧ w.spc = .copied ∧ (∃ l cont, w.snapRead 0 = some (l, cont)) ∧
    restored w 0 = some [2, 1] := by
  obtain ⟨w, hr, hc, hread, _, _, _, _, hres⟩ := run
  exact ⟨w, hr, hc, ⟨_, _, hread⟩, hres⟩

end Demo

end ColumnVerif.Props.C08
