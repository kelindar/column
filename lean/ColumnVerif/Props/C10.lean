import ColumnVerif.Conc.Invariants
/-!
# C10 — a reader never sees a half-applied commit

A commit writes column A and then column B of the chunk under the chunk's write latch; a reader
reads A and then B under one read-latch hold (`obs` records what it saw at `RUnlock`). Over every
schedule of the machine in `Conc/Machine.lean`: both values carry the same commit id.
-/
namespace ColumnVerif.Props.C10
open ColumnVerif.Conc

variable {cfg : ProtoCfg} {merge : Nat → Nat → Nat} {w0 w : W}

/-- every observation made under one read-latch hold shows one version of the chunk -/
theorem reader_sees_one_version (hi : Init w0) (hr : Reach cfg merge w0 w) :
    ∀ p ∈ w.obs, p.2.1 = p.2.2 :=
  (reach_inv hi hr).rd.obs

/-- whenever no writer holds the chunk, its two columns agree -/
theorem columns_agree_when_free (hi : Init w0) (hr : Reach cfg merge w0 w) {c : Nat}
    (h : w.holder c = none) : w.colA c = w.colB c :=
  (reach_inv hi hr).wr.same_free (reach_inv hi hr).m c h

/-- while a reader holds the read latch of `c`, the two columns agree (and cannot change) -/
theorem columns_agree_while_reading (hi : Init w0) (hr : Reach cfg merge w0 w) {t c : Nat}
    (h : rchunk (w.pc t) = some c) : w.colA c = w.colB c :=
  columns_agree_when_free hi hr ((reach_inv hi hr).m.rd_free h)

/-- what a reader has read so far is what the columns hold now -/
theorem reader_values_current (hi : Init w0) (hr : Reach cfg merge w0 w) {t c a b : Nat} :
    (w.pc t = .readA c a → a = w.colA c) ∧
    (w.pc t = .readAB c a b → a = w.colA c ∧ b = w.colB c ∧ a = b) := by
  have h := reach_inv hi hr
  refine ⟨h.rd.readA t c a, fun hp => ?_⟩
  obtain ⟨ha, hb⟩ := h.rd.readAB t c a b hp
  have := columns_agree_while_reading hi hr (t := t) (c := c) (by rw [hp]; rfl)
  exact ⟨ha, hb, by rw [ha, hb]; exact this⟩

/-- the only moment the columns of a chunk differ is between `writeA` and `writeB` of its holder -/
theorem columns_differ_only_mid_commit (hi : Init w0) (hr : Reach cfg merge w0 w) {c : Nat}
    (h : w.colA c ≠ w.colB c) : ∃ t id, w.holder c = some t ∧ w.pc t = .wroteA c id := by
  have hv := reach_inv hi hr
  rcases hv.wr.agree c with e | ⟨t, id, hp⟩
  · exact absurd e h
  · exact ⟨t, id, hv.m.whold t c (by rw [atA_eq hp]; rfl), atA_eq hp⟩

/-! ### non-vacuity -/

/-- a concrete initial world and a 13-step run: thread 0 commits chunk 0 with id 1, then thread 2
    reads both columns and observes `(1, 1)` -/
example : ∃ w0 w, Init w0 ∧ Reach ProtoCfg.good (· + ·) w0 w ∧ w.obs = [(0, 1, 1)] := by
  obtain ⟨w, hr, _, _, hobs, _⟩ := Demo.run_good ProtoCfg.good rfl (· + ·)
  exact ⟨Demo.w0, w, Demo.init_w0, hr, hobs⟩

end ColumnVerif.Props.C10
