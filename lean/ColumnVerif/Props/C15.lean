import ColumnVerif.Lemmas.StorePlumb
/-!
# C15 (sequential part) — one commit per dirty chunk, nothing else

"Each committed transaction emits exactly one commit per 16K-row block it changed and nothing else; transactions that
roll back or change nothing emit nothing."

`Store.commit` walks `t.dirtyChunks` (ascending, without duplicates: `dirtyChunks_sorted`, `mem_dirtyChunks`); every
chunk takes the next commit id; with a logger attached the chunk is emitted iff the transaction has markers or some
non-empty buffer names an existing column (`updatedFlag`) — a decision that is the same for every chunk of the
transaction although the buffers are rewritten and the registry columns replaced from chunk to chunk.
-/
namespace ColumnVerif.Props.C15
open ColumnVerif.Codec ColumnVerif.Bits ColumnVerif.Store ColumnVerif.StorePlumb

/-! ### the dirty chunks -/

/-- the dirty chunks are walked in strictly ascending order (`dirtyChunks_sorted`) — in particular each one once — and are
    exactly the chunks marked up front and the chunks of the headers of the transaction's buffers (`mem_dirtyChunks`) -/
theorem dirtyChunks_nodup (t : Txn) : t.dirtyChunks.Nodup := sorted_nodup _ (dirtyChunks_sorted t)

theorem mem_chunks_put (b : Buf) (o : Op) (c : Nat) :
    c ∈ (b.put o).chunks → c = chunkOf o.idx ∨ c ∈ b.chunks := by
  unfold Buf.put Buf.chunks Buf.secs
  simp only
  split
  · split
    · rename_i x rest heq
      intro h; right
      rw [heq]
      simpa using h
    · intro h; left; simpa using h
  · intro h
    simp only [List.reverse_cons, List.map_append, List.mem_append, List.map_cons, List.map_nil,
      List.mem_cons, List.not_mem_nil, or_false] at h
    rcases h with h | h
    · right; exact h
    · left; exact h

/-! ### the loop over the dirty chunks -/

/-- the loop of `Txn.commit` -/
def runChunks (cr : Bool) (acc : Store × List Buf) (chunks : List Nat) : Store × List Buf :=
  chunks.foldl (fun (acc : Store × List Buf) chunk => acc.1.commitChunk chunk cr acc.2) acc

theorem commit_eq (s : Store) (t : Txn) :
    s.commit t = (runChunks t.markers.isSome (capStore s t, t.updates) t.dirtyChunks).1 := rfl

theorem capStore_spec (s : Store) (t : Txn) :
    Plumb s (capStore s t) ∧ (capStore s t).emitted = s.emitted ∧ (capStore s t).recorded = s.recorded ∧
    (capStore s t).nextId = s.nextId :=
  capStore_induct (fun s' => Plumb s s' ∧ s'.emitted = s.emitted ∧ s'.recorded = s.recorded ∧ s'.nextId = s.nextId) s t
    (fun _ => ⟨Plumb.refl s, rfl, rfl, rfl⟩)
    (fun last _ => ⟨commitCapacity_plumb s last, (commitCapacity_quiet s last).1, (commitCapacity_quiet s last).2.1,
      (commitCapacity_quiet s last).2.2.1⟩)

/-- the loop, from any store with a logger: one id per chunk; either every chunk is emitted — in order, under
    consecutive ids, each with buffers of the transaction's shape — or none -/
theorem runChunks_spec (cr : Bool) (chunks : List Nat) (s : Store) (ups : List Buf) (hl : s.logger ≠ .none) :
    Plumb s (runChunks cr (s, ups) chunks).1 ∧
    (runChunks cr (s, ups) chunks).1.nextId = s.nextId + chunks.length ∧
    (runChunks cr (s, ups) chunks).2.map bufSig = ups.map bufSig ∧
    ∃ new : List Emitted, (runChunks cr (s, ups) chunks).1.emitted = new ++ s.emitted ∧
      new.reverse.map (·.chunk) = (if (cr || updatedFlag s ups) = true then chunks else []) ∧
      new.reverse.map (·.id) =
        (if (cr || updatedFlag s ups) = true then List.range' (s.nextId + 1) chunks.length else []) ∧
      ∀ e ∈ new, e.updates.map bufSig = ups.map bufSig := by
  induction chunks generalizing s ups with
  | nil =>
    refine ⟨Plumb.refl s, rfl, rfl, [], rfl, ?_, ?_, ?_⟩
    · split <;> rfl
    · split <;> rfl
    · intro e he; cases he
  | cons c cs ih =>
    have P1 := commitChunk_plumb s c cr ups
    have n1 := commitChunk_nextId s c cr ups
    have g1 := commitChunk_sigs s c cr ups
    have e1 := commitChunk_emitted s hl c cr ups
    have f1 := updatedFlag_commitChunk s c cr ups
    have hl1 : (s.commitChunk c cr ups).1.logger ≠ .none := by rw [P1.logger]; exact hl
    obtain ⟨P2, n2, g2, new1, hnew1, hch, hid, hup⟩ := ih (s.commitChunk c cr ups).1 (s.commitChunk c cr ups).2 hl1
    have hrun : runChunks cr (s, ups) (c :: cs) =
        runChunks cr ((s.commitChunk c cr ups).1, (s.commitChunk c cr ups).2) cs := rfl
    rw [hrun]
    refine ⟨Plumb.trans P1 P2, ?_, g2.trans g1, ?_⟩
    · rw [n2, n1, List.length_cons]; omega
    · rw [f1] at hch hid
      rw [n1] at hid
      cases hflag : (cr || updatedFlag s ups) with
      | false =>
        rw [hflag] at hch hid e1
        simp only [Bool.false_eq_true, if_false] at hch hid e1 ⊢
        refine ⟨new1, ?_, hch, hid, ?_⟩
        · rw [hnew1, e1]
        · intro e he; rw [hup e he, g1]
      | true =>
        rw [hflag] at hch hid e1
        simp only [if_true] at hch hid e1 ⊢
        refine ⟨new1 ++ [⟨s.nextId + 1, c, (s.commitChunk c cr ups).2⟩], ?_, ?_, ?_, ?_⟩
        · rw [hnew1, e1]; simp
        · simp [hch]
        · simp only [List.reverse_append, List.reverse_cons, List.reverse_nil, List.nil_append, List.cons_append,
            List.map_cons, hid, List.length_cons]
          rw [List.range'_succ]
        · intro e he
          rcases List.mem_append.mp he with he | he
          · rw [hup e he, g1]
          · simp only [List.mem_cons, List.not_mem_nil, or_false] at he
            subst he
            exact g1

theorem runChunks_none (cr : Bool) (chunks : List Nat) (s : Store) (ups : List Buf) (hl : s.logger = .none) :
    (runChunks cr (s, ups) chunks).1.emitted = s.emitted := by
  induction chunks generalizing s ups with
  | nil => rfl
  | cons c cs ih =>
    have P1 := commitChunk_plumb s c cr ups
    have hrun : runChunks cr (s, ups) (c :: cs) =
        runChunks cr ((s.commitChunk c cr ups).1, (s.commitChunk c cr ups).2) cs := rfl
    rw [hrun, ih _ _ (by rw [P1.logger]; exact hl), commitChunk_emitted_none s hl]

/-- every chunk of the loop applies the markers of the transaction as it was handed in -/
theorem runChunks_markers (cr : Bool) (chunks : List Nat) (s : Store) (ups : List Buf) :
    (runChunks cr (s, ups) chunks).2.find? isMarkerBuf = ups.find? isMarkerBuf := by
  induction chunks generalizing s ups with
  | nil => rfl
  | cons c cs ih =>
    have hrun : runChunks cr (s, ups) (c :: cs) =
        runChunks cr ((s.commitChunk c cr ups).1, (s.commitChunk c cr ups).2) cs := rfl
    rw [hrun, ih, commitChunk_markers]

/-! ### C15 -/

/-- the commits a step added to the change stream (most recent first) -/
def newCommits (s s' : Store) : List Emitted := s'.emitted.take (s'.emitted.length - s.emitted.length)

theorem newCommits_of_append {s s' : Store} {new : List Emitted} (h : s'.emitted = new ++ s.emitted) :
    newCommits s s' = new := by
  unfold newCommits
  rw [h]
  simp

/-- whether the transaction emits at all: it carries markers, or a non-empty buffer names an existing column -/
def emits (s : Store) (t : Txn) : Bool := t.markers.isSome || updatedFlag s t.updates

/-- **C15 (sequential part).** With a logger attached, a commit prepends to the change stream exactly one commit per
    dirty chunk of the transaction, in ascending chunk order, under the consecutive ids `nextId + 1, nextId + 2, …`,
    each carrying as many buffers, under the same column names, as the transaction — provided the transaction has
    markers or a non-empty buffer for an existing column; otherwise it emits nothing. -/
theorem commit_emits_once_per_dirty_chunk (s : Store) (t : Txn) (hl : s.logger ≠ .none) :
    (s.commit t).emitted = newCommits s (s.commit t) ++ s.emitted ∧
    (newCommits s (s.commit t)).map (·.chunk) = (if emits s t = true then t.dirtyChunks.reverse else []) ∧
    (newCommits s (s.commit t)).reverse.map (·.id) =
      (if emits s t = true then List.range' (s.nextId + 1) t.dirtyChunks.length else []) ∧
    (∀ e ∈ newCommits s (s.commit t), e.updates.map bufSig = t.updates.map bufSig) ∧
    (s.commit t).nextId = s.nextId + t.dirtyChunks.length := by
  obtain ⟨cp, ce, _, cn⟩ := capStore_spec s t
  have hl0 : (capStore s t).logger ≠ .none := by rw [cp.logger]; exact hl
  obtain ⟨_, hn, _, new, hnew, hch, hid, hup⟩ :=
    runChunks_spec t.markers.isSome t.dirtyChunks (capStore s t) t.updates hl0
  rw [updatedFlag_congr cp.names rfl] at hch hid
  rw [cn] at hid
  rw [ce] at hnew
  rw [cn] at hn
  rw [← commit_eq] at hnew hn
  rw [newCommits_of_append hnew]
  refine ⟨hnew, ?_, hid, hup, hn⟩
  have : new.map (·.chunk) = (new.reverse.map (·.chunk)).reverse := by simp
  rw [this, hch]
  unfold emits
  split <;> simp

/-- the chunks of the commits a transaction emits are pairwise different: one commit per block -/
theorem commit_chunks_nodup (s : Store) (t : Txn) (hl : s.logger ≠ .none) :
    ((newCommits s (s.commit t)).map (·.chunk)).Nodup := by
  rw [(commit_emits_once_per_dirty_chunk s t hl).2.1]
  split
  · have := (dirtyChunks_sorted t).imp (fun {a b} (h : a < b) => (Nat.ne_of_lt h).symm)
    exact List.pairwise_reverse.mpr this
  · exact List.nodup_nil

/-- … every dirty chunk is among them, and only those (when the transaction emits) -/
theorem commit_chunk_mem (s : Store) (t : Txn) (hl : s.logger ≠ .none) (he : emits s t = true) (c : Nat) :
    c ∈ (newCommits s (s.commit t)).map (·.chunk) ↔ c ∈ t.dirty ∨ ∃ b ∈ t.updates, c ∈ b.chunks := by
  rw [(commit_emits_once_per_dirty_chunk s t hl).2.1, if_pos he, List.mem_reverse, mem_dirtyChunks]

/-- the ids are fresh (above every id handed out before), hence non-zero, and strictly increasing in chunk order -/
theorem commit_ids_increasing (s : Store) (t : Txn) (hl : s.logger ≠ .none) :
    ((newCommits s (s.commit t)).reverse.map (·.id)).Pairwise (· < ·) ∧
    ∀ e ∈ newCommits s (s.commit t), s.nextId < e.id ∧ e.id ≤ (s.commit t).nextId := by
  obtain ⟨_, _, hid, _, hn⟩ := commit_emits_once_per_dirty_chunk s t hl
  constructor
  · rw [hid]
    split
    · exact List.pairwise_lt_range'
    · exact List.Pairwise.nil
  · intro e he
    have : e.id ∈ (newCommits s (s.commit t)).reverse.map (·.id) := by
      simp only [List.map_reverse, List.mem_reverse, List.mem_map]
      exact ⟨e, he, rfl⟩
    rw [hid] at this
    split at this
    · have := List.mem_range'_1.mp this
      omega
    · cases this

theorem commit_without_logger (s : Store) (t : Txn) (hl : s.logger = .none) : (s.commit t).emitted = s.emitted := by
  obtain ⟨cp, ce, _, _⟩ := capStore_spec s t
  rw [commit_eq, runChunks_none _ _ _ _ (by rw [cp.logger]; exact hl), ce]

/-- a transaction that changes nothing — no markers and no non-empty buffer naming an existing column — emits
    nothing, whatever the logger -/
theorem commit_silent_of_not_emits (s : Store) (t : Txn) (h : emits s t = false) :
    (s.commit t).emitted = s.emitted := by
  by_cases hl : s.logger = .none
  · exact commit_without_logger s t hl
  · obtain ⟨h1, h2, _⟩ := commit_emits_once_per_dirty_chunk s t hl
    have : newCommits s (s.commit t) = [] := by
      have := congrArg List.length h2
      rw [h] at this
      simpa using this
    rw [h1, this]; rfl

/-- read-only transactions and transactions whose buffers are all empty do not emit -/
theorem emits_false_of_all_empty (s : Store) (t : Txn) (h : ∀ u ∈ t.updates, u.isEmpty = true) :
    emits s t = false := by
  unfold emits Txn.markers updatedFlag
  have h1 : t.updates.find? (fun b => !b.isEmpty && b.column == rowColumn) = none := by
    apply List.find?_eq_none.mpr
    intro u hu
    simp [h u hu]
  have h2 : (t.updates.any fun u => !u.isEmpty && u.column != rowColumn && (s.findCol u.column).isSome) = false := by
    apply List.any_eq_false.mpr
    intro u hu
    simp [h u hu]
  rw [h1, h2]; rfl

theorem read_only_commit_emits_nothing (s : Store) (t : Txn) (h : t.updates = []) :
    (s.commit t).emitted = s.emitted :=
  commit_silent_of_not_emits s t (emits_false_of_all_empty s t (by rw [h]; intro u hu; cases hu))

/-- writes addressed only to columns that do not exist (dropped meanwhile), without markers, do not emit -/
theorem emits_false_of_dropped (s : Store) (t : Txn)
    (h : ∀ u ∈ t.updates, u.column ≠ rowColumn ∧ s.findCol u.column = none) : emits s t = false := by
  unfold emits Txn.markers updatedFlag
  have h1 : t.updates.find? (fun b => !b.isEmpty && b.column == rowColumn) = none := by
    apply List.find?_eq_none.mpr
    intro u hu
    simp [(h u hu).1]
  have h2 : (t.updates.any fun u => !u.isEmpty && u.column != rowColumn && (s.findCol u.column).isSome) = false := by
    apply List.any_eq_false.mpr
    intro u hu
    simp [(h u hu).2]
  rw [h1, h2]; rfl

/-- a transaction that rolls back emits nothing (rollback only recounts) -/
theorem rollback_emits_nothing (s : Store) (t : Txn) :
    (s.rollback t).emitted = s.emitted ∧ (s.rollback t).nextId = s.nextId := ⟨rfl, rfl⟩

/-! ### non-vacuity: a store as `NewCollection` + `CreateColumn` build it, a transaction over two chunks -/

/-- `NewCollection` with a channel logger, one `int64` column -/
def store1 : Store := ((Store.new 1024 .channel (fun _ => 0)).createColumn "n" (.num .i64) (fun _ d => d)).1

/-- two inserts (offsets 5 and 16389, i.e. chunks 0 and 1), each with a value for column `n` -/
def txn1 : Txn :=
  ((((default : Txn).putOp rowColumn ⟨opInsert, 5, .fixed 0 []⟩).putOp "n" ⟨opPut, 5, .fixed 3 [0, 0, 0, 0, 0, 0, 0, 7]⟩).putOp
    rowColumn ⟨opInsert, 16384 + 5, .fixed 0 []⟩).putOp "n" ⟨opPut, 16384 + 5, .fixed 3 [0, 0, 0, 0, 0, 0, 0, 9]⟩

/-- a delete marker only -/
def txnDel : Txn := (default : Txn).putOp rowColumn ⟨opDelete, 16384 + 5, .fixed 0 []⟩

/-- a write to a column that does not exist (dropped), in two chunks -/
def txnDropped : Txn :=
  ((default : Txn).putOp "gone" ⟨opPut, 5, .fixed 3 [0, 0, 0, 0, 0, 0, 0, 7]⟩).putOp "gone" ⟨opPut, 40000, .fixed 3 [0, 0, 0, 0, 0, 0, 0, 7]⟩

def store1Quiet : Store := { store1 with logger := .none }

example : store1.logger ≠ .none := by decide
example : txn1.dirtyChunks = [0, 1] := by decide +kernel
example : emits store1 txn1 = true := by decide
example : txnDropped.dirtyChunks = [0, 2] ∧ emits store1 txnDropped = false := by decide +kernel

-- the model evaluated: chunks and ids of the emitted commits, most recent first
example : (store1.commit txn1).emitted.map (·.chunk) = [1, 0] := by decide +kernel
example : (store1.commit txn1).emitted.map (·.id) = [2, 1] := by decide +kernel
example : (store1.commit txn1).nextId = 2 := by decide +kernel
example : ((store1.commit txn1).commit txnDel).emitted.map (fun e => (e.id, e.chunk)) = [(3, 1), (2, 1), (1, 0)] := by
  decide +kernel
example : (store1.commit txnDropped).emitted.length = 0 ∧ (store1.commit txnDropped).nextId = 2 := by decide +kernel
example : (store1.commit default).emitted.length = 0 ∧ (store1.commit default).nextId = 0 := by decide +kernel
example : (store1Quiet.commit txn1).emitted.length = 0 := by decide +kernel

-- the same through the theorem
example : (newCommits store1 (store1.commit txn1)).map (·.chunk) = [1, 0] := by
  rw [(commit_emits_once_per_dirty_chunk store1 txn1 (by decide +kernel)).2.1]
  decide +kernel

end ColumnVerif.Props.C15
