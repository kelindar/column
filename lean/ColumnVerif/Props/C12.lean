import ColumnVerif.Lemmas.Key
import ColumnVerif.Props.C11
/-!
# C12 — the primary-key table and the four key operations

"With a key column, at most one live row holds any given key and a lookup by key reaches exactly
the row whose key it is. InsertKey fails iff the key exists, UpsertKey updates the existing row or
creates exactly one, QueryKey and DeleteKey fail iff the key is absent, and after a row is deleted
or re-keyed its old key no longer resolves and can be inserted again."

The key column keeps per offset a presence bit and the key bytes (stale after a delete) and the
table `seek : key → offset`. `KeyInv` (K1, in `Lemmas/Key.lean`) says the table maps exactly the
keys of present rows to their rows. K2: every single `stepKey` keeps it under the guard `WFKeyOp`
(a `Put`'s key is new or already this row's; a `Delete` hits a present row). K3: op lists / the
main pass of a commit. K4: what happens outside the guard — the two recorded findings. K5: the
decision logic of `InsertKey` / `UpsertKey` / `QueryKey` / `DeleteKey` / `rwKey.Set` against the
committed table, for every store, transaction and callback. K6: non-vacuity.
-/
namespace ColumnVerif.Props.C12
open ColumnVerif.Codec ColumnVerif.Bits ColumnVerif.Store

/-! ## K1 — the invariant -/

theorem key_unique {c : Col} (h : KeyInv c) {o1 o2 : Nat}
    (p1 : Bits.get c.bits o1 = true) (p2 : Bits.get c.bits o2 = true)
    (d1 : o1 < c.data.size) (d2 : o2 < c.data.size)
    (e : keyAt c o1 = keyAt c o2) : o1 = o2 := by
  have h1 := (h (keyAt c o1) o1).2 ⟨p1, rfl, lt_size_of_get p1, d1⟩
  have h2 := (h (keyAt c o1) o2).2 ⟨p2, e.symm, lt_size_of_get p2, d2⟩
  exact Option.some.inj (h1.symm.trans h2)

/-- the same with the size relation every key column has (`bits` and `data` are grown together) -/
theorem key_unique_of_sizes {c : Col} (h : KeyInv c) (hsz : c.bits.size ≤ c.data.size) {o1 o2 : Nat}
    (p1 : Bits.get c.bits o1 = true) (p2 : Bits.get c.bits o2 = true)
    (e : keyAt c o1 = keyAt c o2) : o1 = o2 :=
  key_unique h p1 p2 (Nat.lt_of_lt_of_le (lt_size_of_get p1) hsz) (Nat.lt_of_lt_of_le (lt_size_of_get p2) hsz) e

/-- what a reader of the key column sees (`Col.read`): present and in an allocated chunk -/
theorem read_key_iff (c : Col) (hk : c.kind = .key) (hsz : c.data.size = 16384 * c.nchunks) (o : Nat) (k : Bytes) :
    c.read o = some k ↔ (Bits.get c.bits o = true ∧ keyAt c o = k ∧ o < c.data.size) := by
  rw [read_slot c o (by rw [hk]; rfl) (by rw [hk]; nofun)]
  have : o / 16384 < c.nchunks ↔ o < c.data.size := by
    rw [hsz, Nat.mul_comm]; exact Nat.div_lt_iff_lt_mul (by decide)
  constructor
  · intro h
    split at h
    · rename_i hc
      exact ⟨hc.2, Option.some.inj h, this.1 hc.1⟩
    · cases h
  · intro h
    rw [if_pos ⟨this.2 h.2.2, h.1⟩]
    exact congrArg some h.2.1

/-- lookup by key reaches exactly the row whose key it is -/
theorem lookup_reaches (c : Col) (hinv : KeyInv c) (hk : c.kind = .key) (hsz : c.data.size = 16384 * c.nchunks)
    (k : Bytes) (o : Nat) : c.seek.get? k = some o ↔ c.read o = some k := by
  rw [read_key_iff c hk hsz, hinv k o]
  constructor
  · intro h; exact ⟨h.1, h.2.1, h.2.2.2⟩
  · intro h; exact ⟨h.1, h.2.1, lt_size_of_get h.1, h.2.2⟩

/-- at most one live row holds any given key -/
theorem key_unique_read (c : Col) (hinv : KeyInv c) (hk : c.kind = .key) (hsz : c.data.size = 16384 * c.nchunks)
    (k : Bytes) (o1 o2 : Nat) (h1 : c.read o1 = some k) (h2 : c.read o2 = some k) : o1 = o2 := by
  have e1 := (lookup_reaches c hinv hk hsz k o1).2 h1
  have e2 := (lookup_reaches c hinv hk hsz k o2).2 h2
  rw [e1] at e2
  exact Option.some.inj e2

/-! ## K2 — one op -/

theorem stepKey_put_inv (acc : ApplyAcc) (o : Op) (h : o.typ = opPut) (hinv : KeyInv acc.1)
    (hb : o.idx < acc.1.bits.size) (hd : o.idx < acc.1.data.size)
    (hk : acc.1.seek.get? (valRaw o.val) = none ∨ acc.1.seek.get? (valRaw o.val) = some o.idx) :
    KeyInv (stepKey acc o).1 := by
  intro k j
  have hs := stepKey_shape acc o
  rw [stepKey_put_seek _ _ h, stepKey_put_bits _ _ h hb, hs.bsize, hs.dsize]
  show _ ↔ (_ ∧ keyAt (stepKey acc o).1 j = k ∧ _)
  rw [stepKey_put_data _ _ h hd]
  by_cases e : valRaw o.val = k
  · rw [if_pos e]
    by_cases ej : j = o.idx
    · subst ej; simp [e, hb, hd]
    · rw [if_neg ej, if_neg ej]
      have := hinv k j
      subst e
      constructor
      · intro hh; exact absurd (Option.some.inj hh).symm ej
      · intro hh
        have h2 := this.2 hh
        rcases hk with hk | hk <;> rw [hk] at h2
        · cases h2
        · exact absurd (Option.some.inj h2).symm ej
  · rw [if_neg e]
    by_cases ej : j = o.idx
    · subst ej
      rw [if_pos rfl, if_pos rfl]
      constructor
      · intro hh
        split at hh
        · cases hh
        · rename_i hc
          have h2 := (hinv k o.idx).1 hh
          exact absurd ⟨⟨h2.1, fun e2 => e (e2.symm.trans h2.2.1),
            by rw [show keyAt acc.1 o.idx = k from h2.2.1]; exact hh⟩, h2.2.1⟩ hc
      · intro hh; exact absurd hh.2.1 e
    · rw [if_neg ej, if_neg ej]
      split
      · rename_i hc
        constructor
        · intro hh; cases hh
        · intro hh
          have h2 := (hinv k j).2 hh
          rw [← hc.2, hc.1.2.2] at h2
          exact absurd (Option.some.inj h2).symm ej
      · exact hinv k j

theorem stepKey_put_resolves (acc : ApplyAcc) (o : Op) (h : o.typ = opPut) :
    (stepKey acc o).1.seek.get? (valRaw o.val) = some o.idx := by
  rw [stepKey_put_seek _ _ h, if_pos rfl]

/-- re-keying: the row's old key no longer resolves (and may be inserted again: it meets the
    precondition of `stepKey_put_inv` for any row) -/
theorem stepKey_put_releases_old (acc : ApplyAcc) (o : Op) (h : o.typ = opPut) (hinv : KeyInv acc.1)
    (hp : Bits.get acc.1.bits o.idx = true) (hd : o.idx < acc.1.data.size)
    (hne : keyAt acc.1 o.idx ≠ valRaw o.val) :
    (stepKey acc o).1.seek.get? (keyAt acc.1 o.idx) = none := by
  have hs : acc.1.seek.get? (keyAt acc.1 o.idx) = some o.idx := (hinv _ _).2 ⟨hp, rfl, lt_size_of_get hp, hd⟩
  rw [stepKey_put_seek _ _ h, if_neg (fun e => hne e.symm), if_pos ⟨⟨hp, hne, hs⟩, rfl⟩]

theorem stepKey_delete_inv (acc : ApplyAcc) (o : Op) (h : o.typ = opDelete) (hinv : KeyInv acc.1)
    (hp : Bits.get acc.1.bits o.idx = true) (hd : o.idx < acc.1.data.size) :
    KeyInv (stepKey acc o).1 ∧ (stepKey acc o).1.seek.get? (keyAt acc.1 o.idx) = none := by
  have hb : o.idx < acc.1.bits.size := lt_size_of_get hp
  have hsk : acc.1.seek.get? (keyAt acc.1 o.idx) = some o.idx := (hinv _ _).2 ⟨hp, rfl, hb, hd⟩
  refine ⟨?_, by rw [stepKey_delete_seek _ _ h, if_pos rfl]⟩
  intro k j
  have hs := stepKey_shape acc o
  rw [stepKey_delete_seek _ _ h, stepKey_delete_bits _ _ h hb, hs.bsize, hs.dsize, stepKey_delete_data _ _ h]
  by_cases ej : j = o.idx
  · subst ej
    rw [if_pos rfl]
    constructor
    · intro hh
      split at hh
      · cases hh
      · rename_i hc
        exact absurd ((hinv k o.idx).1 hh).2.1 hc
    · intro hh; cases hh.1
  · rw [if_neg ej]
    split
    · rename_i hc
      constructor
      · intro hh; cases hh
      · intro hh
        have h2 := (hinv k j).2 hh
        rw [← hc, hsk] at h2
        exact absurd (Option.some.inj h2).symm ej
    · exact hinv k j

theorem stepKey_other_inv (acc : ApplyAcc) (o : Op) (h1 : o.typ ≠ opPut) (h2 : o.typ ≠ opDelete)
    (hinv : KeyInv acc.1) : KeyInv (stepKey acc o).1 := by
  rw [stepKey_other _ _ h1 h2]; exact hinv

/-- after a delete the old key can be inserted again, at any row -/
theorem reinsert_after_delete (acc : ApplyAcc) (o : Op) (h : o.typ = opDelete) (hinv : KeyInv acc.1)
    (hp : Bits.get acc.1.bits o.idx = true) (hd : o.idx < acc.1.data.size)
    (j : Nat) (hj : j < acc.1.bits.size ∧ j < acc.1.data.size) :
    WFKeyOp (stepKey acc o).1 ⟨opPut, j, .str (keyAt acc.1 o.idx)⟩ := by
  have hs := stepKey_shape acc o
  exact .put (by rw [hs.bsize, hs.dsize]; exact hj) (.inl (stepKey_delete_inv acc o h hinv hp hd).2)

/-- after re-keying a row the old key can be inserted again, at any row -/
theorem reinsert_after_rekey (acc : ApplyAcc) (o : Op) (h : o.typ = opPut) (hinv : KeyInv acc.1)
    (hp : Bits.get acc.1.bits o.idx = true) (hd : o.idx < acc.1.data.size)
    (hne : keyAt acc.1 o.idx ≠ valRaw o.val)
    (j : Nat) (hj : j < acc.1.bits.size ∧ j < acc.1.data.size) :
    WFKeyOp (stepKey acc o).1 ⟨opPut, j, .str (keyAt acc.1 o.idx)⟩ := by
  have hs := stepKey_shape acc o
  exact .put (by rw [hs.bsize, hs.dsize]; exact hj) (.inl (stepKey_put_releases_old acc o h hinv hp hd hne))

/-! ## K3 — op lists -/

theorem stepKey_wf_inv (acc : ApplyAcc) (o : Op) (hinv : KeyInv acc.1) (hw : WFKeyOp acc.1 o) :
    KeyInv (stepKey acc o).1 := by
  unfold WFKeyOp at hw
  by_cases h1 : o.typ = opPut
  · rw [if_pos h1] at hw
    exact stepKey_put_inv acc o h1 hinv hw.1 hw.2.1 hw.2.2
  · rw [if_neg h1] at hw
    by_cases h2 : o.typ = opDelete
    · rw [if_pos h2] at hw
      exact (stepKey_delete_inv acc o h2 hinv hw.1 hw.2).1
    · exact stepKey_other_inv acc o h1 h2 hinv

theorem foldl_stepKey_inv_acc (ops : List Op) (acc : ApplyAcc) (hinv : KeyInv acc.1) (hw : WFKeyOps acc.1 ops) :
    KeyInv (ops.foldl stepKey acc).1 := by
  induction ops generalizing acc with
  | nil => exact hinv
  | cons o os ih =>
    simp only [List.foldl_cons]
    obtain ⟨h1, h2⟩ := hw
    rw [← stepKey_fst acc o] at h2
    exact ih _ (stepKey_wf_inv acc o hinv h1) h2

theorem foldl_stepKey_inv (c : Col) (ops : List Op) (hinv : KeyInv c) (hw : WFKeyOps c ops) :
    KeyInv (ops.foldl stepKey (c, [], [])).1 :=
  foldl_stepKey_inv_acc ops (c, [], []) hinv hw

/-- the same for the main pass of a commit over one section of the key column -/
theorem applyData_key_inv (hash : Bytes → Nat) (c : Col) (chunk : Nat) (ops : List Op)
    (hk : c.kind = .key) (hc : chunk < c.nchunks) (hinv : KeyInv c) (hw : WFKeyOps c ops) :
    KeyInv (applyData hash c chunk ops).col := by
  rw [applyData_key hash c chunk ops hk hc]
  exact foldl_stepKey_inv c ops hinv hw

/-! ## K4 — what the guard excludes (recorded findings) -/

/-- the key column of a fresh collection: one chunk, nothing present, empty table -/
def kc0 : Col :=
  { name := "id", kind := .key, nchunks := 1, bits := Array.replicate 16384 false, data := Array.replicate 16384 [] }

example : kc0 = Col.grow { name := "id", kind := .key } 0 := by
  simp [kc0, Col.grow]

theorem kc0_inv : KeyInv kc0 := keyInv_of_empty kc0 rfl (get_replicate_false _)

theorem kc0_inBounds {c : Col} (hs : SameShape kc0 c) {i : Nat} (hi : i < 16384) : i < c.bits.size ∧ i < c.data.size := by
  rw [hs.bsize, hs.dsize, show kc0.bits.size = 16384 from Array.size_replicate,
    show kc0.data.size = 16384 from Array.size_replicate]
  exact ⟨hi, hi⟩

theorem kc0_lt {i : Nat} (hi : i < 16384) : i < kc0.bits.size ∧ i < kc0.data.size := kc0_inBounds (.refl kc0) hi

theorem kc0_seek (k : Bytes) : kc0.seek.get? k = none := by
  rw [Std.HashMap.get?_eq_getElem?]; exact Std.HashMap.getElem?_empty

theorem dup_put_breaks (c : Col) (i j : Nat) (v : Bytes) (hij : i ≠ j)
    (hi : i < c.bits.size ∧ i < c.data.size) (hj : j < c.bits.size ∧ j < c.data.size) :
    let c' := ([⟨opPut, i, .str v⟩, ⟨opPut, j, .str v⟩].foldl stepKey (c, [], [])).1
    Bits.get c'.bits i = true ∧ Bits.get c'.bits j = true ∧ keyAt c' i = v ∧ keyAt c' j = v ∧ ¬ KeyInv c' := by
  intro c'
  have hc : c' = (stepKey (stepKey (c, [], []) ⟨opPut, i, .str v⟩) ⟨opPut, j, .str v⟩).1 := rfl
  -- from here on `c'` is opaque: comparing `Bits.get c'.bits i` with `(slot c' i).1` must not run the two steps
  clear_value c'
  have hs1 := stepKey_shape (c, [], []) ⟨opPut, i, .str v⟩
  have hs : SameShape c c' := hc ▸ hs1.trans (stepKey_shape _ _)
  have s2 := stepKey_put_slot (stepKey (c, [], []) ⟨opPut, i, .str v⟩) ⟨opPut, j, .str v⟩ rfl
    (by rw [hs1.bsize]; exact hj.1) (by rw [hs1.dsize]; exact hj.2)
  have ei : slot c' i = (true, v) := by
    rw [hc, s2, if_neg hij, stepKey_put_slot _ _ rfl hi.1 hi.2, if_pos rfl]; rfl
  have ej : slot c' j = (true, v) := by rw [hc, s2, if_pos rfl]; rfl
  obtain ⟨bi, ki⟩ := Prod.mk.inj ei
  obtain ⟨bj, kj⟩ := Prod.mk.inj ej
  exact ⟨bi, bj, ki, kj, fun hinv => hij (key_unique hinv bi bj (by rw [hs.dsize]; exact hi.2) (by rw [hs.dsize]; exact hj.2)
    (ki.trans kj.symm))⟩

/-- D14, concrete: starting from the empty key column (which satisfies the invariant), the op list
    `[Put 0 "\x07", Put 1 "\x07"]` leaves rows 0 and 1 both present with key `[7]` -/
theorem dup_put_counterexample :
    let c' := ([⟨opPut, 0, .str [7]⟩, ⟨opPut, 1, .str [7]⟩].foldl stepKey (kc0, [], [])).1
    KeyInv kc0 ∧ Bits.get c'.bits 0 = true ∧ Bits.get c'.bits 1 = true ∧ keyAt c' 0 = [7] ∧ keyAt c' 1 = [7] ∧
      c'.seek.get? [7] = some 1 ∧ ¬ KeyInv c' := by
  intro c'
  have h := dup_put_breaks kc0 0 1 [7] (by decide) (kc0_lt (by decide)) (kc0_lt (by decide))
  refine ⟨kc0_inv, h.1, h.2.1, h.2.2.1, h.2.2.2.1, ?_, h.2.2.2.2⟩
  exact stepKey_put_resolves (stepKey (kc0, [], []) ⟨opPut, 0, .str [7]⟩) ⟨opPut, 1, .str [7]⟩ rfl

/-- … and the guard of K3 is what excludes it: the second `Put` does not meet it -/
theorem dup_put_not_wf : ¬ WFKeyOps kc0 [⟨opPut, 0, .str [7]⟩, ⟨opPut, 1, .str [7]⟩] := by
  intro h
  have h2 := h.2.1
  unfold WFKeyOp at h2
  rw [if_pos rfl] at h2
  have h3 := h2.2.2
  rw [show valRaw (Op.mk opPut 1 (.str [7])).val = valRaw (Op.mk opPut 0 (.str [7])).val from rfl,
    stepKey_put_resolves _ _ rfl] at h3
  rcases h3 with h3 | h3
  · cases h3
  · exact absurd (Option.some.inj h3) (by decide)

/-- a `Delete` addressed to a row that is not present erases the key its stale slot holds, even
    when that key now belongs to another live row -/
theorem stale_delete_breaks (c : Col) (i j : Nat)
    (hi : Bits.get c.bits i = false) (hj : Bits.get c.bits j = true) (hdj : j < c.data.size)
    (hk : keyAt c i = keyAt c j) :
    let c' := (stepKey (c, [], []) ⟨opDelete, i, .fixed 0 []⟩).1
    Bits.get c'.bits j = true ∧ keyAt c' j = keyAt c j ∧ c'.seek.get? (keyAt c j) = none ∧ ¬ KeyInv c' := by
  intro c'
  have hij : i ≠ j := by intro e; subst e; rw [hi] at hj; cases hj
  have hs := stepKey_shape (c, [], []) ⟨opDelete, i, .fixed 0 []⟩
  have e1 : Bits.get c'.bits j = true := (stepKey_bits_ne _ _ j hij).trans hj
  have e2 : keyAt c' j = keyAt c j := congrArg (fun d => (d[j]?).getD []) (stepKey_delete_data _ _ rfl)
  have e3 : c'.seek.get? (keyAt c j) = none := (stepKey_delete_seek _ _ rfl _).trans (if_pos hk)
  refine ⟨e1, e2, e3, fun hinv => ?_⟩
  have := (hinv (keyAt c j) j).2 ⟨e1, e2, lt_size_of_get e1, by rw [hs.dsize]; exact hdj⟩
  rw [e3] at this
  cases this


/-- a reachable state with a stale slot: row 0 was inserted with key `[7]` and deleted, then row 1
    was inserted with the same key -/
def staleOps : List Op := [⟨opPut, 0, .str [7]⟩, ⟨opDelete, 0, .fixed 0 []⟩, ⟨opPut, 1, .str [7]⟩]

def kc1 : Col := (staleOps.foldl stepKey (kc0, [], [])).1

private def a1 : ApplyAcc := stepKey (kc0, [], []) ⟨opPut, 0, .str [7]⟩
private def a2 : ApplyAcc := stepKey a1 ⟨opDelete, 0, .fixed 0 []⟩
private def a3 : ApplyAcc := stepKey a2 ⟨opPut, 1, .str [7]⟩

private theorem kc1_eq : kc1 = a3.1 := rfl

private theorem a1_shape : SameShape kc0 a1.1 := stepKey_shape (kc0, [], []) _
private theorem a2_shape : SameShape kc0 a2.1 := SameShape.trans a1_shape (stepKey_shape a1 _)
private theorem a3_shape : SameShape kc0 a3.1 := SameShape.trans a2_shape (stepKey_shape a2 _)

private theorem a1_facts : Bits.get a1.1.bits 0 = true ∧ Bits.get a1.1.bits 1 = false ∧ keyAt a1.1 0 = [7] := by
  have h0 := kc0_lt (i := 0) (by decide)
  unfold a1
  refine ⟨?_, ?_, ?_⟩
  · rw [stepKey_put_bits _ _ rfl h0.1]; rfl
  · rw [stepKey_put_bits _ _ rfl h0.1, if_neg (by decide)]; exact get_replicate_false _ _
  · rw [stepKey_put_data _ _ rfl h0.2]; rfl

private theorem a2_facts : Bits.get a2.1.bits 0 = false ∧ Bits.get a2.1.bits 1 = false ∧ keyAt a2.1 0 = [7] ∧
    a2.1.seek.get? [7] = none := by
  have hb : 0 < a1.1.bits.size := (kc0_inBounds a1_shape (by decide)).1
  unfold a2
  refine ⟨?_, ?_, ?_, ?_⟩
  · rw [stepKey_delete_bits _ _ rfl hb]; rfl
  · rw [stepKey_bits_ne _ _ 1 (by decide)]; exact a1_facts.2.1
  · unfold keyAt; rw [stepKey_delete_data _ _ rfl]; exact a1_facts.2.2
  · rw [stepKey_delete_seek _ _ rfl, if_pos a1_facts.2.2]

private theorem a3_facts : Bits.get a3.1.bits 0 = false ∧ Bits.get a3.1.bits 1 = true ∧ keyAt a3.1 0 = [7] ∧
    keyAt a3.1 1 = [7] ∧ a3.1.seek.get? [7] = some 1 := by
  obtain ⟨hb, hd⟩ := kc0_inBounds a2_shape (i := 1) (by decide)
  unfold a3
  refine ⟨?_, ?_, ?_, ?_, ?_⟩
  · rw [stepKey_put_bits _ _ rfl hb, if_neg (by decide)]; exact a2_facts.1
  · rw [stepKey_put_bits _ _ rfl hb]; rfl
  · rw [stepKey_put_data _ _ rfl hd, if_neg (by decide)]; exact a2_facts.2.2.1
  · rw [stepKey_put_data _ _ rfl hd]; rfl
  · exact stepKey_put_resolves _ _ rfl

theorem staleOps_wf : WFKeyOps kc0 staleOps := by
  show WFKeyOps ((kc0, [], []) : ApplyAcc).1 _
  unfold staleOps
  rw [WFKeyOps_cons, WFKeyOps_cons, WFKeyOps_cons]
  refine ⟨?_, ?_, ?_, trivial⟩
  · exact .put (kc0_lt (by decide)) (.inl (kc0_seek _))
  · unfold WFKeyOp; rw [if_neg (by decide), if_pos rfl]
    exact ⟨a1_facts.1, (kc0_inBounds a1_shape (by decide)).2⟩
  · exact .put (kc0_inBounds a2_shape (by decide)) (.inl a2_facts.2.2.2)

theorem kc1_inv : KeyInv kc1 := foldl_stepKey_inv kc0 staleOps kc0_inv staleOps_wf

theorem stale_delete_counterexample :
    let c' := (stepKey (kc1, [], []) ⟨opDelete, 0, .fixed 0 []⟩).1
    KeyInv kc1 ∧ Bits.get kc1.bits 0 = false ∧ kc1.seek.get? [7] = some 1 ∧
      Bits.get c'.bits 1 = true ∧ keyAt c' 1 = [7] ∧ c'.seek.get? [7] = none ∧ ¬ KeyInv c' := by
  intro c'
  have f := a3_facts
  rw [← kc1_eq] at f
  have h := stale_delete_breaks kc1 0 1 f.1 f.2.1 (kc0_inBounds a3_shape (by decide)).2
    (f.2.2.1.trans f.2.2.2.1.symm)
  rw [f.2.2.2.1] at h
  exact ⟨kc1_inv, f.1, f.2.2.2.2, h.1, h.2.1, h.2.2.1, h.2.2.2⟩


/-! ## K5 — decision logic of the key operations against the committed table -/


theorem offsetOf_of_noKey (s : Store) (key : Bytes) (h : s.pk = none) : s.offsetOf key = none := by
  unfold Store.offsetOf; rw [h]; rfl

theorem offsetOf_eq (s : Store) (key : Bytes) (pk : String) (kc : Col) (h : s.pk = some pk)
    (hc : s.findCol pk = some kc) : s.offsetOf key = kc.seek.get? key := by
  unfold Store.offsetOf; rw [h]; simp [hc]

theorem offsetOf_iff_present (s : Store) (key : Bytes) (pk : String) (kc : Col) (h : s.pk = some pk)
    (hc : s.findCol pk = some kc) (hinv : KeyInv kc) (i : Nat) :
    s.offsetOf key = some i ↔
      (Bits.get kc.bits i = true ∧ keyAt kc i = key ∧ i < kc.bits.size ∧ i < kc.data.size) := by
  rw [offsetOf_eq s key pk kc h hc]; exact hinv key i

theorem reserve_eq (s : Store) (t : Txn) :
    t.reserve s = (s.next.1, { (t.putOp rowColumn ⟨opInsert, s.next.2, .fixed 0 []⟩) with cursor := s.next.2 }, s.next.2) := rfl

/-! `keyOp` in its three cases; the statements about `InsertKey`, `UpsertKey` and `QueryKey` below read their answers off them. -/

theorem keyOp_noKey (s : Store) (t : Txn) (cmd : String) (key : Bytes) (body : Store → Txn → Txn) (fail : Bool)
    (h : s.pk = none) : t.keyOp s cmd key body fail = (s, t, .noKey) := by
  unfold Txn.keyOp; rw [h]

/-- the key resolves: `InsertKey` refuses, the others run the callback at its row; nothing is reserved -/
theorem keyOp_found (s : Store) (t : Txn) (cmd : String) (key : Bytes) (body : Store → Txn → Txn) (fail : Bool)
    (i : Nat) (h : s.offsetOf key = some i) :
    t.keyOp s cmd key body fail =
      if cmd = "inskey" then (s, t, .existsAt i) else (s, body s { t with cursor := i }, .existsAt i) := by
  unfold Txn.keyOp
  cases hpk : s.pk with
  | none => rw [offsetOf_of_noKey s key hpk] at h; cases h
  | some pk => simp only [h]

/-- the key is absent: `QueryKey` fails; `InsertKey` and `UpsertKey` create — exactly one offset is reserved
    (`Store.next`, released again when the callback failed), the callback runs at it, and the key
    `Put` for that offset is buffered after the callback -/
theorem keyOp_absent (s : Store) (t : Txn) (cmd : String) (key : Bytes) (body : Store → Txn → Txn) (fail : Bool)
    (pk : String) (hpk : s.pk = some pk) (h : s.offsetOf key = none) :
    t.keyOp s cmd key body fail =
      if cmd = "qkey" then (s, t, .notFound)
      else (if fail then s.next.1.free s.next.2 else s.next.1,
            (body s.next.1 (t.reserve s).2.1).putOp pk ⟨opPut, s.next.2, .str key⟩,
            .inserted s.next.2) := by
  unfold Txn.keyOp
  simp only [hpk, h]
  rfl

theorem keyOp_creates (s : Store) (t : Txn) (cmd : String) (key : Bytes) (body : Store → Txn → Txn) (fail : Bool)
    (pk : String) (hpk : s.pk = some pk) (h : s.offsetOf key = none) (hc : cmd ≠ "qkey") :
    t.keyOp s cmd key body fail =
      (if fail then s.next.1.free s.next.2 else s.next.1,
       (body s.next.1 (t.reserve s).2.1).putOp pk ⟨opPut, s.next.2, .str key⟩,
       .inserted s.next.2) := by
  rw [keyOp_absent s t cmd key body fail pk hpk h, if_neg hc]

theorem keyOp_noKey_iff (s : Store) (t : Txn) (cmd : String) (key : Bytes) (body : Store → Txn → Txn) (fail : Bool) :
    (t.keyOp s cmd key body fail).2.2 = .noKey ↔ s.pk = none := by
  cases hpk : s.pk with
  | none => rw [keyOp_noKey s t cmd key body fail hpk]; exact ⟨fun _ => rfl, fun _ => rfl⟩
  | some pk =>
    refine ⟨fun h => ?_, nofun⟩
    cases ho : s.offsetOf key with
    | some i => rw [keyOp_found s t cmd key body fail i ho] at h; split at h <;> cases h
    | none => rw [keyOp_absent s t cmd key body fail pk hpk ho] at h; split at h <;> cases h

theorem insertKey_fails_iff_exists (s : Store) (t : Txn) (key : Bytes) (body : Store → Txn → Txn) (fail : Bool)
    (i : Nat) :
    (t.keyOp s "inskey" key body fail).2.2 = .existsAt i ↔ s.offsetOf key = some i := by
  cases ho : s.offsetOf key with
  | some j =>
    rw [keyOp_found s t "inskey" key body fail j ho, if_pos rfl]
    exact ⟨fun h => by cases h; rfl, fun h => by cases h; rfl⟩
  | none =>
    refine ⟨fun h => ?_, nofun⟩
    cases hpk : s.pk with
    | none => rw [keyOp_noKey s t "inskey" key body fail hpk] at h; cases h
    | some pk => rw [keyOp_creates s t "inskey" key body fail pk hpk ho (by decide)] at h; cases h

theorem insertKey_refused_unchanged (s : Store) (t : Txn) (key : Bytes) (body : Store → Txn → Txn) (fail : Bool)
    (i : Nat) (h : s.offsetOf key = some i) :
    t.keyOp s "inskey" key body fail = (s, t, .existsAt i) := by
  rw [keyOp_found s t "inskey" key body fail i h, if_pos rfl]

/-- the creating path shared by `InsertKey` and `UpsertKey`: the answer, the store and the key `Put`, which is the last
    op of the key column's buffer -/
theorem keyOp_creates_one (s : Store) (t : Txn) (cmd : String) (key : Bytes) (body : Store → Txn → Txn) (fail : Bool)
    (pk : String) (hpk : s.pk = some pk) (h : s.offsetOf key = none) (hc : cmd ≠ "qkey") :
    let r := t.keyOp s cmd key body fail
    r.2.2 = .inserted s.next.2 ∧
    r.1 = (if fail then s.next.1.free s.next.2 else s.next.1) ∧
    (∃ b ∈ r.2.1.updates, b.column = pk) ∧
    (∀ b ∈ r.2.1.updates, b.column = pk → b.allOps.getLast? = some ⟨opPut, s.next.2, .str key⟩) := by
  intro r
  have hr : r = _ := keyOp_creates s t cmd key body fail pk hpk h hc
  rw [hr]
  exact ⟨rfl, rfl, putOp_last _ _ _⟩

/-- `UpsertKey`, both halves: an existing key ⇒ the callback runs at its row and nothing is
    reserved (the store is returned as it was); an absent key ⇒ exactly one offset is reserved
    (`Store.next`; released again iff the callback failed) and the key `Put` for that offset is the
    last op of the key column's buffer -/
theorem upsertKey_updates_or_creates_one (s : Store) (t : Txn) (key : Bytes) (body : Store → Txn → Txn) (fail : Bool)
    (pk : String) (hpk : s.pk = some pk) :
    (∀ i, s.offsetOf key = some i →
      t.keyOp s "upskey" key body fail = (s, body s { t with cursor := i }, .existsAt i)) ∧
    (s.offsetOf key = none →
      let r := t.keyOp s "upskey" key body fail
      r.2.2 = .inserted s.next.2 ∧
      r.1 = (if fail then s.next.1.free s.next.2 else s.next.1) ∧
      (∃ b ∈ r.2.1.updates, b.column = pk) ∧
      (∀ b ∈ r.2.1.updates, b.column = pk → b.allOps.getLast? = some ⟨opPut, s.next.2, .str key⟩)) :=
  ⟨fun i h => by rw [keyOp_found s t "upskey" key body fail i h, if_neg (by decide)],
   fun h => keyOp_creates_one s t "upskey" key body fail pk hpk h (by decide)⟩

theorem insertKey_creates_one (s : Store) (t : Txn) (key : Bytes) (body : Store → Txn → Txn) (fail : Bool)
    (pk : String) (hpk : s.pk = some pk) (h : s.offsetOf key = none) :
    let r := t.keyOp s "inskey" key body fail
    r.2.2 = .inserted s.next.2 ∧
    r.1 = (if fail then s.next.1.free s.next.2 else s.next.1) ∧
    (∃ b ∈ r.2.1.updates, b.column = pk) ∧
    (∀ b ∈ r.2.1.updates, b.column = pk → b.allOps.getLast? = some ⟨opPut, s.next.2, .str key⟩) :=
  keyOp_creates_one s t "inskey" key body fail pk hpk h (by decide)

theorem queryKey_fails_iff_absent (s : Store) (t : Txn) (key : Bytes) (body : Store → Txn → Txn) (fail : Bool)
    (pk : String) (hpk : s.pk = some pk) :
    (t.keyOp s "qkey" key body fail).2.2 = .notFound ↔ s.offsetOf key = none := by
  cases ho : s.offsetOf key with
  | some j => rw [keyOp_found s t "qkey" key body fail j ho, if_neg (by decide)]; exact ⟨nofun, nofun⟩
  | none => rw [keyOp_absent s t "qkey" key body fail pk hpk ho, if_pos rfl]; exact ⟨fun _ => rfl, fun _ => rfl⟩

theorem queryKey_absent_unchanged (s : Store) (t : Txn) (key : Bytes) (body : Store → Txn → Txn) (fail : Bool)
    (pk : String) (hpk : s.pk = some pk) (h : s.offsetOf key = none) :
    t.keyOp s "qkey" key body fail = (s, t, .notFound) := by
  rw [keyOp_absent s t "qkey" key body fail pk hpk h, if_pos rfl]

theorem queryKey_found (s : Store) (t : Txn) (key : Bytes) (body : Store → Txn → Txn) (fail : Bool)
    (i : Nat) (h : s.offsetOf key = some i) :
    t.keyOp s "qkey" key body fail = (s, body s { t with cursor := i }, .existsAt i) := by
  rw [keyOp_found s t "qkey" key body fail i h, if_neg (by decide)]

/-! `deleteKey` in its three cases. -/

theorem deleteKey_noKey (s : Store) (t : Txn) (key : Bytes) (h : s.pk = none) : t.deleteKey s key = (t, .noKey) := by
  unfold Txn.deleteKey; rw [h]

theorem deleteKey_absent_unchanged (s : Store) (t : Txn) (key : Bytes) (pk : String) (hpk : s.pk = some pk)
    (h : s.offsetOf key = none) : t.deleteKey s key = (t, .notFound) := by
  unfold Txn.deleteKey
  simp only [hpk, h]

/-- a resolving key: the delete marker of exactly that row is buffered -/
theorem deleteKey_found (s : Store) (t : Txn) (key : Bytes) (i : Nat) (h : s.offsetOf key = some i) :
    t.deleteKey s key = (t.putOp rowColumn ⟨opDelete, i, .fixed 0 []⟩, .existsAt i) := by
  unfold Txn.deleteKey
  cases hpk : s.pk with
  | none => rw [offsetOf_of_noKey s key hpk] at h; cases h
  | some pk => simp only [h]

theorem deleteKey_noKey_iff (s : Store) (t : Txn) (key : Bytes) :
    (t.deleteKey s key).2 = .noKey ↔ s.pk = none := by
  cases hpk : s.pk with
  | none => rw [deleteKey_noKey s t key hpk]; exact ⟨fun _ => rfl, fun _ => rfl⟩
  | some pk =>
    refine ⟨fun h => ?_, nofun⟩
    cases ho : s.offsetOf key with
    | some i => rw [deleteKey_found s t key i ho] at h; cases h
    | none => rw [deleteKey_absent_unchanged s t key pk hpk ho] at h; cases h

theorem deleteKey_fails_iff_absent (s : Store) (t : Txn) (key : Bytes) (pk : String) (hpk : s.pk = some pk) :
    (t.deleteKey s key).2 = .notFound ↔ s.offsetOf key = none := by
  cases ho : s.offsetOf key with
  | some j => rw [deleteKey_found s t key j ho]; exact ⟨nofun, nofun⟩
  | none => rw [deleteKey_absent_unchanged s t key pk hpk ho]; exact ⟨fun _ => rfl, fun _ => rfl⟩

/-- `rwKey.Set` (re-keying the cursor row) is refused iff the new key already resolves -/
theorem setKey_refused_iff_exists (s : Store) (t : Txn) (key : Bytes) (pk : String) (hpk : s.pk = some pk) :
    (t.setKey s key).2 = false ↔ (s.offsetOf key).isSome = true := by
  unfold Txn.setKey
  simp only [hpk]
  split <;> simp_all

/-! ### the transaction-level root of D14

The decision consults only the *committed* table: reserving a row (and releasing it) does not touch
it, so a second `InsertKey` / `UpsertKey` of the same key in the same transaction (or in a
concurrent one) is accepted again and buffers a second `Put` of that key for another row — the op
list of `dup_put_counterexample`. -/

theorem offsetOf_next (s : Store) (key : Bytes) : s.next.1.offsetOf key = s.offsetOf key := by
  rw [C11.next_fst]; exact offsetOf_fill ..

theorem offsetOf_free (s : Store) (i : Nat) (key : Bytes) : (s.free i).offsetOf key = s.offsetOf key := by
  rw [C11.free_eq]; exact offsetOf_fill ..

theorem dup_key_same_txn (s : Store) (t : Txn) (cmd1 cmd2 : String) (key : Bytes) (body1 body2 : Store → Txn → Txn)
    (fail2 : Bool) (pk : String) (hpk : s.pk = some pk) (h : s.offsetOf key = none)
    (hc1 : cmd1 ≠ "qkey") (hc2 : cmd2 ≠ "qkey") (hfill : C11.FillInv s) :
    let r1 := t.keyOp s cmd1 key body1 false
    let r2 := r1.2.1.keyOp r1.1 cmd2 key body2 fail2
    ∃ i j, r1.2.2 = .inserted i ∧ r2.2.2 = .inserted j ∧ i ≠ j := by
  intro r1 r2
  have e1 : r1 = (s.next.1, _, _) := keyOp_creates s t cmd1 key body1 false pk hpk h hc1
  have hpk1 : s.next.1.pk = some pk := by rw [C11.next_fst]; exact hpk
  have e2 : r2.2.2 = .inserted s.next.1.next.2 := by
    show (r1.2.1.keyOp r1.1 cmd2 key body2 fail2).2.2 = _
    rw [e1, keyOp_creates s.next.1 _ cmd2 key body2 fail2 pk hpk1 ((offsetOf_next s key).trans h) hc2]
  refine ⟨s.next.2, s.next.1.next.2, by rw [e1], e2, fun e => ?_⟩
  have h1 := C11.next_is_free s.next.1 (C11.next_inv s hfill)
  rw [← e, C11.next_occupies s] at h1
  cases h1

/-! ## K6 — non-vacuity -/


def twoOps : List Op := [⟨opPut, 0, .str [1]⟩, ⟨opPut, 1, .str [2]⟩]
/-- a key column with two live keys: `[1] ↦ 0`, `[2] ↦ 1` -/
def kc2 : Col := (twoOps.foldl stepKey (kc0, [], [])).1

private def b1 : ApplyAcc := stepKey (kc0, [], []) ⟨opPut, 0, .str [1]⟩
private theorem b1_shape : SameShape kc0 b1.1 := stepKey_shape (kc0, [], []) _

private theorem b1_facts : Bits.get b1.1.bits 1 = false ∧ b1.1.seek.get? [1] = some 0 ∧ b1.1.seek.get? [2] = none := by
  unfold b1
  refine ⟨?_, stepKey_put_resolves _ _ rfl, ?_⟩
  · rw [stepKey_put_bits _ _ rfl (kc0_lt (i := 0) (by decide)).1, if_neg (by decide)]; exact get_replicate_false _ _
  · rw [stepKey_put_seek _ _ rfl, if_neg (by decide), if_neg]
    · exact kc0_seek _
    · intro hh
      have := hh.1.1
      rw [show Bits.get ((kc0, [], []) : ApplyAcc).1.bits _ = false from get_replicate_false _ _] at this
      cases this

theorem twoOps_wf : WFKeyOps kc0 twoOps := by
  show WFKeyOps ((kc0, [], []) : ApplyAcc).1 _
  unfold twoOps
  rw [WFKeyOps_cons, WFKeyOps_cons]
  refine ⟨?_, ?_, trivial⟩
  · exact .put (kc0_lt (by decide)) (.inl (kc0_seek _))
  · exact .put (kc0_inBounds b1_shape (by decide)) (.inl b1_facts.2.2)

theorem kc2_inv : KeyInv kc2 := foldl_stepKey_inv kc0 twoOps kc0_inv twoOps_wf

theorem kc2_two_keys : kc2.seek.get? [1] = some 0 ∧ kc2.seek.get? [2] = some 1 := by
  show (stepKey b1 ⟨opPut, 1, .str [2]⟩).1.seek.get? [1] = some 0 ∧ (stepKey b1 ⟨opPut, 1, .str [2]⟩).1.seek.get? [2] = some 1
  refine ⟨?_, stepKey_put_resolves _ _ rfl⟩
  rw [stepKey_put_seek _ _ rfl, if_neg (by decide), if_neg]
  · exact b1_facts.2.1
  · intro hh
    have := hh.1.1
    rw [show Bits.get b1.1.bits (Op.mk opPut 1 (.str [2])).idx = false from b1_facts.1] at this
    cases this

theorem kc2_rows : Bits.get kc2.bits 0 = true ∧ keyAt kc2 0 = [1] ∧ 0 < kc2.data.size ∧
    Bits.get kc2.bits 1 = true ∧ keyAt kc2 1 = [2] ∧ 1 < kc2.data.size := by
  have h0 := (kc2_inv [1] 0).1 kc2_two_keys.1
  have h1 := (kc2_inv [2] 1).1 kc2_two_keys.2
  exact ⟨h0.1, h0.2.1, h0.2.2.2, h1.1, h1.2.1, h1.2.2.2⟩

theorem kc2_shape : kc2.kind = .key ∧ kc2.data.size = 16384 * kc2.nchunks ∧ kc2.bits.size ≤ kc2.data.size := by
  have hs : SameShape kc0 kc2 := foldl_stepKey_shape twoOps (kc0, [], [])
  rw [hs.kind, hs.dsize, hs.nchunks, hs.bsize]
  simp [kc0]

/-! ### the hypotheses added to the statements are satisfiable -/

/-- `key_unique`: two present rows inside `data` (here with different keys) -/
example : ∃ c o1 o2, KeyInv c ∧ Bits.get c.bits o1 = true ∧ Bits.get c.bits o2 = true ∧
    o1 < c.data.size ∧ o2 < c.data.size ∧ o1 ≠ o2 :=
  ⟨kc2, 0, 1, kc2_inv, kc2_rows.1, kc2_rows.2.2.2.1, kc2_rows.2.2.1, kc2_rows.2.2.2.2.2, by decide⟩

/-- `key_unique_of_sizes`, `read_key_iff`, `lookup_reaches`, `key_unique_read`: the shape hypotheses -/
example : ∃ c, KeyInv c ∧ c.kind = .key ∧ c.data.size = 16384 * c.nchunks ∧ c.bits.size ≤ c.data.size :=
  ⟨kc2, kc2_inv, kc2_shape⟩

/-- `stepKey_put_inv`: an in-bounds `Put` of a new key, and one of the key the row already has -/
example : ∃ c i v, KeyInv c ∧ i < c.bits.size ∧ i < c.data.size ∧ c.seek.get? v = none :=
  ⟨kc0, 0, [1], kc0_inv, by simp [kc0], by simp [kc0], by simp [kc0]⟩
example : ∃ c i v, KeyInv c ∧ i < c.bits.size ∧ i < c.data.size ∧ c.seek.get? v = some i := by
  have hb : 0 < kc2.bits.size := ((kc2_inv [1] 0).1 kc2_two_keys.1).2.2.1
  exact ⟨kc2, 0, [1], kc2_inv, hb, kc2_rows.2.2.1, kc2_two_keys.1⟩

/-- `stepKey_delete_inv` / `stepKey_put_releases_old` / `reinsert_after_*`: a present row inside `data` -/
example : ∃ c i, KeyInv c ∧ Bits.get c.bits i = true ∧ i < c.data.size :=
  ⟨kc2, 0, kc2_inv, kc2_rows.1, kc2_rows.2.2.1⟩

/-- `WFKeyOps`: `twoOps_wf`, `staleOps_wf` (puts and a delete) -/
example : ∃ c ops, KeyInv c ∧ WFKeyOps c ops ∧ ops.length = 3 := ⟨kc0, staleOps, kc0_inv, staleOps_wf, rfl⟩

end ColumnVerif.Props.C12
