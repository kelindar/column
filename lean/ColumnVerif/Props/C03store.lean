import ColumnVerif.Lemmas.StoreComputed
import ColumnVerif.Lemmas.RestoreTail
import ColumnVerif.Props.C03
/-!
# C03 at store level — computed columns through the real `Store.commit`

`Props/C03.lean` proves the index invariant for one pass (`indexInv_pass`, `indexInv_mainPass`, `backfill_indexInv`).
Here the computed columns (bitmap index, sorted index, trigger) attached to a data column `x` are followed through
`Store.commitChunk` / `Store.commit`, the way `Props/C01storeAny.lean` follows the data column itself.

* P1 `commitChunk_computed`, `commit_computed` (any computed kind, any data kind of the target): the computed column the
  registry holds afterwards, as an equality of `Col` records — `applyOther` over the chunk's markers followed by what the
  buffer passes of `x` leave in the buffer for the chunk (`seenFor`: per buffer the ops as REWRITTEN by the main pass,
  then the puts it appended), chunk by chunk.
* P2 `commit_indexInv`, `commits_indexInv`, `createIndex_indexInv`, `history_indexInv`: numeric target, bitmap index:
  `IndexInv` (index bit = present ∧ rule(current value)) is kept by every commit and established by `CreateIndex`.
* P3 non-vacuity.
-/
namespace ColumnVerif.Props.C03store
open ColumnVerif.Codec ColumnVerif.Store ColumnVerif.Bits

/-! ## P1 — the plumbing, any computed kind -/

/-- **one dirty chunk** (`Store.commitChunk`). `ix` is a computed column (index / sorted index / trigger) listed once in
    `col.computed` of the data column `x`; no buffer of another column reaches `ix` (`hatt`), `x` is not itself attached
    to anything (`hcomp`); the buffer passes of `x` are clean (`BufsOK`: nothing appended, or one section per chunk in a
    well-formed buffer — always so for numeric / enum / key targets). Then the column `ix` resolves to afterwards is
    `applyOther` applied to: the marker ops of the chunk (`commitMarkers` hands them unchanged to every registry column,
    computed ones included), then, per buffer of `x` in order, `seenOps (applyData … (u.rangeOps ch))` = the rewritten
    ops followed by the appended puts, with `x` threaded through (`seenFor`). -/
theorem commitChunk_computed (s : Store) (ch : Nat) (cr : Bool) (ups : List Buf) (x ix : String) (col ic : Col)
    (hxr : x ≠ rowColumn) (hf : s.findCol x = some col) (hd : col.kind.isData = true)
    (hfi : s.findCol ix = some ic) (hci : ic.kind.isComputed = true) (hcount : col.computed.count ix = 1)
    (hcomp : ∀ v ∈ ups, ∀ c, s.findCol v.column = some c → x ∉ c.computed)
    (hatt : ∀ v ∈ ups, v.column ≠ x → v.column ≠ ix ∧ ∀ c, s.findCol v.column = some c → ix ∉ c.computed)
    (hok : BufsOK s.hash x ch ups (applyData s.hash col ch (markerOpsCr cr ups ch)).col) :
    (s.commitChunk ch cr ups).1.findCol ix =
      some (applyOther ic (markerOpsCr cr ups ch ++
        seenFor s.hash x ch ups (applyData s.hash col ch (markerOpsCr cr ups ch)).col)).1 :=
  Store.commitChunk_computed s ch cr ups x ix col ic hxr hf hd hfi hci hcount hcomp hatt hok

theorem seenFor_eq (hash : Bytes → Nat) (x : String) (ch : Nat) (u : Buf) (us : List Buf) (c : Col) :
    seenFor hash x ch [] c = [] ∧
    seenFor hash x ch (u :: us) c =
      if u.column = x then
        ((applyData hash c ch (u.rangeOps ch)).ops ++ (applyData hash c ch (u.rangeOps ch)).appended) ++
          seenFor hash x ch us (applyData hash c ch (u.rangeOps ch)).col
      else seenFor hash x ch us c := ⟨rfl, rfl⟩

/-- what the computed pass reads after a clean main pass is exactly that -/
theorem computedPass_reads (hash : Bytes → Nat) (c : Col) (ch : Nat) (u : Buf) (h : PassOK hash c ch u) :
    (mainPass hash c ch u).2.1.rangeOps ch =
      (applyData hash c ch (u.rangeOps ch)).ops ++ (applyData hash c ch (u.rangeOps ch)).appended :=
  pass_seen hash c ch u h

/-- the fields, for the three computed kinds (`applyOther` only moves `bits` / `entries`+`back` / `trig`) -/
theorem commitChunk_computed_fields (s : Store) (ch : Nat) (cr : Bool) (ups : List Buf) (x ix : String) (col ic : Col)
    (hxr : x ≠ rowColumn) (hf : s.findCol x = some col) (hd : col.kind.isData = true)
    (hfi : s.findCol ix = some ic) (hci : ic.kind.isComputed = true) (hcount : col.computed.count ix = 1)
    (hcomp : ∀ v ∈ ups, ∀ c, s.findCol v.column = some c → x ∉ c.computed)
    (hatt : ∀ v ∈ ups, v.column ≠ x → v.column ≠ ix ∧ ∀ c, s.findCol v.column = some c → ix ∉ c.computed)
    (hok : BufsOK s.hash x ch ups (applyData s.hash col ch (markerOpsCr cr ups ch)).col) :
    ∃ ic', (s.commitChunk ch cr ups).1.findCol ix = some ic' ∧ ic'.kind = ic.kind ∧ ic'.name = ic.name ∧
      ic'.computed = ic.computed ∧
      ic'.bits = (applyOther ic (markerOpsCr cr ups ch ++
        seenFor s.hash x ch ups (applyData s.hash col ch (markerOpsCr cr ups ch)).col)).1.bits ∧
      ic'.entries = (applyOther ic (markerOpsCr cr ups ch ++
        seenFor s.hash x ch ups (applyData s.hash col ch (markerOpsCr cr ups ch)).col)).1.entries ∧
      ic'.trig = (applyOther ic (markerOpsCr cr ups ch ++
        seenFor s.hash x ch ups (applyData s.hash col ch (markerOpsCr cr ups ch)).col)).1.trig := by
  have sg := applyOther_sig ic (markerOpsCr cr ups ch ++
    seenFor s.hash x ch ups (applyData s.hash col ch (markerOpsCr cr ups ch)).col)
  exact ⟨_, commitChunk_computed s ch cr ups x ix col ic hxr hf hd hfi hci hcount hcomp hatt hok, sg.kind, sg.name,
    sg.computed, rfl, rfl, rfl⟩

/-- **`Store.commit`** (any number of dirty chunks, any other buffers): the computed column, chunk by chunk in ascending
    order (`compChunks`, with the target threaded through as in `commit_col`), starting from the columns as
    `commitCapacity` leaves them (`capCol`) -/
theorem commit_computed (s : Store) (t : Txn) (x ix : String) (col ic : Col)
    (hxr : x ≠ rowColumn) (hf : s.findCol x = some col) (hd : col.kind.isData = true)
    (hfi : s.findCol ix = some ic) (hci : ic.kind.isComputed = true) (hcount : col.computed.count ix = 1)
    (hcomp : ∀ v ∈ t.updates, ∀ c, s.findCol v.column = some c → x ∉ c.computed)
    (hatt : ∀ v ∈ t.updates, v.column ≠ x → v.column ≠ ix ∧ ∀ c, s.findCol v.column = some c → ix ∉ c.computed)
    (hok : ChunksOK s.hash t.updates x t.dirtyChunks (capCol s t col)) :
    (s.commit t).findCol ix =
      some (compChunks s.hash t.updates x t.dirtyChunks (capCol s t col) (capCol s t ic)) :=
  Store.commit_computed s t x ix col ic hxr hf hd hfi hci hcount hcomp hatt hok

theorem compChunks_eq (hash : Bytes → Nat) (ups : List Buf) (x : String) (ch : Nat) (cs : List Nat) (col ic : Col) :
    compChunks hash ups x [] col ic = ic ∧
    compChunks hash ups x (ch :: cs) col ic =
      compChunks hash ups x cs (applyData hash col ch (markerOps ups ch ++ opsFor ups x ch)).col
        (applyOther ic (markerOps ups ch ++ seenFor hash x ch ups (applyData hash col ch (markerOps ups ch)).col)).1 :=
  ⟨rfl, rfl⟩

/-! ## P2 — the index invariant through `commit` -/

/-- **C03 at store level, one transaction.** `x` numeric (`NumCol`: registered, arrays well-formed, committed chunks
    allocated, merge never returns the empty string), `ix` a bitmap index attached to `x` (`Attached`), the transaction
    well-formed (`NumTxn`) and without a buffer written to `ix` directly. If the index holds exactly the present rows whose
    current value satisfies the rule before `s.commit t`, it does so afterwards — any number of dirty chunks, markers
    (row deletes), puts, merges, other columns' buffers. Every hypothesis is re-established for the store after the commit. -/
theorem commit_indexInv (s : Store) (t : Txn) (x ix : String) (k : NumKind) (tg : String) (rule : RuleFn) (col ic : Col)
    (hxr : x ≠ rowColumn) (hc : NumCol s x k col) (hfi : s.findCol ix = some ic) (hik : ic.kind = .index tg rule)
    (hatt : Attached s x ix) (ht : NumTxn k x t) (hnb : ∀ v ∈ t.updates, v.column ≠ ix)
    (hinv : IndexInv col ic k rule) :
    ∃ col' ic', NumCol (s.commit t) x k col' ∧ (s.commit t).findCol ix = some ic' ∧ ic'.kind = .index tg rule ∧
      Attached (s.commit t) x ix ∧ IndexInv col' ic' k rule ∧
      col' = colChunks s.hash t.updates x t.dirtyChunks (capCol s t col) ∧
      ic' = compChunks s.hash t.updates x t.dirtyChunks (capCol s t col) (capCol s t ic) := by
  obtain ⟨a1, a2, a3, n1, n2, n3, n4⟩ := commit_num_computed s t x ix k col ic hxr hc hfi (by rw [hik]; rfl) hatt
    ht.chunkOK hnb
  have hik' : (capCol s t ic).kind = .index tg rule := (capCol_meta s t ic).2.1.trans hik
  exact ⟨_, _, a1, a2, (compChunks_sig _ _ _ _ _ _).kind.trans hik', a3,
    indexInv_chunks s.hash t.updates x k tg rule t.dirtyChunks _ _ n1 hik' n2 n3 (chunkOps_chunk t x ht.chunkOK)
      (fun c _ => ht.canonChunk c) (fun c _ => ht.markerChunk c) (by rw [n4]; exact hc.merge)
      (indexInv_capCol s t col ic k tg rule hc.kind hik hinv), rfl, rfl⟩

/-- **C03 at store level, any list of transactions** -/
theorem commits_indexInv (x ix : String) (k : NumKind) (tg : String) (rule : RuleFn) (hxr : x ≠ rowColumn)
    (ts : List Txn) :
    ∀ (s : Store) (col ic : Col), NumCol s x k col → s.findCol ix = some ic → ic.kind = .index tg rule →
      Attached s x ix → (∀ t ∈ ts, NumTxn k x t ∧ ∀ v ∈ t.updates, v.column ≠ ix) → IndexInv col ic k rule →
      ∃ col' ic', NumCol (ts.foldl Store.commit s) x k col' ∧ (ts.foldl Store.commit s).findCol ix = some ic' ∧
        ic'.kind = .index tg rule ∧ Attached (ts.foldl Store.commit s) x ix ∧ IndexInv col' ic' k rule := by
  induction ts with
  | nil => intro s col ic hc hfi hik hatt _ hinv; exact ⟨col, ic, hc, hfi, hik, hatt, hinv⟩
  | cons t ts ih =>
    intro s col ic hc hfi hik hatt hts hinv
    obtain ⟨col1, ic1, a1, a2, a3, a4, a5, _, _⟩ := commit_indexInv s t x ix k tg rule col ic hxr hc hfi hik hatt
      (hts t (by simp)).1 (hts t (by simp)).2 hinv
    simp only [List.foldl_cons]
    exact ih _ col1 ic1 a1 a2 a3 a4 (fun t' ht' => hts t' (by simp [ht'])) a5

/-- the invariant read through the typed reader (`C03.indexInv_read`): after any list of commits the index contains `o`
    iff the column has a value at `o` and the rule accepts it -/
theorem commits_index_selects (x ix : String) (k : NumKind) (tg : String) (rule : RuleFn) (hxr : x ≠ rowColumn)
    (ts : List Txn) (s : Store) (col ic : Col) (hc : NumCol s x k col) (hfi : s.findCol ix = some ic)
    (hik : ic.kind = .index tg rule) (hatt : Attached s x ix)
    (hts : ∀ t ∈ ts, NumTxn k x t ∧ ∀ v ∈ t.updates, v.column ≠ ix) (hinv : IndexInv col ic k rule) :
    ∃ col' ic', (ts.foldl Store.commit s).findCol x = some col' ∧ (ts.foldl Store.commit s).findCol ix = some ic' ∧
      ∀ o, Bits.get ic'.bits o = true ↔
        ∃ v, col'.read o = some v ∧ rule ⟨opPut, o, .fixed k.code (padTo k.width v)⟩ = true := by
  obtain ⟨col', ic', a1, a2, _, _, a5⟩ := commits_indexInv x ix k tg rule hxr ts s col ic hc hfi hik hatt hts hinv
  exact ⟨col', ic', a1.find, a2, C03.indexInv_read col' ic' k rule a1.kind (by rw [a1.wf.bsize]; exact Nat.le_refl _) a5⟩

/-! ### the index created after the data -/

/-- the state before the index exists: the numeric column `x` in the state the theorems need, no row beyond the committed
    chunks (`Live`), the name `ix` not in use, `x` not attached to anything -/
structure PreIndex (s : Store) (x ix : String) (k : NumKind) (col : Col) : Prop where
  num : NumCol s x k col
  live : Live s col
  fresh : s.findCol ix = none
  target : ∀ n c, s.findCol n = some c → x ∉ c.computed
  unlisted : ∀ n c, s.findCol n = some c → ix ∉ c.computed

theorem commit_preIndex (s : Store) (t : Txn) (x ix : String) (k : NumKind) (col : Col) (hxr : x ≠ rowColumn)
    (h : PreIndex s x ix k col) (hinv : ∀ v ∈ t.updates, (v.column = x ∨ isMarkerBuf v = true) → ChunkOK v) :
    ∃ col', PreIndex (s.commit t) x ix k col' := by
  obtain ⟨col', a1, a2, _⟩ := commit_numCol s t x k col hxr h.num (fun v _ c hc => h.target v.column c hc) hinv h.live
  refine ⟨col', a1, a2, ?_, ?_, ?_⟩
  · cases hf : (s.commit t).findCol ix with
    | none => rfl
    | some c =>
      obtain ⟨c0, h0, _⟩ := commit_back s t ix c hf
      rw [h.fresh] at h0; cases h0
  · intro n c hc
    obtain ⟨c0, h0, e, _⟩ := commit_back s t n c hc
    rw [e]; exact h.target n c0 h0
  · intro n c hc
    obtain ⟨c0, h0, e, _⟩ := commit_back s t n c hc
    rw [e]; exact h.unlisted n c0 h0

theorem commits_preIndex (x ix : String) (k : NumKind) (hxr : x ≠ rowColumn) (ts : List Txn) :
    ∀ (s : Store) (col : Col), PreIndex s x ix k col →
      (∀ t ∈ ts, ∀ v ∈ t.updates, (v.column = x ∨ isMarkerBuf v = true) → ChunkOK v) →
      ∃ col', PreIndex (ts.foldl Store.commit s) x ix k col' := by
  induction ts with
  | nil => intro s col h _; exact ⟨col, h⟩
  | cons t ts ih =>
    intro s col h hts
    obtain ⟨col1, h1⟩ := commit_preIndex s t x ix k col hxr h (hts t (by simp))
    simp only [List.foldl_cons]
    exact ih _ col1 h1 (fun t' ht' => hts t' (by simp [ht']))

/-- `CreateIndex` under a fresh name `ix` on a registered column `x`: afterwards `x` resolves to its column with `ix`
    attached, `ix` to the back-filled index `ic`, every other name to what it did; the commit-id table is untouched -/
theorem createIndex_findCol (s : Store) (x ix : String) (rule : RuleFn) (col : Col) (hf : s.findCol x = some col)
    (hfresh : s.findCol ix = none) :
    ∃ ic, ic = (s.backfill col (Col.grow { name := ix, kind := .index x rule } s.cap)).1 ∧ (ic.name = ix →
      (s.createComputed ix x (.index x rule)).1.commits = s.commits ∧
      ∀ n, (s.createComputed ix x (.index x rule)).1.findCol n =
        if n = x then some { col with computed := col.computed ++ [ix] } else if n = ix then some ic else s.findCol n) := by
  have hxi : ix ≠ x := fun e => by rw [e, hf] at hfresh; cases hfresh
  refine ⟨_, rfl, fun hname => ?_⟩
  unfold Store.createComputed
  rw [hf]
  simp only [hfresh, Option.isSome_none, Bool.false_eq_true, if_false]
  generalize (s.backfill col (Col.grow { name := ix, kind := .index x rule } s.cap)).1 = ic at hname
  have hs1x : ({ s with cols := s.cols.push ic } : Store).findCol x = some col :=
    (findCol_push_other s ic x (by rw [hname]; exact hxi)).trans hf
  refine ⟨(setCol_rest _ _).2.2.1, fun n => ?_⟩
  rw [findCol_with_panicked, setCol_found _ col { col with computed := col.computed ++ [ix] } x hs1x rfl n]
  by_cases e : n = x
  · rw [if_pos e, if_pos e]
  · rw [if_neg e, if_neg e]
    by_cases e2 : n = ix
    · rw [if_pos e2, e2]
      exact hname ▸ findCol_push_self s ic (by rw [hname]; exact hfresh)
    · rw [if_neg e2]
      exact findCol_push_other s ic n (by rw [hname]; exact fun e' => e2 e'.symm)

/-- **`CreateIndex` after the data** (`Store.createComputed` with kind `.index`, fresh name): the back-filled index and its
    target satisfy `IndexInv`, and the pair is `Attached` — everything `commit_indexInv` asks for -/
theorem createIndex_indexInv (s : Store) (x ix : String) (k : NumKind) (rule : RuleFn) (col : Col)
    (h : PreIndex s x ix k col) :
    ∃ col' ic', NumCol (s.createComputed ix x (.index x rule)).1 x k col' ∧
      (s.createComputed ix x (.index x rule)).1.findCol ix = some ic' ∧ ic'.kind = .index x rule ∧
      Attached (s.createComputed ix x (.index x rule)).1 x ix ∧ IndexInv col' ic' k rule := by
  have hxi : ix ≠ x := fun e => by have := h.num.find; rw [← e, h.fresh] at this; cases this
  have hik0 : (Col.grow { name := ix, kind := .index x rule } s.cap).kind = .index x rule := grow_kind _ _
  obtain ⟨b1, _, b3⟩ := C03.backfill_indexInv s col (Col.grow { name := ix, kind := .index x rule } s.cap) k x rule
    h.num.kind hik0 h.num.cov h.live (C03.createIndex_starts_empty ix x rule s.cap)
  obtain ⟨ic, rfl, hreg⟩ := createIndex_findCol s x ix rule col h.num.find h.fresh
  obtain ⟨hcm, hfind⟩ := hreg (b3.name.trans (grow_name _ _))
  have hcomp : ∀ a, a ∉ (s.backfill col (Col.grow { name := ix, kind := .index x rule } s.cap)).1.computed := by
    rw [b3.computed, grow_computed]; exact fun _ => List.not_mem_nil
  -- a name resolves, afterwards, to the target with `ix` attached, to the index, or to what it did
  refine ⟨{ col with computed := col.computed ++ [ix] }, _, ⟨by rw [hfind, if_pos rfl], h.num.kind,
    ⟨h.num.wf.bsize, h.num.wf.dsize⟩, by rw [hcm]; exact h.num.cov, h.num.merge⟩,
    by rw [hfind, if_neg hxi, if_pos rfl], b3.kind.trans hik0, ⟨fun n c hc => ?_, fun n c hc hn => ?_, fun c hc => ?_⟩, b1⟩
  · by_cases e : n = x
    · rw [hfind, if_pos e] at hc
      rw [← Option.some.inj hc]
      exact fun hm => (List.mem_append.1 hm).elim (h.target x col h.num.find) (fun h1 => hxi (List.mem_singleton.1 h1).symm)
    · by_cases e2 : n = ix
      · rw [hfind, if_neg e, if_pos e2] at hc
        rw [← Option.some.inj hc]; exact hcomp x
      · rw [hfind, if_neg e, if_neg e2] at hc
        exact h.target n c hc
  · by_cases e2 : n = ix
    · rw [hfind, if_neg hn, if_pos e2] at hc
      rw [← Option.some.inj hc]; exact hcomp ix
    · rw [hfind, if_neg hn, if_neg e2] at hc
      exact h.unlisted n c hc
  · rw [hfind, if_pos rfl] at hc
    rw [← Option.some.inj hc]
    exact (List.count_append ..).trans (by rw [List.count_eq_zero_of_not_mem (h.unlisted x col h.num.find)]; simp)

/-- **C03, whole history**: a numeric column, any commits, `CreateIndex`, any commits — at the end the index selects
    exactly the present rows whose current value satisfies the rule -/
theorem history_indexInv (x ix : String) (k : NumKind) (rule : RuleFn) (hxr : x ≠ rowColumn) (s0 : Store) (col0 : Col)
    (h0 : PreIndex s0 x ix k col0) (ts1 ts2 : List Txn)
    (h1 : ∀ t ∈ ts1, ∀ v ∈ t.updates, (v.column = x ∨ isMarkerBuf v = true) → ChunkOK v)
    (h2 : ∀ t ∈ ts2, NumTxn k x t ∧ ∀ v ∈ t.updates, v.column ≠ ix) :
    ∃ col ic,
      (ts2.foldl Store.commit ((ts1.foldl Store.commit s0).createComputed ix x (.index x rule)).1).findCol x = some col ∧
      (ts2.foldl Store.commit ((ts1.foldl Store.commit s0).createComputed ix x (.index x rule)).1).findCol ix = some ic ∧
      IndexInv col ic k rule ∧
      ∀ o, Bits.get ic.bits o = true ↔
        ∃ v, col.read o = some v ∧ rule ⟨opPut, o, .fixed k.code (padTo k.width v)⟩ = true := by
  obtain ⟨col1, p1⟩ := commits_preIndex x ix k hxr ts1 s0 col0 h0 h1
  obtain ⟨col2, ic2, c1, c2, c3, c4, c5⟩ := createIndex_indexInv _ x ix k rule col1 p1
  obtain ⟨col3, ic3, d1, d2, _, _, d5⟩ := commits_indexInv x ix k x rule hxr ts2 _ col2 ic2 c1 c2 c3 c4 h2 c5
  exact ⟨col3, ic3, d1.find, d2, d5,
    C03.indexInv_read col3 ic3 k rule d1.kind (by rw [d1.wf.bsize]; exact Nat.le_refl _) d5⟩

/-- **`CreateColumn`** of a numeric column under a fresh name establishes `PreIndex`: the history may start there -/
theorem createColumn_preIndex (s : Store) (x ix : String) (k : NumKind) (merge : Bytes → Bytes → Bytes)
    (hm : ∀ a d, merge a d ≠ []) (hx : s.findCol x = none) (hix : s.findCol ix = none) (hxi : x ≠ ix)
    (hreg : ∀ n c, s.findCol n = some c → x ∉ c.computed ∧ ix ∉ c.computed) :
    ∃ col, PreIndex (s.createColumn x (.num k) merge).1 x ix k col := by
  rcases createColumn_cases s x (.num k) merge with ⟨h', _⟩ | ⟨_, pk, e⟩
  · rw [hx] at h'; cases h'
  rw [e]
  obtain ⟨_, _, _, g4, g5, g6, _, _⟩ := grow_data { name := x, kind := .num k, merge := merge } rfl (createCap s)
  obtain ⟨n1, n2, n3, n4⟩ := grow_meta ({ name := x, kind := .num k, merge := merge } : Col) (createCap s)
  generalize Col.grow { name := x, kind := .num k, merge := merge } (createCap s) = col at g4 g5 g6 n1 n2 n3 n4
  have n1 : col.name = x := n1
  have hself := findCol_push_self { s with pk := pk } col (by rw [n1]; exact hx)
  have hother : ∀ n, n ≠ x → ({ s with cols := s.cols.push col, pk := pk } : Store).findCol n = s.findCol n :=
    fun n hn => findCol_push_other { s with pk := pk } col n (by rw [n1]; exact fun e => hn e.symm)
  rw [n1] at hself
  have hcases : ∀ n c, ({ s with cols := s.cols.push col, pk := pk } : Store).findCol n = some c →
      s.findCol n = some c ∨ c = col := by
    intro n c hc
    by_cases e : n = x
    · rw [e, hself] at hc; exact .inr (Option.some.inj hc).symm
    · rw [hother n e] at hc; exact .inl hc
  refine ⟨col, ⟨hself, n2, g6 ⟨rfl, rfl⟩, ?_, by rw [n4]; exact hm⟩, ?_, ?_, ?_, ?_⟩
  · have := createCap_covers s
    show s.commits.size ≤ col.nchunks
    omega
  · intro o _
    exact congrArg Prod.fst (g5 o)
  · rw [hother ix (fun e => hxi e.symm)]; exact hix
  · intro n c hc
    rcases hcases n c hc with h0 | rfl
    · exact (hreg n c h0).1
    · rw [n3]; simp
  · intro n c hc
    rcases hcases n c hc with h0 | rfl
    · exact (hreg n c h0).2
    · rw [n3]; simp

/-! ## P3 — non-vacuity: a `uint16` column with a bitmap index and a trigger, a transaction over two chunks with a merge -/

/-- one allocated chunk, byte-wise adding merge, an index and a trigger attached -/
def nCol : Col :=
  { name := "n", kind := .num .u16, nchunks := 1, bits := Array.replicate 16384 false,
    data := Array.replicate 16384 [], merge := C03.addMerge, computed := ["big", "t"] }

/-- "low byte ≥ 7" -/
def bigIdx : Col := { name := "big", kind := .index "n" C03.rule0 }
def trgCol : Col := { name := "t", kind := .trigger "n" }

def exStore : Store := { cols := #[nCol, bigIdx, trgCol], commits := #[0] }

/-- insert rows 3 and 4 (markers), put 3 to row 3, merge 4 onto it (= 7), put 9 to row 20000 (second chunk, not yet
    committed-to: `commitCapacity` grows the columns), then put 2 to row 4 — a second section of chunk 0 in the buffer -/
def exTxn : Txn :=
  ([(rowColumn, ⟨opInsert, 3, .fixed 0 []⟩), (rowColumn, ⟨opInsert, 4, .fixed 0 []⟩),
    ("n", ⟨opPut, 3, .fixed 1 [0, 3]⟩), ("n", ⟨opMerge, 3, .fixed 1 [0, 4]⟩),
    ("n", ⟨opPut, 20000, .fixed 1 [0, 9]⟩), ("n", ⟨opPut, 4, .fixed 1 [0, 2]⟩)] : List (String × Op)).foldl
      (fun t p => t.putOp p.1 p.2) {}

/-- a later transaction: delete row 3 through a marker -/
def delTxn : Txn := ({} : Txn).putOp rowColumn ⟨opDelete, 3, .fixed 0 []⟩

theorem exStore_find_n : exStore.findCol "n" = some nCol := by simp [exStore, Store.findCol, nCol]
theorem exStore_find_big : exStore.findCol "big" = some bigIdx := by simp [exStore, Store.findCol, nCol, bigIdx]
theorem exStore_find_t : exStore.findCol "t" = some trgCol := by
  simp [exStore, Store.findCol, nCol, bigIdx, trgCol]

theorem exTxn_dirty : exTxn.dirtyChunks = [0, 1] := by decide

theorem ex_numCol : NumCol exStore "n" .u16 nCol :=
  ⟨exStore_find_n, rfl, ⟨by simp [nCol], by simp [nCol]⟩, by decide, by intro a d; simp [nCol, C03.addMerge]⟩

theorem ex_attached_big : Attached exStore "n" "big" :=
  Attached.of_cols exStore "n" "big" (by decide) (by decide) (by decide)

theorem ex_attached_t : Attached exStore "n" "t" :=
  Attached.of_cols exStore "n" "t" (by decide) (by decide) (by decide)

theorem ex_numTxn : NumTxn .u16 "n" exTxn := by
  refine ⟨by decide, ?_, by decide⟩
  · have : allFor exTxn.updates "n" = [⟨opPut, 3, .fixed 1 [0, 3]⟩, ⟨opMerge, 3, .fixed 1 [0, 4]⟩,
        ⟨opPut, 20000, .fixed 1 [0, 9]⟩, ⟨opPut, 4, .fixed 1 [0, 2]⟩] := by decide
    rw [this]
    intro o ho hp
    simp only [List.mem_cons, List.not_mem_nil, or_false] at ho
    rcases ho with rfl | rfl | rfl | rfl
    · exact ⟨[0, 3], rfl, rfl⟩
    · exact absurd hp (by decide)
    · exact ⟨[0, 9], rfl, rfl⟩
    · exact ⟨[0, 2], rfl, rfl⟩

theorem ex_numTxn_del : NumTxn .u16 "n" delTxn := by
  refine ⟨by decide, ?_, by decide⟩
  · have : allFor delTxn.updates "n" = [] := by decide
    rw [this]
    intro o ho
    cases ho

theorem nCol_slot (o : Nat) : slot nCol o = (false, []) := by
  have hd : (nCol.data[o]?).getD [] = [] := by
    show ((Array.replicate 16384 ([] : Bytes))[o]?).getD [] = []
    rw [Array.getElem?_replicate]
    split <;> rfl
  unfold slot
  rw [show Bits.get nCol.bits o = false from get_replicate_false _ _, hd]

theorem ex_indexInv : IndexInv nCol bigIdx .u16 C03.rule0 := by
  intro o
  have h1 : Bits.get bigIdx.bits o = false := rfl
  have h2 : Bits.get nCol.bits o = false := get_replicate_false _ _
  rw [h1, h2]
  rfl

/-- the buffer of "n" has two sections for chunk 0 (and the pass rewrites a merge in the first) -/
example : (exTxn.updates.filter (fun b => b.column == "n")).map Buf.chunks = [[0, 1, 0]] := by decide +kernel

example : (exStore.commitChunk 0 true exTxn.updates).1.findCol "big" =
    some (applyOther bigIdx (markerOpsCr true exTxn.updates 0 ++
      seenFor exStore.hash "n" 0 exTxn.updates (applyData exStore.hash nCol 0 (markerOpsCr true exTxn.updates 0)).col)).1 :=
  commitChunk_computed exStore 0 true exTxn.updates "n" "big" nCol bigIdx (by decide) exStore_find_n rfl
    exStore_find_big rfl (by decide) (ex_attached_big.hyps exTxn.updates (by decide)).1
    (ex_attached_big.hyps exTxn.updates (by decide)).2
    (bufsOK_num _ _ _ _ _ .u16 ((applyData_sameShape _ _ _ _).kind.trans rfl))

example : (exStore.commit exTxn).findCol "t" =
    some (compChunks exStore.hash exTxn.updates "n" exTxn.dirtyChunks (capCol exStore exTxn nCol)
      (capCol exStore exTxn trgCol)) :=
  commit_computed exStore exTxn "n" "t" nCol trgCol (by decide) exStore_find_n rfl exStore_find_t rfl (by decide)
    (ex_attached_t.hyps exTxn.updates (by decide)).1 (ex_attached_t.hyps exTxn.updates (by decide)).2
    (chunksOK_num _ _ _ _ _ .u16 rfl)

/-- what the index and the trigger receive in chunk 0: the two markers, then the ops of both sections with the merge
    turned into a put of the stored sum `[0, 7]` -/
theorem ex_seen0 : markerOps exTxn.updates 0 ++
    seenFor exStore.hash "n" 0 exTxn.updates (applyData exStore.hash nCol 0 (markerOps exTxn.updates 0)).col =
    [⟨opInsert, 3, .fixed 0 []⟩, ⟨opInsert, 4, .fixed 0 []⟩, ⟨opPut, 3, .fixed 1 [0, 3]⟩, ⟨opPut, 3, .fixed 1 [0, 7]⟩,
     ⟨opPut, 4, .fixed 1 [0, 2]⟩] := by
  refine (seenChunk_num exStore.hash exTxn.updates "n" 0 .u16 nCol rfl (by decide) (by decide)).trans ?_
  unfold chunkOps
  -- only the merge function and slot 3 matter; on `nCol` itself the kernel would measure the 16384 slots
  suffices h : ∀ c : Col, c.merge = C03.addMerge → 3 < c.data.size →
      rwList .u16 c (markerOps exTxn.updates 0 ++ opsFor exTxn.updates "n" 0) = _ from h nCol rfl (by simp [nCol])
  intro c hm h3
  rw [show markerOps exTxn.updates 0 ++ opsFor exTxn.updates "n" 0 =
      [⟨opInsert, 3, .fixed 0 []⟩, ⟨opInsert, 4, .fixed 0 []⟩, ⟨opPut, 3, .fixed 1 [0, 3]⟩,
       ⟨opMerge, 3, .fixed 1 [0, 4]⟩, ⟨opPut, 4, .fixed 1 [0, 2]⟩] by decide +kernel]
  simp [rwList, outOp, stepCol, hm, h3, C03.addMerge, opPut, opMerge, opInsert, opDelete, valRaw, padTo, swapInPlace,
    NumKind.code]

theorem ex_commit : ∃ col' ic', NumCol (exStore.commit exTxn) "n" .u16 col' ∧
    (exStore.commit exTxn).findCol "big" = some ic' ∧ ic'.kind = .index "n" C03.rule0 ∧
    Attached (exStore.commit exTxn) "n" "big" ∧ IndexInv col' ic' .u16 C03.rule0 := by
  obtain ⟨col', ic', h1, h2, h3, h4, h5, _⟩ := commit_indexInv exStore exTxn "n" "big" .u16 "n" C03.rule0 nCol bigIdx
    (by decide) ex_numCol exStore_find_big rfl ex_attached_big ex_numTxn (by decide) ex_indexInv
  exact ⟨col', ic', h1, h2, h3, h4, h5⟩

example : ∃ col' ic', ([exTxn, delTxn].foldl Store.commit exStore).findCol "n" = some col' ∧
    ([exTxn, delTxn].foldl Store.commit exStore).findCol "big" = some ic' ∧
    ∀ o, Bits.get ic'.bits o = true ↔
      ∃ v, col'.read o = some v ∧ C03.rule0 ⟨opPut, o, .fixed NumKind.u16.code (padTo NumKind.u16.width v)⟩ = true :=
  commits_index_selects "n" "big" .u16 "n" C03.rule0 (by decide) [exTxn, delTxn] exStore nCol bigIdx ex_numCol
    exStore_find_big rfl ex_attached_big
    (by
      intro t ht
      simp only [List.mem_cons, List.not_mem_nil, or_false] at ht
      rcases ht with rfl | rfl
      · exact ⟨ex_numTxn, by decide⟩
      · exact ⟨ex_numTxn_del, by decide⟩)
    ex_indexInv

/-- the concrete bits: row 3 holds 3 + 4 = 7 (selected: the index saw the merged value), row 4 holds 2 (not selected),
    row 20000 in the second chunk holds 9 (selected), row 5 was never written -/
theorem ex_bits : ∃ ic', (exStore.commit exTxn).findCol "big" = some ic' ∧ Bits.get ic'.bits 3 = true ∧
    Bits.get ic'.bits 4 = false ∧ Bits.get ic'.bits 20000 = true ∧ Bits.get ic'.bits 5 = false := by
  obtain ⟨col', ic', h1, h2, _, _, h5, e1, _⟩ := commit_indexInv exStore exTxn "n" "big" .u16 "n" C03.rule0 nCol bigIdx
    (by decide) ex_numCol exStore_find_big rfl ex_attached_big ex_numTxn (by decide) ex_indexInv
  obtain ⟨c2, f1, _, _, _, _, _, _, f8⟩ := commit_slot_ok exStore exTxn "n" nCol (slotEffect nCol.merge NumKind.u16.width)
    (by decide) exStore_find_n rfl ex_numCol.wf ex_numCol.cov (ex_attached_big.hyps exTxn.updates (by decide)).1
    (chunksOK_num _ _ _ _ _ .u16 rfl) (slotLaw_num _ _ _) ex_numTxn.chunkOK
  rw [h1.find] at f1
  cases f1
  have s0 : ∀ o, slot nCol o = (false, []) := nCol_slot
  have hget : ∀ o, Bits.get ic'.bits o =
      ((slot col' o).1 && C03.rule0 ⟨opPut, o, .fixed NumKind.u16.code (padTo NumKind.u16.width (slot col' o).2)⟩) :=
    fun o => h5 o
  refine ⟨ic', h2, ?_, ?_, ?_, ?_⟩
  · rw [hget, f8, s0]; decide
  · rw [hget, f8, s0]; decide
  · rw [hget, f8, s0]; decide
  · rw [hget, f8, s0]; decide

/-- the whole history, from `CreateColumn`: create "n", commit, create the index "big", commit -/
def exBase : Store := { commits := #[0] }

example : ∃ col ic,
    ([delTxn].foldl Store.commit (([exTxn].foldl Store.commit
      (exBase.createColumn "n" (.num .u16) C03.addMerge).1).createComputed "big" "n" (.index "n" C03.rule0)).1).findCol "n"
        = some col ∧
    ([delTxn].foldl Store.commit (([exTxn].foldl Store.commit
      (exBase.createColumn "n" (.num .u16) C03.addMerge).1).createComputed "big" "n" (.index "n" C03.rule0)).1).findCol "big"
        = some ic ∧ IndexInv col ic .u16 C03.rule0 ∧
    ∀ o, Bits.get ic.bits o = true ↔
      ∃ v, col.read o = some v ∧ C03.rule0 ⟨opPut, o, .fixed NumKind.u16.code (padTo NumKind.u16.width v)⟩ = true := by
  obtain ⟨col0, h0⟩ := createColumn_preIndex exBase "n" "big" .u16 C03.addMerge (by intro a d; simp [C03.addMerge])
    (by simp [exBase, Store.findCol]) (by simp [exBase, Store.findCol]) (by decide)
    (by intro n c h; simp [exBase, Store.findCol] at h)
  exact history_indexInv "n" "big" .u16 C03.rule0 (by decide) _ col0 h0 [exTxn] [delTxn]
    (by
      intro t ht
      simp only [List.mem_singleton] at ht
      subst ht
      exact ex_numTxn.chunkOK)
    (by
      intro t ht
      simp only [List.mem_singleton] at ht
      subst ht
      exact ⟨ex_numTxn_del, by decide⟩)

section Axioms
#print axioms commitChunk_computed
#print axioms commit_computed
#print axioms commit_indexInv
#print axioms commits_indexInv
#print axioms createIndex_indexInv
#print axioms createColumn_preIndex
#print axioms history_indexInv
#print axioms ex_bits
end Axioms

end ColumnVerif.Props.C03store
