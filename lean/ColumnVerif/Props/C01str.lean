import ColumnVerif.Lemmas.ApplyStr
/-!
# C01 (string / record / enum part), C05 third sentence, C06 — the main pass over one section

`applyData` on a column of kind `.str` / `.record` folds `stepStr` over the section, on a column of
kind `.enum` it folds `stepEnum hash`. The statements below are about that fold, for every section
(any length, offsets in any order, repeated offsets), every previous column content and — for
strings — every merge function.

Vocabulary (all in `Lemmas/Apply.lean`, `Lemmas/ApplyStr.lean`):
* `slot c i = (presence bit of i, raw bytes of slot i)`;
* `slotEffect merge 0 st o` — effect of one op on the slot of its own offset (Put: present with the
  op's value; Merge: present with `merge old delta`, *reading the raw old slot even when the row
  is absent*; Delete: absent, bytes kept; anything else: nothing);
* `InBounds c ops` — every offset of the section lies inside the column's arrays;
* `traceStr (c, [], []) ops` — the section's ops, each paired with the value its offset holds right
  after it was applied (`trace_meaning` below);
* `resizing (o, v)` — `o` is a Merge whose result `v` has another length than its delta;
* `NoOpAfterResize i tr` — the guard of finding D12: no op on offset `i` follows a resizing merge on `i`.
-/
namespace ColumnVerif.Props.C01str
open ColumnVerif.Codec ColumnVerif.Bits ColumnVerif.Store

/-! ## T1 — every slot after the pass (C01 for strings / records) -/

/-- strings are not padded: `slotEffect` with width 0 reads the raw slot as it is -/
theorem padTo_zero (bs : Bytes) : padTo 0 bs = bs := ColumnVerif.Store.padTo_zero bs

theorem str_shape (ops : List Op) (acc : ApplyAcc) : SameShape acc.1 (ops.foldl stepStr acc).1 :=
  foldStepOf_sameShape (fun _ => 0) .str ops acc

/-- After the pass, the slot of every offset `i` is the fold of the ops addressed to `i`, in section
    order, over its previous content; offsets not addressed are unchanged (empty filter). Any merge
    function, any previous content. -/
theorem str_slot_fold (ops : List Op) (acc : ApplyAcc) (i : Nat) (hin : InBounds acc.1 ops) :
    slot (ops.foldl stepStr acc).1 i =
      (ops.filter (fun o => o.idx = i)).foldl (slotEffect acc.1.merge 0) (slot acc.1 i) :=
  foldStr_slot ops acc i hin

theorem applyData_str_slot (hash : Bytes → Nat) (c : Col) (chunk : Nat) (ops : List Op) (i : Nat)
    (hk : c.kind = .str ∨ c.kind = .record) (hc : chunk < c.nchunks) (hin : InBounds c ops) :
    slot (applyData hash c chunk ops).col i =
      (ops.filter (fun o => o.idx = i)).foldl (slotEffect c.merge 0) (slot c i) := by
  rw [applyData_str hash c chunk ops hk hc]
  exact foldStr_slot ops (c, [], []) i hin

/-! ## T2 — how the section is rewritten in place -/

/-- entry `k` of the trace is op `k` with the bytes held by its offset after ops `0..k` -/
theorem trace_meaning (c : Col) (ops : List Op) (k : Nat) :
    (traceStr (c, [], []) ops)[k]? =
      (ops[k]?).map (fun o => (o, (slot ((ops.take (k+1)).foldl stepStr (c, [], [])).1 o.idx).2)) :=
  traceStr_getElem? _ ops k

theorem trace_ops (c : Col) (ops : List Op) : (traceStr (c, [], []) ops).map Prod.fst = ops :=
  traceStr_map_fst _ ops

theorem trace_merge_value (acc : ApplyAcc) (o : Op) (hb : o.idx < acc.1.bits.size) (hd : o.idx < acc.1.data.size)
    (hm : o.typ = opMerge) :
    (slot (stepStr acc o).1 o.idx).2 = acc.1.merge (slot acc.1 o.idx).2 (valRaw o.val) := by
  rw [stepStr_slot acc o o.idx hb hd, if_pos rfl, slotEffect_merge hm, ColumnVerif.Store.padTo_zero]

/-- The rewritten section is the original one with every op replaced by `rwOp`; the puts appended
    through the parent buffer are the `appOp`s of the resizing merges, in section order. -/
theorem rewritten_eq (c : Col) (ops : List Op) (hin : InBounds c ops) :
    (ops.foldl stepStr (c, [], [])).2.1.reverse = (traceStr (c, [], []) ops).map rwOp ∧
    (ops.foldl stepStr (c, [], [])).2.2 = (traceStr (c, [], []) ops).filterMap appOp := by
  obtain ⟨h1, h2⟩ := foldStr_rewrite ops (c, [], []) hin
  rw [h1, h2]; simp

theorem rewritten_length (c : Col) (ops : List Op) (hin : InBounds c ops) :
    (ops.foldl stepStr (c, [], [])).2.1.reverse.length = ops.length := by
  rw [(rewritten_eq c ops hin).1, List.length_map, ← List.length_map (f := Prod.fst), traceStr_map_fst]

theorem rewritten_offsets (c : Col) (ops : List Op) (hin : InBounds c ops) :
    (ops.foldl stepStr (c, [], [])).2.1.reverse.map (·.idx) = ops.map (·.idx) := by
  rw [(rewritten_eq c ops hin).1, List.map_map]
  have : ((fun o : Op => o.idx) ∘ rwOp) = (fun o : Op => o.idx) ∘ Prod.fst := by
    funext p; simp [rwOp_idx]
  rw [this, ← List.map_map, traceStr_map_fst]

/-- Position `k` of the rewritten section, `v` being the value the offset holds right after op `k`:
    a non-merge op is unchanged; a merge whose result is as long as its delta became
    `Put v` in place; any other merge is marked `Skip` (its value bytes stay). -/
theorem rewritten_at (c : Col) (ops : List Op) (hin : InBounds c ops) (k : Nat) (hk : k < ops.length) :
    let o := ops[k]
    let v := (slot ((ops.take (k+1)).foldl stepStr (c, [], [])).1 o.idx).2
    (ops.foldl stepStr (c, [], [])).2.1.reverse[k]? =
      some (if o.typ = opMerge then
              (if v.length = (valRaw o.val).length then ⟨opPut, o.idx, .str v⟩ else ⟨opSkip, o.idx, o.val⟩)
            else o) := by
  intro o v
  rw [(rewritten_eq c ops hin).1, List.getElem?_map, trace_meaning, List.getElem?_eq_getElem hk]
  rfl

/-- every resizing merge has its result appended as a `Put` on the same offset … -/
theorem appended_of_resizing (c : Col) (ops : List Op) (hin : InBounds c ops) (k : Nat) (hk : k < ops.length) :
    let o := ops[k]
    let v := (slot ((ops.take (k+1)).foldl stepStr (c, [], [])).1 o.idx).2
    o.typ = opMerge → v.length ≠ (valRaw o.val).length →
      (⟨opPut, o.idx, .str v⟩ : Op) ∈ (ops.foldl stepStr (c, [], [])).2.2 := by
  intro o v hm hl
  rw [(rewritten_eq c ops hin).2, List.mem_filterMap]
  refine ⟨(o, v), ?_, ?_⟩
  · have := trace_meaning c ops k
    rw [List.getElem?_eq_getElem hk] at this
    exact List.mem_of_getElem? this
  · unfold appOp; rw [if_pos ⟨hm, hl⟩]

/-- … and nothing else is appended -/
theorem appended_only_resizing (c : Col) (ops : List Op) (hin : InBounds c ops) (a : Op)
    (ha : a ∈ (ops.foldl stepStr (c, [], [])).2.2) :
    ∃ p ∈ traceStr (c, [], []) ops, resizing p ∧ a = ⟨opPut, p.1.idx, .str p.2⟩ := by
  rw [(rewritten_eq c ops hin).2, List.mem_filterMap] at ha
  obtain ⟨p, hp, hq⟩ := ha
  exact ⟨p, hp, appOp_eq_some hq⟩

theorem no_merge_remains (c : Col) (ops : List Op) (hin : InBounds c ops) :
    ∀ o ∈ (ops.foldl stepStr (c, [], [])).2.1.reverse ++ (ops.foldl stepStr (c, [], [])).2.2,
      o.typ ≠ opMerge := by
  rw [(rewritten_eq c ops hin).1, (rewritten_eq c ops hin).2]
  exact rewritten_no_merge _

/-! ## T3 — replaying the rewritten section elsewhere (C05 third sentence, C06), guard D12 -/

/-- index form of the guard: whenever op `j` is a resizing merge on `i`, no later op is on `i` -/
theorem guard_iff (i : Nat) (tr : List (Op × Bytes)) :
    NoOpAfterResize i tr ↔
      ∀ (j k : Nat) (hj : j < tr.length) (hk : k < tr.length), j < k →
        tr[j].1.idx = i → resizing tr[j] → tr[k].1.idx ≠ i := by
  unfold NoOpAfterResize
  rw [List.pairwise_iff_getElem]

/-- Replaying the rewritten section followed by the appended puts with `stepStr` on ANY other column
    `c2` (any previous content, any merge function) leaves at offset `i` exactly the slot the
    primary has — provided no op on `i` follows a resizing merge on `i` (D12), and either a
    Put/Merge addresses `i` (it overwrites the raw bytes) or the two columns agreed on `i` before. -/
theorem rewritten_replay_same_partial (c c2 : Col) (ops : List Op) (i : Nat)
    (hin : InBounds c ops) (hin2 : InBounds c2 ops)
    (hg : NoOpAfterResize i (traceStr (c, [], []) ops))
    (hs : (∃ o ∈ ops, o.idx = i ∧ (o.typ = opPut ∨ o.typ = opMerge)) ∨ slot c2 i = slot c i) :
    slot (((ops.foldl stepStr (c, [], [])).2.1.reverse ++ (ops.foldl stepStr (c, [], [])).2.2).foldl
      stepStr (c2, [], [])).1 i = slot (ops.foldl stepStr (c, [], [])).1 i :=
  foldStr_replay c c2 ops i hin hin2 hg hs

/-- With only a Delete on `i` the stale bytes of the (now absent) row are not resynchronised, but a
    reader sees the same: same presence bit, same value when present. -/
theorem rewritten_replay_same_visible (c c2 : Col) (ops : List Op) (i : Nat)
    (hin : InBounds c ops) (hin2 : InBounds c2 ops)
    (hg : NoOpAfterResize i (traceStr (c, [], []) ops))
    (hs : (∃ o ∈ ops, o.idx = i ∧ (o.typ = opPut ∨ o.typ = opMerge ∨ o.typ = opDelete)) ∨
          VisEq (slot c2 i) (slot c i)) :
    VisEq (slot (((ops.foldl stepStr (c, [], [])).2.1.reverse ++ (ops.foldl stepStr (c, [], [])).2.2).foldl
      stepStr (c2, [], [])).1 i) (slot (ops.foldl stepStr (c, [], [])).1 i) := by
  refine foldStr_replay_rel VisEq (fun o => o.typ = opPut ∨ o.typ = opMerge ∨ o.typ = opDelete) c c2
    (fun _ => VisEq.of_eq rfl) ?_ ops i hin hin2 hg hs
  intro t s o hm h
  by_cases h1 : o.typ = opPut
  · rw [slotEffect_put h1, slotEffect_put h1]; exact VisEq.of_eq rfl
  · by_cases h3 : o.typ = opDelete
    · rw [slotEffect_delete h3, slotEffect_delete h3]; exact ⟨rfl, nofun⟩
    · rw [slotEffect_other h1 hm h3, slotEffect_other h1 hm h3]
      rcases h with (hp | hp | hp) | h
      · exact absurd hp h1
      · exact absurd hp hm
      · exact absurd hp h3
      · exact h

theorem applyData_replay_same_slot (hash hash2 : Bytes → Nat) (c c2 : Col) (chunk : Nat) (ops : List Op) (i : Nat)
    (hk : c.kind = .str ∨ c.kind = .record) (hk2 : c2.kind = .str ∨ c2.kind = .record)
    (hc : chunk < c.nchunks) (hc2 : chunk < c2.nchunks)
    (hin : InBounds c ops) (hin2 : InBounds c2 ops)
    (hg : NoOpAfterResize i (traceStr (c, [], []) ops))
    (hs : (∃ o ∈ ops, o.idx = i ∧ (o.typ = opPut ∨ o.typ = opMerge)) ∨ slot c2 i = slot c i) :
    slot (applyData hash2 c2 chunk
        ((applyData hash c chunk ops).ops ++ (applyData hash c chunk ops).appended)).col i =
      slot (applyData hash c chunk ops).col i :=
  applyData_str_replay hash hash2 c c2 chunk ops i hk hk2 hc hc2 hin hin2 hg hs

theorem applyData_replay_same_read (hash hash2 : Bytes → Nat) (c c2 : Col) (chunk : Nat) (ops : List Op) (i : Nat)
    (hk : c.kind = .str ∨ c.kind = .record) (hk2 : c2.kind = .str ∨ c2.kind = .record)
    (hc : chunk < c.nchunks) (hc2 : chunk < c2.nchunks)
    (hi : i / 16384 < c.nchunks) (hi2 : i / 16384 < c2.nchunks)
    (hin : InBounds c ops) (hin2 : InBounds c2 ops)
    (hg : NoOpAfterResize i (traceStr (c, [], []) ops))
    (hs : (∃ o ∈ ops, o.idx = i ∧ (o.typ = opPut ∨ o.typ = opMerge ∨ o.typ = opDelete)) ∨
          VisEq (slot c2 i) (slot c i)) :
    (applyData hash2 c2 chunk
        ((applyData hash c chunk ops).ops ++ (applyData hash c chunk ops).appended)).col.read i =
      (applyData hash c chunk ops).col.read i := by
  rw [applyData_str hash c chunk ops hk hc, applyData_str hash2 c2 chunk _ hk2 hc2]
  simp only
  have h := rewritten_replay_same_visible c c2 ops i hin hin2 hg hs
  have s1 := str_shape ops (c, [], [])
  have s2 := str_shape ((ops.foldl stepStr (c, [], [])).2.1.reverse ++ (ops.foldl stepStr (c, [], [])).2.2)
    (c2, [], [])
  exact h.read_eq (by rw [s1.kind]; exact hk) (by rw [s2.kind]; exact hk2)
    (by rw [s1.nchunks]; exact hi) (by rw [s2.nchunks]; exact hi2)

/-! ### finding D12: an op after a resizing merge on the same offset is replayed in the wrong order -/

/-- a 4-slot string column holding "ab" at offset 0, merge = concatenation -/
def concatCol : Col :=
  { name := "s", kind := .str, merge := fun a d => a ++ d, nchunks := 1,
    bits := #[true, false, false, false], data := #[[97, 98], [], [], []] }

/-- `merge "cd" @0`, then `put "Z" @0` -/
def d12Ops : List Op := [⟨opMerge, 0, .str [99, 100]⟩, ⟨opPut, 0, .str [90]⟩]

/-- The primary ends with "Z"; the section becomes `[skip @0, put "Z" @0]` with `put "abcd" @0`
    appended; a replica fed that buffer (here: one that held the same "ab") ends with "abcd". -/
theorem resize_then_put_counterexample :
    let r := applyData (fun _ => 0) concatCol 0 d12Ops
    r.col.read 0 = some [90] ∧
    r.ops = [⟨opSkip, 0, .str [99, 100]⟩, ⟨opPut, 0, .str [90]⟩] ∧
    r.appended = [⟨opPut, 0, .str [97, 98, 99, 100]⟩] ∧
    (applyData (fun _ => 0) concatCol 0 (r.ops ++ r.appended)).col.read 0 = some [97, 98, 99, 100] := by
  decide +kernel

/-- the guard is what fails here -/
example : ¬ NoOpAfterResize 0 (traceStr (concatCol, [], []) d12Ops) := by decide

/-- Delete-only: the raw bytes of an absent row are not carried by the section (the replica keeps
    its own stale bytes), which is why full slot equality needs a Put/Merge or equal previous slots. -/
theorem delete_only_stale_bytes_differ :
    let c2 : Col := { concatCol with data := #[[120], [], [], []] }
    let ops : List Op := [⟨opDelete, 0, .fixed 0 []⟩]
    let r := applyData (fun _ => 0) concatCol 0 ops
    slot r.col 0 = (false, [97, 98]) ∧
    slot (applyData (fun _ => 0) c2 0 (r.ops ++ r.appended)).col 0 = (false, [120]) := by
  decide

/-! ## T4 — enum columns -/

/-- the interning table files every string under its own hash -/
def InternOK (hash : Bytes → Nat) (m : Std.HashMap Nat Bytes) : Prop :=
  ∀ (h : Nat) (w : Bytes), m[h]? = some w → hash w = h

/-- the strings that occur: already interned, or written by a Put of the section -/
def Occurs (c : Col) (ops : List Op) (x : Bytes) : Prop :=
  (∃ h : Nat, c.intern[h]? = some x) ∨ (∃ o ∈ ops, o.typ = opPut ∧ valRaw o.val = x)

/-- raw slot of every offset of an enum column after the pass: presence bit and the 4-byte hash of
    the last Put (a Merge does nothing to an enum column) -/
theorem enum_slot_fold (hash : Bytes → Nat) (ops : List Op) (acc : ApplyAcc) (i : Nat) (hin : InBounds acc.1 ops) :
    slot (ops.foldl (stepEnum hash) acc).1 i =
      (ops.filter (fun o => o.idx = i)).foldl (enumEffect hash) (slot acc.1 i) :=
  foldEnum_slot hash ops acc i hin

/-- the invariant is kept by the pass (no injectivity needed) -/
theorem enum_intern_ok (hash : Bytes → Nat) (c : Col) (ops : List Op) (hok : InternOK hash c.intern) :
    InternOK hash (ops.foldl (stepEnum hash) (c, [], [])).1.intern := by
  have hinv : InternInv hash (fun _ => True) c.intern := fun h w hw => ⟨hok h w hw, trivial⟩
  have := foldl_invariant (fun a : ApplyAcc => InternInv hash (fun _ => True) a.1.intern) (stepEnum hash) ops (c, [], [])
    hinv (fun a o _ ha => stepEnum_intern_inv hash _ a o ha (fun _ => trivial))
  exact fun h w hw => (this h w hw).1

/-- With `hash` injective on the strings that occur (and below 2^32 for the value in question —
    the column stores 4 bytes), the string a reader gets at offset `i` after the pass is the value
    of the last Put on `i`, when no Delete on `i` follows it. -/
theorem enum_read_last_put (hash : Bytes → Nat) (c : Col) (pre post : List Op) (p : Op) (i : Nat)
    (hk : c.kind = .enum) (hchunk : i / 16384 < c.nchunks)
    (hin : InBounds c (pre ++ p :: post))
    (hok : InternOK hash c.intern)
    (hinj : ∀ a b, Occurs c (pre ++ p :: post) a → Occurs c (pre ++ p :: post) b → hash a = hash b → a = b)
    (h32 : hash (valRaw p.val) < 4294967296)
    (hp : p.typ = opPut) (hpi : p.idx = i)
    (hpost : ∀ o ∈ post, o.idx = i → o.typ ≠ opPut ∧ o.typ ≠ opDelete) :
    ((pre ++ p :: post).foldl (stepEnum hash) (c, [], [])).1.read i = some (valRaw p.val) :=
  foldEnum_read_last_put hash (Occurs c (pre ++ p :: post)) c pre post p i hk hchunk hin
    (fun h w hw => ⟨hok h w hw, Or.inl ⟨h, hw⟩⟩)
    (fun o ho hput => Or.inr ⟨o, ho, hput, rfl⟩) hinj h32 hp hpi hpost

theorem applyData_enum_read_last_put (hash : Bytes → Nat) (c : Col) (chunk : Nat) (pre post : List Op) (p : Op)
    (i : Nat) (hk : c.kind = .enum) (hc : chunk < c.nchunks) (hchunk : i / 16384 < c.nchunks)
    (hin : InBounds c (pre ++ p :: post))
    (hok : InternOK hash c.intern)
    (hinj : ∀ a b, Occurs c (pre ++ p :: post) a → Occurs c (pre ++ p :: post) b → hash a = hash b → a = b)
    (h32 : hash (valRaw p.val) < 4294967296)
    (hp : p.typ = opPut) (hpi : p.idx = i)
    (hpost : ∀ o ∈ post, o.idx = i → o.typ ≠ opPut ∧ o.typ ≠ opDelete) :
    (applyData hash c chunk (pre ++ p :: post)).col.read i = some (valRaw p.val) := by
  rw [applyData_enum hash c chunk _ hk hc]
  exact enum_read_last_put hash c pre post p i hk hchunk hin hok hinj h32 hp hpi hpost

/-- when the last Put/Delete on `i` is a Delete, the reader finds nothing (no hypothesis on `hash`) -/
theorem enum_read_last_delete (hash : Bytes → Nat) (c : Col) (pre post : List Op) (p : Op) (i : Nat)
    (hk : c.kind = .enum) (hchunk : i / 16384 < c.nchunks) (hin : InBounds c (pre ++ p :: post))
    (hp : p.typ = opDelete) (hpi : p.idx = i)
    (hpost : ∀ o ∈ post, o.idx = i → o.typ ≠ opPut ∧ o.typ ≠ opDelete) :
    ((pre ++ p :: post).foldl (stepEnum hash) (c, [], [])).1.read i = none := by
  have hs := foldEnum_shape hash (pre ++ p :: post) (c, [], [])
  rw [read_enum _ i (hs.kind.trans hk) (by rw [hs.nchunks]; exact hchunk), foldEnum_slot_last hash c pre post p i hin hpi hpost]
  unfold enumEffect
  rw [if_neg (delete_ne_put hp), if_pos hp]; rfl

/-- an offset no op addresses reads the same as before, provided its stored hash is interned
    (no hypothesis on `hash`: the first string under a hash is never replaced) -/
theorem enum_read_untouched (hash : Bytes → Nat) (c : Col) (ops : List Op) (i : Nat)
    (hk : c.kind = .enum) (hchunk : i / 16384 < c.nchunks) (hin : InBounds c ops)
    (hno : ∀ o ∈ ops, o.idx ≠ i) (hint : (slot c i).1 = true → (c.intern[beNat (slot c i).2]?).isSome) :
    (ops.foldl (stepEnum hash) (c, [], [])).1.read i = c.read i := by
  have hs := foldEnum_shape hash ops (c, [], [])
  have hslot : slot (ops.foldl (stepEnum hash) (c, [], [])).1 i = slot c i := by
    rw [foldEnum_slot hash ops (c, [], []) i hin, List.filter_eq_nil_iff.2 (fun o ho => by simpa using hno o ho)]; rfl
  rw [read_enum _ i (hs.kind.trans hk) (by rw [hs.nchunks]; exact hchunk), read_enum c i hk hchunk, hslot]
  cases hb : (slot c i).1 with
  | false => rfl
  | true =>
    obtain ⟨w, hw⟩ := Option.isSome_iff_exists.1 (hint hb)
    rw [if_pos rfl, if_pos rfl, foldEnum_intern_mono hash ops (c, [], []) _ w hw, hw]

/-- Finding D20, general form: two strings with the same hash, the first one not interned before:
    the second offset reads back the FIRST string. -/
theorem enum_collision (hash : Bytes → Nat) (c : Col) (a b : Bytes) (i j : Nat)
    (hk : c.kind = .enum) (hj : j / 16384 < c.nchunks)
    (hin : InBounds c [⟨opPut, i, .str a⟩, ⟨opPut, j, .str b⟩])
    (hcol : hash b = hash a) (h32 : hash a < 4294967296) (hfresh : c.intern[hash a]? = none) :
    ([⟨opPut, i, .str a⟩, ⟨opPut, j, .str b⟩].foldl (stepEnum hash) (c, [], [])).1.read j = some a := by
  have hs := foldEnum_shape hash [⟨opPut, i, .str a⟩, ⟨opPut, j, .str b⟩] (c, [], [])
  rw [read_enum _ j (hs.kind.trans hk) (by rw [hs.nchunks]; exact hj)]
  have h2 : (slot ([⟨opPut, i, .str a⟩, ⟨opPut, j, .str b⟩].foldl (stepEnum hash) (c, [], [])).1 j) =
      (true, natToBE 4 (hash a)) := by
    refine (foldEnum_slot_last hash c [⟨opPut, i, .str a⟩] [] ⟨opPut, j, .str b⟩ j hin rfl (fun _ h => by cases h)).trans ?_
    unfold enumEffect
    rw [if_pos rfl]
    show (true, natToBE 4 (hash b)) = _
    rw [hcol]
  have e1 : (stepEnum hash (c, [], []) ⟨opPut, i, .str a⟩).1.intern[hash a]? = some a := by
    rw [stepEnum_intern, if_pos rfl, getElem?_internPut]
    exact if_pos ⟨rfl, hfresh⟩
  rw [h2, if_pos rfl, beNat_natToBE4 _ h32, List.foldl_cons, List.foldl_cons, List.foldl_nil,
    stepEnum_intern_mono hash _ ⟨opPut, j, .str b⟩ _ _ e1]
  rfl

/-- an empty 4-slot enum column -/
def enumCol : Col :=
  { name := "e", kind := .enum, nchunks := 1, bits := #[false, false, false, false], data := #[[], [], [], []] }

/-- Finding D20 on a concrete column: constant hash, `put "a" @0`, `put "b" @1`: offset 1 reads "a". -/
theorem enum_collision_counterexample :
    (applyData (fun _ => 7) enumCol 0 [⟨opPut, 0, .str [97]⟩, ⟨opPut, 1, .str [98]⟩]).col.read 1 = some [97] := by
  rw [applyData_enum _ _ _ _ rfl (by decide)]
  exact enum_collision (fun _ => 7) enumCol [97] [98] 0 1 rfl (by decide) (by decide) rfl (by decide)
    (by simp [enumCol])

/-! ## T5 — non-vacuity: the hypotheses are met by concrete sections on tiny columns -/

/-- a section with a same-length merge, a resizing merge as last op of its offset, a delete, an
    insert marker, offsets out of order -/
def sampleOps : List Op :=
  [⟨opPut, 2, .str [104, 105]⟩, ⟨opMerge, 0, .str [99, 100]⟩, ⟨opDelete, 2, .fixed 0 []⟩,
   ⟨opInsert, 3, .fixed 0 []⟩, ⟨opMerge, 1, .str []⟩, ⟨opPut, 3, .str [33]⟩]

/-- "last wins" merge: same-length results are swapped in place -/
def lastCol : Col := { concatCol with merge := fun _ d => d }

/-- a replica with other content and another merge function -/
def otherCol : Col :=
  { name := "s", kind := .str, merge := fun a _ => a, nchunks := 1,
    bits := #[false, true, true, false], data := #[[1], [2], [3], [4]] }

example : InBounds concatCol sampleOps := by decide
example : InBounds otherCol sampleOps := by decide
example : ∀ i < 4, NoOpAfterResize i (traceStr (concatCol, [], []) sampleOps) := by decide +kernel
example : ∃ o ∈ sampleOps, o.idx = 0 ∧ (o.typ = opPut ∨ o.typ = opMerge) := by decide
example : (concatCol.kind = .str ∨ concatCol.kind = .record) ∧ 0 < concatCol.nchunks := ⟨Or.inl rfl, by decide⟩

example :
    let r := applyData (fun _ => 0) concatCol 0 sampleOps
    r.ops = [⟨opPut, 2, .str [104, 105]⟩, ⟨opSkip, 0, .str [99, 100]⟩, ⟨opDelete, 2, .fixed 0 []⟩,
             ⟨opInsert, 3, .fixed 0 []⟩, ⟨opPut, 1, .str []⟩, ⟨opPut, 3, .str [33]⟩] ∧
    r.appended = [⟨opPut, 0, .str [97, 98, 99, 100]⟩] ∧
    (List.range 4).map (slot r.col) =
      [(true, [97, 98, 99, 100]), (true, []), (false, [104, 105]), (true, [33])] := by decide +kernel

example :
    let r := applyData (fun _ => 0) concatCol 0 sampleOps
    (List.range 4).map (slot (applyData (fun _ => 0) otherCol 0 (r.ops ++ r.appended)).col) =
      (List.range 4).map (slot r.col) := by decide +kernel

example :
    (applyData (fun _ => 0) lastCol 0 [⟨opMerge, 0, .str [99, 100]⟩]).ops = [⟨opPut, 0, .str [99, 100]⟩] ∧
    (applyData (fun _ => 0) lastCol 0 [⟨opMerge, 0, .str [99, 100]⟩]).appended = [] := by decide

/-- enum hypotheses: an injective, 32-bit hash on the strings of a section -/
def sampleHash (bs : Bytes) : Nat := beNat bs % 4294967296

def enumOps : List Op := [⟨opPut, 0, .str [97]⟩, ⟨opPut, 1, .str [98]⟩, ⟨opDelete, 0, .fixed 0 []⟩, ⟨opPut, 0, .str [98]⟩]

example : InBounds enumCol enumOps := by decide
example : InternOK sampleHash enumCol.intern := by intro h w hw; simp [enumCol] at hw
theorem enumOps_occurs (a : Bytes) (ha : Occurs enumCol enumOps a) : a = [97] ∨ a = [98] := by
  rcases ha with ⟨h, hh⟩ | ⟨o, ho, hput, rfl⟩
  · simp [enumCol] at hh
  · simp only [enumOps, List.mem_cons, List.not_mem_nil, or_false] at ho
    rcases ho with rfl | rfl | rfl | rfl
    · simp [valRaw]
    · simp [valRaw]
    · exact absurd hput (by decide)
    · simp [valRaw]

theorem sampleHash_inj : ∀ a b, Occurs enumCol enumOps a → Occurs enumCol enumOps b →
    sampleHash a = sampleHash b → a = b := by
  intro a b ha hb
  rcases enumOps_occurs a ha with rfl | rfl <;> rcases enumOps_occurs b hb with rfl | rfl <;> decide

example : (applyData sampleHash enumCol 0 enumOps).col.read 0 = some [98] :=
  applyData_enum_read_last_put sampleHash enumCol 0
    [⟨opPut, 0, .str [97]⟩, ⟨opPut, 1, .str [98]⟩, ⟨opDelete, 0, .fixed 0 []⟩] [] ⟨opPut, 0, .str [98]⟩ 0
    rfl (by decide) (by decide) (by decide) (by intro h w hw; simp [enumCol] at hw) sampleHash_inj
    (by decide) rfl rfl (by intro o ho; cases ho)

end ColumnVerif.Props.C01str
