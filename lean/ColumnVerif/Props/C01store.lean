import ColumnVerif.Lemmas.StoreRead
/-!
# C01 at store level — what `Store.commit` leaves in a numeric column, for whole transactions

`Props/C01.lean` says what one `applyData` pass does to one column. Here the same statement is carried through the
plumbing of `Model/Txn`: the registry (`findCol` / `setCol`), `mainPass` over the sections of a buffer, `commitUpdates`
over all buffers of a transaction (main pass, then the computed pass), `commitMarkers`, `commitChunk`, the chunk loop of
`commit` with `commitCapacity` in front. The result (`commit_readback`):

  after `s.commit t`, every slot (presence bit + raw value) of a numeric column `x` is the fold — over what the slot held
  before — of the markers of the transaction addressed to that offset (`Delete` clears the presence bit, `Insert` leaves
  the slot alone) followed by the operations issued for `x` at that offset, **in issue order**

for any number of buffers, any number of dirty chunks, any offsets in any order, any merge function, whatever other
columns (of any kind, with any computed columns) the transaction touches. `commit_no_panic` adds that the sticky panic
flag is not raised, `commit_fill` what the fill list holds, and `commit_coveredAll` / `commit_computedKinds` /
`commit_cov` that the hypotheses hold again afterwards — so the statements chain over any sequence of commits.

Hypotheses used (all listed with the theorems; examples at the end show they are satisfiable):
* `ColWF col` — the arrays of the column have `16384 * nchunks` slots (what `Col.grow` produces);
* `s.commits.size ≤ col.nchunks` — the column covers every committed chunk (`commitCapacity` + the `CreateColumn` repair);
* `x ≠ "row"`, and `x` is not a computed column attached to an updated column;
* `ChunkOK b` for the buffers of `x` and the marker buffer — every op sits in a section of its own chunk
  (the `chunk_ok` field of `Buf.Inv`, kept by `Buf.put`);
* for the panic flag: `CoveredAll s`, `ComputedKinds s` (computed columns are indexes / triggers / sorted indexes).
-/
namespace ColumnVerif.Props.C01store
open ColumnVerif.Codec ColumnVerif.Store ColumnVerif.Bits

/-! ## R1 — the registry -/

/-- `setCol c` makes the registry resolve `c.name` to `c` (when the name is registered; first-match semantics) -/
theorem findCol_setCol_same (s : Store) (c : Col) (h : (s.findCol c.name).isSome) :
    (s.setCol c).findCol c.name = some c := Store.findCol_setCol_same s c h

theorem findCol_setCol_other (s : Store) (c : Col) (n : String) (hn : n ≠ c.name) :
    (s.setCol c).findCol n = s.findCol n := Store.findCol_setCol_other s c n hn

theorem setCol_keeps_names (s : Store) (c : Col) :
    (s.setCol c).cols.toList.map (·.name) = s.cols.toList.map (·.name) ∧ (NamesDistinct s → NamesDistinct (s.setCol c)) :=
  ⟨setCol_names s c, setCol_namesDistinct s c⟩

theorem findCol_sound (s : Store) (n : String) (c : Col) (h : s.findCol n = some c) : c.name = n ∧ c ∈ s.cols :=
  ⟨findCol_name h, findCol_mem h⟩

theorem findCol_complete (s : Store) (hn : NamesDistinct s) (c : Col) (hc : c ∈ s.cols) : s.findCol c.name = some c :=
  findCol_of_distinct hn hc

/-! ## R2 — the main pass of a numeric column over a buffer -/

theorem mainPass_slot (hash : Bytes → Nat) (col : Col) (k : NumKind) (hk : col.kind = .num k) (chunk : Nat)
    (hch : chunk < col.nchunks) (u : Buf) (hin : InBounds col (u.rangeOps chunk)) (i : Nat) :
    slot (mainPass hash col chunk u).1 i =
      ((u.rangeOps chunk).filter (fun o => o.idx = i)).foldl (slotEffect col.merge k.width) (slot col i) ∧
    (mainPass hash col chunk u).2.2 = false ∧ SameShape col (mainPass hash col chunk u).1 :=
  ⟨by rw [(mainPassG hash col chunk u (applyData_appended_nil_of_kind hash col chunk _ (numKind_appends_nothing hk))).1]
      exact slotLaw_num hash k col.merge col chunk _ i hk rfl hch hin,
   (StorePlumb.mainPass_inv hash col chunk u).2.2.2 hch, (mainPass_general hash col chunk u).1⟩

/-- with the buffer invariant: these are the ops the transaction issued for that chunk and offset, in issue order;
    the in-bounds hypothesis follows from the shape of the column -/
theorem mainPass_slot_issued (hash : Bytes → Nat) (col : Col) (k : NumKind) (hk : col.kind = .num k) (chunk : Nat)
    (hch : chunk < col.nchunks) (hw : ColWF col) (u : Buf) (hu : u.Inv) (i : Nat) :
    slot (mainPass hash col chunk u).1 i =
      ((u.allOps.filter (fun o => chunkOf o.idx = chunk)).filter (fun o => o.idx = i)).foldl
        (slotEffect col.merge k.width) (slot col i) := by
  rw [(mainPass_slot hash col k hk chunk hch u (inBounds_of_chunk col chunk _ hw hch (rangeOps_chunk u hu.chunkOK chunk)) i).1,
    rangeOps_eq_filter_ok u chunk hu.chunkOK]

/-- the sections of the other chunks are not touched by the pass (they are still there for their own pass) -/
theorem mainPass_other_chunks (hash : Bytes → Nat) (col : Col) (k : NumKind) (hk : col.kind = .num k) (chunk : Nat)
    (hch : chunk < col.nchunks) (u : Buf) (c2 : Nat) (h : c2 ≠ chunk) :
    (mainPass hash col chunk u).2.1.range c2 = u.range c2 ∧ (mainPass hash col chunk u).2.1.column = u.column :=
  ⟨mainPassG_range_other hash col chunk u (applyData_appended_nil_of_kind hash col chunk _ (numKind_appends_nothing hk)) c2 h,
   (mainPass_general hash col chunk u).2⟩

/-! ## R3 — `commitUpdates` -/

theorem buffers_distinct (t : Txn) (name : String) (o : Op) (h : BufsDistinct t.updates) :
    BufsDistinct (t.bufferFor name).updates ∧ BufsDistinct (t.putOp name o).updates :=
  ⟨bufferFor_distinct t name h, putOp_distinct t name o h⟩

example : BufsDistinct ({} : Txn).updates := by decide

/-- after `commitUpdates chunk ups`: the numeric column `x` resolves to a column of the same shape whose every slot is the
    fold of the ops its buffer(s) hold for the chunk (`opsFor`: in buffer order, each buffer's sections in order).
    Nothing is assumed about the other buffers but that `x` is not one of their computed columns. -/
theorem commitUpdates_read (s : Store) (chunk : Nat) (ups : List Buf) (x : String) (k : NumKind) (col : Col)
    (hxr : x ≠ rowColumn) (hf : s.findCol x = some col) (hk : col.kind = .num k) (hch : chunk < col.nchunks)
    (hcomp : ∀ v ∈ ups, ∀ c, s.findCol v.column = some c → x ∉ c.computed)
    (hin : ∀ v ∈ ups, v.column = x → InBounds col (v.rangeOps chunk)) :
    ∃ col', (s.commitUpdates chunk ups).1.findCol x = some col' ∧ SameShape col col' ∧
      ∀ i, slot col' i =
        ((opsFor ups x chunk).filter (fun o => o.idx = i)).foldl (slotEffect col.merge k.width) (slot col i) := by
  rw [commitUpdates_eq]
  exact ⟨_, (cuFold_ok x chunk hxr ups (s, [], false) col hf (by rw [hk]; rfl) hcomp
      (BufsOK_of_noAppend s.hash x chunk ups col
        (applyData_appended_nil_of_kind _ _ _ _ (numKind_appends_nothing hk)))).1,
    applyData_sameShape _ _ _ _,
    fun i => slotLaw_num s.hash k col.merge col chunk _ i hk rfl hch (opsFor_forall ups x chunk (fun o => o.idx < col.bits.size ∧ o.idx < col.data.size) hin)⟩

theorem opsFor_single (ups : List Buf) (h : BufsDistinct ups) (u : Buf) (hu : u ∈ ups) (chunk : Nat) :
    opsFor ups u.column chunk = u.rangeOps chunk := by
  induction ups with
  | nil => cases hu
  | cons v vs ih =>
    unfold BufsDistinct at h
    simp only [List.map_cons, List.nodup_cons] at h
    rcases List.mem_cons.1 hu with rfl | hu
    · rw [opsFor_cons_self u vs u.column chunk rfl]
      have : opsFor vs u.column chunk = [] := by
        unfold opsFor
        have : vs.filter (fun b => b.column == u.column) = [] := by
          rw [List.filter_eq_nil_iff]
          intro w hw e
          exact h.1 (List.mem_map.2 ⟨w, hw, by simpa using e⟩)
        rw [this]; rfl
      rw [this, List.append_nil]
    · have hne : v.column ≠ u.column := fun e => h.1 (List.mem_map.2 ⟨u, hu, e.symm⟩)
      rw [opsFor_cons_other v vs u.column chunk hne]
      exact ih h.2 hu

theorem commitUpdates_unchanged (s : Store) (chunk : Nat) (ups : List Buf) (x : String)
    (hne : ∀ v ∈ ups, v.column ≠ x) (hcomp : ∀ v ∈ ups, ∀ c, s.findCol v.column = some c → x ∉ c.computed) :
    (s.commitUpdates chunk ups).1.findCol x = s.findCol x := by
  rw [commitUpdates_eq]
  generalize ([] : List Buf) = done
  generalize false = b
  induction ups generalizing s done b with
  | nil => rfl
  | cons u us ih =>
    rw [List.foldl_cons, ← cuStep_frame chunk s done b u x (hne u (by simp)) (hcomp u (by simp))]
    exact ih _ (fun v hv => hne v (by simp [hv]))
      (fun v hv => (cuStep_sim chunk s done b u).reg.notComputed (hcomp v (by simp [hv]))) _ _

theorem commitUpdates_sim (s : Store) (chunk : Nat) (ups : List Buf) : Sim s (s.commitUpdates chunk ups).1 := by
  rw [commitUpdates_eq]; exact cuFold_sim chunk ups s [] false

/-! ## R4 — `commitMarkers` -/

theorem commitMarkers_read (s : Store) (chunk : Nat) (m : Buf) (x : String) (k : NumKind) (col : Col)
    (hf : s.findCol x = some col) (hk : col.kind = .num k) (hch : chunk < col.nchunks)
    (hin : InBounds col (m.rangeOps chunk)) :
    ∃ col', (s.commitMarkers chunk m).findCol x = some col' ∧ SameShape col col' ∧
      ∀ i, slot col' i =
        ((m.rangeOps chunk).filter (fun o => o.idx = i)).foldl (slotEffect col.merge k.width) (slot col i) := by
  refine ⟨markCol s.hash chunk (m.range chunk) col, by rw [commitMarkers_findCol, hf]; rfl, ?_, fun i => ?_⟩ <;>
    rw [markCol_data s.hash chunk _ col (by rw [hk]; rfl)]
  · exact applyData_sameShape _ _ _ _
  · exact slotLaw_num s.hash k col.merge col chunk _ i hk rfl hch hin

theorem colOf_marker_slot (hash : Bytes → Nat) (k : Kind) (hd : k.isData = true) (c : Col) (o : Op) (h : isMarkerOp o)
    (hb : o.idx < c.bits.size) (i : Nat) :
    slot (colOf hash k c o) i =
      if i = o.idx then (if o.typ = opDelete then false else (slot c i).1, (slot c i).2) else slot c i := by
  rcases h with h | h
  · have hnd : ¬ o.typ = opDelete := by rw [h]; decide
    rw [colOf_other (by rw [h]; decide) (by rw [h]; decide) hnd]
    simp only [if_neg hnd]
    exact (ite_self _).symm
  · rw [colOf_delete h, if_pos h]
    cases k
    case num | str | record | enum | key => exact slot_setBit i rfl rfl hb
    all_goals cases hd

/-- every data column (numeric, string, enum, key, record): with a marker buffer holding `Insert` / `Delete` ops, slot `i`
    keeps its raw data and its presence bit is cleared iff the last marker addressed to `i` is a `Delete`
    (an `Insert` leaves the slot untouched) -/
theorem commitMarkers_read_data (s : Store) (chunk : Nat) (m : Buf) (x : String) (col : Col)
    (hf : s.findCol x = some col) (hd : col.kind.isData = true) (hch : chunk < col.nchunks)
    (hm : ∀ o ∈ m.rangeOps chunk, isMarkerOp o) (hin : ∀ o ∈ m.rangeOps chunk, o.idx < col.bits.size) :
    ∃ col', (s.commitMarkers chunk m).findCol x = some col' ∧ SameSig col col' ∧
      ∀ i, slot col' i =
        ((m.rangeOps chunk).filter (fun o => o.idx = i)).foldl
          (fun st o => (if o.typ = opDelete then false else st.1, st.2)) (slot col i) := by
  refine ⟨markCol s.hash chunk (m.range chunk) col, by rw [commitMarkers_findCol, hf]; rfl, markCol_sig _ _ _ col,
    fun i => ?_⟩
  rw [markCol_data s.hash chunk _ col hd, applyData_eq _ _ _ _ hch]
  -- the data array is never indexed, so the markers need only lie inside the bitmap
  exact foldl_pointwise (colOf s.hash col.kind) slot (fun st o => (if o.typ = opDelete then false else st.1, st.2))
    (fun c o => isMarkerOp o ∧ o.idx < c.bits.size)
    (fun c o o' _ h' => by rw [(colOf_shape s.hash col.kind c o).bsize]; exact h')
    (fun c o i h => colOf_marker_slot s.hash col.kind hd c o h.1 h.2 i) _ col i (fun o ho => ⟨hm o ho, hin o ho⟩)

/-- the fill list: bit `j` is the fold of the markers addressed to `j` (`Insert` sets, `Delete` clears) -/
theorem commitMarkers_fill (s : Store) (chunk : Nat) (m : Buf) (j : Nat) :
    Bits.get (s.commitMarkers chunk m).fill j =
      ((m.rangeOps chunk).filter (fun o => o.idx = j)).foldl (flagEffect opInsert) (Bits.get s.fill j) := by
  rw [Store.commitMarkers_fill, foldFill_get]

/-- under `Covered s chunk` the markers raise no panic; without it they do (a data column without the chunk) -/
theorem commitMarkers_no_panic (s : Store) (chunk : Nat) (m : Buf) (hcov : Covered s chunk)
    (hm : ∀ o ∈ m.rangeOps chunk, chunkOf o.idx = chunk) : (s.commitMarkers chunk m).panicked = s.panicked :=
  Store.commitMarkers_no_panic s chunk m hcov hm

/-! ## R5 — `commitChunk`, `commit` -/

/-- one dirty chunk (`commitChunk`): markers first, then the column buffers -/
theorem commitChunk_read (s : Store) (chunk : Nat) (ups : List Buf) (x : String) (k : NumKind) (col : Col)
    (hxr : x ≠ rowColumn) (hf : s.findCol x = some col) (hk : col.kind = .num k) (hch : chunk < col.nchunks)
    (hcomp : ∀ v ∈ ups, ∀ c, s.findCol v.column = some c → x ∉ c.computed)
    (hinm : InBounds col (markerOps ups chunk))
    (hin : ∀ v ∈ ups, v.column = x → InBounds col (v.rangeOps chunk)) :
    ∃ col', (s.commitChunk chunk (ups.find? isMarkerBuf).isSome ups).1.findCol x = some col' ∧ SameShape col col' ∧
      ∀ i, slot col' i =
        ((markerOps ups chunk ++ opsFor ups x chunk).filter (fun o => o.idx = i)).foldl
          (slotEffect col.merge k.width) (slot col i) :=
  (Store.commitChunk_read s chunk ups x k col hxr hf hk hch hcomp hinm hin).2.1

theorem commitChunk_frame (s : Store) (chunk : Nat) (ups : List Buf) (x : String) (k : NumKind) (col : Col)
    (hxr : x ≠ rowColumn) (hf : s.findCol x = some col) (hk : col.kind = .num k) (hch : chunk < col.nchunks)
    (hw : ColWF col) (hcomp : ∀ v ∈ ups, ∀ c, s.findCol v.column = some c → x ∉ c.computed)
    (hco : ChunkOps x ups [chunk]) (i : Nat) (hi : chunkOf i ≠ chunk) :
    ∃ col', (s.commitChunk chunk (ups.find? isMarkerBuf).isSome ups).1.findCol x = some col' ∧ slot col' i = slot col i := by
  have hinm : InBounds col (markerOps ups chunk) :=
    inBounds_of_chunk col chunk _ hw hch (markerOps_chunk x ups [chunk] hco chunk (by simp))
  have hin : ∀ v ∈ ups, v.column = x → InBounds col (v.rangeOps chunk) := fun v hv hvx =>
    inBounds_of_chunk col chunk _ hw hch (hco v hv (Or.inl hvx) chunk (by simp))
  obtain ⟨col', f, _, sl⟩ := commitChunk_read s chunk ups x k col hxr hf hk hch hcomp hinm hin
  refine ⟨col', f, ?_⟩
  rw [sl i]
  apply foldl_filter_none
  intro o ho e
  apply hi
  rw [← e]
  rcases List.mem_append.1 ho with ho | ho
  · exact markerOps_chunk x ups [chunk] hco chunk (by simp) o ho
  · exact opsFor_chunk x ups [chunk] hco chunk (by simp) o ho

/-- **`commit_readback`** (any number of dirty chunks): see the header. `markerAll` = all ops of the marker buffer
    `findMarkers` finds, `allFor x` = all ops of the buffer(s) named `x`, both in issue order. -/
theorem commit_readback (s : Store) (t : Txn) (x : String) (k : NumKind) (col : Col)
    (hxr : x ≠ rowColumn) (hf : s.findCol x = some col) (hk : col.kind = .num k) (hw : ColWF col)
    (hcov : s.commits.size ≤ col.nchunks)
    (hcomp : ∀ v ∈ t.updates, ∀ c, s.findCol v.column = some c → x ∉ c.computed)
    (hinv : ∀ v ∈ t.updates, (v.column = x ∨ isMarkerBuf v = true) → ChunkOK v) :
    ∃ col', (s.commit t).findCol x = some col' ∧ col'.kind = .num k ∧ col'.merge = col.merge ∧ ColWF col' ∧
      col.nchunks ≤ col'.nchunks ∧ (∀ c ∈ t.dirtyChunks, c < col'.nchunks) ∧
      ∀ i, slot col' i =
        ((markerAll t.updates ++ allFor t.updates x).filter (fun o => o.idx = i)).foldl
          (slotEffect col.merge k.width) (slot col i) :=
  Store.commit_readback s t x k col hxr hf hk hw hcov hcomp hinv

/-- the same for buffers built through the writer API (`Buf.Inv`) with distinct names (`bufferFor`): the markers are the
    ops of the `row` buffer, the ops of `x` those of its one buffer `u` -/
theorem commit_readback_distinct (s : Store) (t : Txn) (u : Buf) (k : NumKind) (col : Col)
    (hu : u ∈ t.updates) (hd : BufsDistinct t.updates)
    (hxr : u.column ≠ rowColumn) (hf : s.findCol u.column = some col) (hk : col.kind = .num k) (hw : ColWF col)
    (hcov : s.commits.size ≤ col.nchunks)
    (hcomp : ∀ v ∈ t.updates, ∀ c, s.findCol v.column = some c → u.column ∉ c.computed)
    (hinv : ∀ v ∈ t.updates, v.Inv) :
    ∃ col', (s.commit t).findCol u.column = some col' ∧ col'.kind = .num k ∧ ColWF col' ∧
      ∀ i, slot col' i =
        ((allFor t.updates rowColumn ++ u.allOps).filter (fun o => o.idx = i)).foldl
          (slotEffect col.merge k.width) (slot col i) := by
  obtain ⟨col', f, k', _, w', _, _, sl⟩ := commit_readback s t u.column k col hxr hf hk hw hcov hcomp
    (fun v hv _ => (hinv v hv).chunkOK)
  refine ⟨col', f, k', w', ?_⟩
  intro i
  rw [sl i, markerAll_of_distinct _ hd, allFor_of_distinct _ hd u hu]

/-- single dirty chunk `c`, phrased with what the reader of chunk `c` yields (`Buf.rangeOps c`): markers' effect first,
    then the ops issued for `x`, in issue order -/
theorem commit_readback_single_chunk (s : Store) (t : Txn) (c : Nat) (x : String) (k : NumKind) (col : Col)
    (hdirty : t.dirtyChunks = [c])
    (hxr : x ≠ rowColumn) (hf : s.findCol x = some col) (hk : col.kind = .num k) (hw : ColWF col)
    (hcov : s.commits.size ≤ col.nchunks)
    (hcomp : ∀ v ∈ t.updates, ∀ c, s.findCol v.column = some c → x ∉ c.computed)
    (hinv : ∀ v ∈ t.updates, (v.column = x ∨ isMarkerBuf v = true) → ChunkOK v) :
    ∃ col', (s.commit t).findCol x = some col' ∧ col'.kind = .num k ∧ ColWF col' ∧ c < col'.nchunks ∧
      ∀ i, slot col' i =
        ((markerOps t.updates c ++ opsFor t.updates x c).filter (fun o => o.idx = i)).foldl
          (slotEffect col.merge k.width) (slot col i) := by
  obtain ⟨col', f, k', _, w', _, d', sl⟩ := commit_readback s t x k col hxr hf hk hw hcov hcomp hinv
  refine ⟨col', f, k', w', d' c (by rw [hdirty]; simp), ?_⟩
  intro i
  rw [sl i]
  by_cases hi : chunkOf i = c
  · rw [List.filter_append, List.filter_append, ← hi,
      markerOps_filter_idx t.updates i (fun v hv hm => hinv v hv (Or.inr hm)),
      opsFor_filter_idx t.updates x i (fun v hv hx => hinv v hv (Or.inl hx))]
  · -- no op of the transaction addresses `i`: both folds are over nothing
    have hco : ChunkOps x t.updates [c] := fun v hv hor c' _ o ho => rangeOps_chunk v (hinv v hv hor) c' o ho
    rw [foldl_filter_none _ _ _ _ (fun o ho e => hi (by
        have := issued_chunk_dirty t x hinv o ho
        rw [hdirty, List.mem_singleton] at this
        rw [← e]; exact this)),
      foldl_filter_none _ _ _ _ (fun o ho e => hi (by
        rw [← e]
        exact (List.mem_append.1 ho).elim (markerOps_chunk x t.updates [c] hco c (by simp) o)
          (opsFor_chunk x t.updates [c] hco c (by simp) o)))]

theorem commit_read (s : Store) (t : Txn) (x : String) (k : NumKind) (col : Col)
    (hxr : x ≠ rowColumn) (hf : s.findCol x = some col) (hk : col.kind = .num k) (hw : ColWF col)
    (hcov : s.commits.size ≤ col.nchunks)
    (hcomp : ∀ v ∈ t.updates, ∀ c, s.findCol v.column = some c → x ∉ c.computed)
    (hinv : ∀ v ∈ t.updates, (v.column = x ∨ isMarkerBuf v = true) → ChunkOK v) :
    ∃ col', (s.commit t).findCol x = some col' ∧
      ∀ i, col'.read i =
        if i / 16384 < col'.nchunks ∧
            (((markerAll t.updates ++ allFor t.updates x).filter (fun o => o.idx = i)).foldl
              (slotEffect col.merge k.width) (slot col i)).1 = true then
          some (((markerAll t.updates ++ allFor t.updates x).filter (fun o => o.idx = i)).foldl
              (slotEffect col.merge k.width) (slot col i)).2
        else none := by
  obtain ⟨col', f, k', _, _, _, _, sl⟩ := commit_readback s t x k col hxr hf hk hw hcov hcomp hinv
  refine ⟨col', f, fun i => ?_⟩
  rw [read_raw col' (by rw [k']; rfl) i, sl i]

/-- the last store decides: when the last op (marker or column op) of the transaction addressed to `i` is a `Put`, a reader
    of `x` at `i` gets exactly its value — whatever the slot held before, whatever else the transaction did -/
theorem commit_read_last_put (s : Store) (t : Txn) (x : String) (k : NumKind) (col : Col)
    (hxr : x ≠ rowColumn) (hf : s.findCol x = some col) (hk : col.kind = .num k) (hw : ColWF col)
    (hcov : s.commits.size ≤ col.nchunks)
    (hcomp : ∀ v ∈ t.updates, ∀ c, s.findCol v.column = some c → x ∉ c.computed)
    (hinv : ∀ v ∈ t.updates, (v.column = x ∨ isMarkerBuf v = true) → ChunkOK v)
    (i : Nat) (pre : List Op) (p : Op) (hp : p.typ = opPut)
    (hlast : (markerAll t.updates ++ allFor t.updates x).filter (fun o => o.idx = i) = pre ++ [p]) :
    ∃ col', (s.commit t).findCol x = some col' ∧ col'.read i = some (valRaw p.val) := by
  obtain ⟨col', f, k', _, _, _, d', sl⟩ := commit_readback s t x k col hxr hf hk hw hcov hcomp hinv
  refine ⟨col', f, ?_⟩
  have hmem : p ∈ (markerAll t.updates ++ allFor t.updates x).filter (fun o => o.idx = i) := by rw [hlast]; simp
  have hpi : p.idx = i := by simpa using (List.mem_filter.1 hmem).2
  have hdirty := issued_chunk_dirty t x hinv p (List.mem_filter.1 hmem).1
  have hlt := d' _ hdirty
  rw [hpi] at hlt
  unfold chunkOf chunkSize at hlt
  have he : ∀ st, slotEffect col.merge k.width st p = (true, valRaw p.val) := by
    intro st; unfold slotEffect; rw [if_pos hp]
  have hslot : slot col' i = (true, valRaw p.val) := by
    rw [sl i, hlast, List.foldl_append]
    exact he _
  rw [read_raw col' (by rw [k']; rfl) i, hslot, if_pos ⟨hlt, rfl⟩]

/-- … and when it is a `Delete` (row deleted through the marker, or a column delete) the reader finds nothing -/
theorem commit_read_last_delete (s : Store) (t : Txn) (x : String) (k : NumKind) (col : Col)
    (hxr : x ≠ rowColumn) (hf : s.findCol x = some col) (hk : col.kind = .num k) (hw : ColWF col)
    (hcov : s.commits.size ≤ col.nchunks)
    (hcomp : ∀ v ∈ t.updates, ∀ c, s.findCol v.column = some c → x ∉ c.computed)
    (hinv : ∀ v ∈ t.updates, (v.column = x ∨ isMarkerBuf v = true) → ChunkOK v)
    (i : Nat) (pre : List Op) (p : Op) (hp : p.typ = opDelete)
    (hlast : (markerAll t.updates ++ allFor t.updates x).filter (fun o => o.idx = i) = pre ++ [p]) :
    ∃ col', (s.commit t).findCol x = some col' ∧ col'.read i = none := by
  obtain ⟨col', f, k', _, _, _, _, sl⟩ := commit_readback s t x k col hxr hf hk hw hcov hcomp hinv
  refine ⟨col', f, ?_⟩
  have he : ∀ st, (slotEffect col.merge k.width st p).1 = false := by
    intro st; unfold slotEffect
    rw [if_neg (by rw [hp]; decide), if_neg (by rw [hp]; decide), if_pos hp]
  have hslot : (slot col' i).1 = false := by
    rw [sl i, hlast, List.foldl_append]
    exact he _
  rw [read_raw col' (by rw [k']; rfl) i, if_neg]
  intro h
  rw [hslot] at h
  exact absurd h.2 (by decide)

/-- rows the transaction does not address read exactly as before -/
theorem commit_read_untouched (s : Store) (t : Txn) (x : String) (k : NumKind) (col : Col)
    (hxr : x ≠ rowColumn) (hf : s.findCol x = some col) (hk : col.kind = .num k) (hw : ColWF col)
    (hcov : s.commits.size ≤ col.nchunks)
    (hcomp : ∀ v ∈ t.updates, ∀ c, s.findCol v.column = some c → x ∉ c.computed)
    (hinv : ∀ v ∈ t.updates, (v.column = x ∨ isMarkerBuf v = true) → ChunkOK v)
    (i : Nat) (hnone : ∀ o ∈ markerAll t.updates ++ allFor t.updates x, o.idx ≠ i) :
    ∃ col', (s.commit t).findCol x = some col' ∧ slot col' i = slot col i ∧ col'.read i = col.read i := by
  obtain ⟨col', f, k', _, w', n', _, sl⟩ := commit_readback s t x k col hxr hf hk hw hcov hcomp hinv
  have hs : slot col' i = slot col i := by
    rw [sl i]; exact foldl_filter_none _ _ i _ hnone
  refine ⟨col', f, hs, ?_⟩
  rw [read_raw col' (by rw [k']; rfl) i, read_raw col (by rw [hk]; rfl) i, hs]
  by_cases h1 : i / 16384 < col.nchunks
  · have h2 : i / 16384 < col'.nchunks := by omega
    simp only [h1, h2, true_and]
  · have hb : (slot col i).1 = false := by
      unfold slot
      simp only
      apply get_of_ge
      rw [hw.bsize]
      have : 16384 * col.nchunks ≤ 16384 * (i / 16384) := Nat.mul_le_mul_left _ (by omega)
      omega
    have hA : ¬ (i / 16384 < col'.nchunks ∧ (slot col i).1 = true) := by
      intro h; rw [hb] at h; exact absurd h.2 (by decide)
    have hB : ¬ (i / 16384 < col.nchunks ∧ (slot col i).1 = true) := fun h => h1 h.1
    rw [if_neg hA, if_neg hB]

/-- the fill list after the commit: `Insert` sets, `Delete` clears, last marker wins -/
theorem commit_fill (s : Store) (t : Txn) (hinv : ∀ m ∈ t.updates, isMarkerBuf m = true → ChunkOK m) (j : Nat) :
    Bits.get (s.commit t).fill j =
      ((markerAll t.updates).filter (fun o => o.idx = j)).foldl (flagEffect opInsert) (Bits.get s.fill j) :=
  Store.commit_fill s t hinv j

/-- the sticky panic flag is not raised (no Go panic), for transactions over columns of every kind -/
theorem commit_no_panic (s : Store) (t : Txn) (hcov : CoveredAll s) (hck : ComputedKinds s)
    (hinv : ∀ v ∈ t.updates, ChunkOK v) : (s.commit t).panicked = s.panicked :=
  Store.commit_no_panic s t hcov hck hinv

/-- the hypotheses on the store hold again after the commit: the statements chain over any sequence of commits -/
theorem commit_keeps_invariants (s : Store) (t : Txn) :
    (CoveredAll s → CoveredAll (s.commit t)) ∧ (ComputedKinds s → ComputedKinds (s.commit t)) ∧
    (∀ n c', (s.commit t).findCol n = some c' → ∃ c0, s.findCol n = some c0 ∧ c'.computed = c0.computed ∧ c'.kind = c0.kind) :=
  ⟨commit_coveredAll s t, commit_computedKinds s t, commit_back s t⟩

/-- … and so does "the column covers every committed chunk" for the column of `commit_readback` -/
theorem commit_keeps_cover (s : Store) (t : Txn) (col col' : Col) (hcov : s.commits.size ≤ col.nchunks)
    (h1 : col.nchunks ≤ col'.nchunks) (h2 : ∀ c ∈ t.dirtyChunks, c < col'.nchunks) :
    (s.commit t).commits.size ≤ col'.nchunks := commit_cov s t col col' hcov h1 h2

/-- **any sequence of committed transactions** (fixed schema): every slot of `x` is the fold of everything the transactions
    issued for that offset, transaction after transaction, each in issue order — so a reader gets "the value most recently
    committed for that row and column" -/
theorem commits_readback (x : String) (k : NumKind) (hxr : x ≠ rowColumn) (ts : List Txn) (s : Store) (col : Col)
    (hf : s.findCol x = some col) (hk : col.kind = .num k) (hw : ColWF col) (hcov : s.commits.size ≤ col.nchunks)
    (hcomp : ∀ t ∈ ts, ∀ v ∈ t.updates, ∀ c, s.findCol v.column = some c → x ∉ c.computed)
    (hinv : ∀ t ∈ ts, ∀ v ∈ t.updates, (v.column = x ∨ isMarkerBuf v = true) → ChunkOK v) :
    ∃ col', (ts.foldl Store.commit s).findCol x = some col' ∧ col'.kind = .num k ∧ ColWF col' ∧
      ∀ i, slot col' i =
        ((ts.flatMap (fun t => issued t x)).filter (fun o => o.idx = i)).foldl
          (slotEffect col.merge k.width) (slot col i) := by
  obtain ⟨col', f, k', _, w', _, _, sl⟩ := Store.commits_readback x k hxr ts s col hf hk hw hcov hcomp hinv
  exact ⟨col', f, k', w', sl⟩

theorem commits_no_panic (ts : List Txn) (s : Store) (hcov : CoveredAll s) (hck : ComputedKinds s)
    (hinv : ∀ t ∈ ts, ∀ v ∈ t.updates, ChunkOK v) : (ts.foldl Store.commit s).panicked = s.panicked := by
  induction ts generalizing s with
  | nil => rfl
  | cons t ts ih =>
    simp only [List.foldl_cons]
    rw [ih (s.commit t) (commit_coveredAll s t hcov) (commit_computedKinds s t hck) (fun t' ht' => hinv t' (by simp [ht'])),
      commit_no_panic s t hcov hck (hinv t (by simp))]

/-- stores built by `Store.new` + `commitCapacity` / `Col.grow`: growing a numeric column keeps `ColWF` and its slots -/
theorem grow_keeps (c : Col) (k : NumKind) (hk : c.kind = .num k) (hw : ColWF c) (idx : Nat) :
    ColWF (c.grow idx) ∧ c.nchunks ≤ (c.grow idx).nchunks ∧ idx / 16384 < (c.grow idx).nchunks ∧
    ∀ i, slot (c.grow idx) i = slot c i := grow_num c k hk hw idx

/-! ## R7 — non-vacuity: a store with a 16-bit counter column, a transaction over two chunks -/

def exCol : Col :=
  { name := "n", kind := .num .u16, nchunks := 1, bits := Array.replicate 16384 false, data := Array.replicate 16384 [],
    merge := fun v d => natToBE 2 (beNat v + beNat d) }

def exStore : Store := { cols := #[exCol], commits := #[0] }

/-- insert row 3 (marker), write 7 to it, add 1 twice, write 5 to row 20000 (second chunk), delete row 9 -/
def exTxn : Txn :=
  ([(rowColumn, ⟨opInsert, 3, .fixed 0 []⟩), ("n", ⟨opPut, 3, .fixed 1 [0, 7]⟩), ("n", ⟨opMerge, 3, .fixed 1 [0, 1]⟩),
    ("n", ⟨opPut, 20000, .fixed 1 [0, 5]⟩), ("n", ⟨opMerge, 3, .fixed 1 [0, 1]⟩),
    (rowColumn, ⟨opDelete, 9, .fixed 0 []⟩)] : List (String × Op)).foldl (fun t p => t.putOp p.1 p.2) {}

theorem exStore_find : exStore.findCol "n" = some exCol := by
  simp [exStore, Store.findCol, exCol]
theorem exCol_wf : ColWF exCol := ⟨by simp [exCol], by simp [exCol]⟩
example : exTxn.dirtyChunks = [0, 1] := by decide +kernel
example : BufsDistinct exTxn.updates := by decide +kernel
example : ∀ v ∈ exTxn.updates, ∀ s ∈ v.rsecs, ∀ o ∈ s.rops, chunkOf o.idx = s.chunk := by decide +kernel

theorem exTxn_chunkOK : ∀ v ∈ exTxn.updates, ChunkOK v := by
  have : ∀ v ∈ exTxn.updates, ∀ s ∈ v.rsecs, ∀ o ∈ s.rops, chunkOf o.idx = s.chunk := by decide
  exact this

theorem exStore_computed : ∀ n c, exStore.findCol n = some c → c.computed = [] := by
  intro n c h
  have := findCol_mem h
  simp only [exStore, List.mem_toArray, List.mem_singleton] at this
  rw [this]; rfl

/-- the hypotheses of `commit_readback` hold for the example, so its conclusion does -/
theorem ex_readback :
    ∃ col', (exStore.commit exTxn).findCol "n" = some col' ∧ col'.read 3 = some [0, 9] ∧ col'.read 20000 = some [0, 5] ∧
      col'.read 9 = none ∧ col'.read 4 = none := by
  obtain ⟨col', f, k', _, _, _, d', sl⟩ := commit_readback exStore exTxn "n" .u16 exCol (by decide) exStore_find rfl exCol_wf
    (by decide) (fun v _ c hc => by rw [exStore_computed _ c hc]; simp) (fun v hv _ => exTxn_chunkOK v hv)
  have h0 := d' 0 (by decide)
  have h1 := d' 1 (by decide)
  have e3 : slot col' 3 = (true, [0, 9]) := by
    rw [sl 3]
    have : slot exCol 3 = (false, []) := by simp [slot, exCol, Bits.get]
    rw [this]; decide
  have e2 : slot col' 20000 = (true, [0, 5]) := by
    rw [sl 20000]
    have : slot exCol 20000 = (false, []) := by simp [slot, exCol, Bits.get]
    rw [this]; decide
  have e9 : (slot col' 9).1 = false := by
    rw [sl 9]
    have : slot exCol 9 = (false, []) := by simp [slot, exCol, Bits.get]
    rw [this]; decide
  have e4 : (slot col' 4).1 = false := by
    rw [sl 4]
    have : slot exCol 4 = (false, []) := by simp [slot, exCol, Bits.get]
    rw [this]; decide
  refine ⟨col', f, ?_, ?_, ?_, ?_⟩
  · rw [read_raw col' (by rw [k']; rfl), e3, if_pos ⟨by omega, rfl⟩]
  · rw [read_raw col' (by rw [k']; rfl), e2, if_pos ⟨by omega, rfl⟩]
  · rw [read_raw col' (by rw [k']; rfl), if_neg (by rw [e9]; simp)]
  · rw [read_raw col' (by rw [k']; rfl), if_neg (by rw [e4]; simp)]

/-- `CoveredAll` / `ComputedKinds` hold for the example store, so `commit_no_panic` applies -/
theorem exStore_covered : CoveredAll exStore := by
  intro chunk hlt c hc
  simp only [exStore, List.mem_toArray, List.mem_singleton] at hc
  have hch : chunk = 0 := by
    have : exStore.commits.size = 1 := rfl
    omega
  subst hch
  rw [hc]
  exact ⟨fun _ => by decide, fun h => by cases h⟩

theorem exStore_computedKinds : ComputedKinds exStore := by
  intro n c h m hm
  rw [exStore_computed n c h] at hm
  cases hm

example : (exStore.commit exTxn).panicked = false :=
  commit_no_panic exStore exTxn exStore_covered exStore_computedKinds exTxn_chunkOK

example : Bits.get (exStore.commit exTxn).fill 3 = true ∧ Bits.get (exStore.commit exTxn).fill 9 = false := by
  constructor
  · rw [commit_fill exStore exTxn (fun m hm _ => exTxn_chunkOK m hm) 3]; decide
  · rw [commit_fill exStore exTxn (fun m hm _ => exTxn_chunkOK m hm) 9]; decide

end ColumnVerif.Props.C01store
