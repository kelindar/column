import ColumnVerif.Lemmas.StoreRead
/-!
# C07 — restoring a snapshot reproduces rows, offsets and values

"Restoring a snapshot into a fresh collection with the same schema yields identical rows at identical offsets with
identical values …"

`writeState` (`Store.chunkState` / `Store.snapshot`) emits, per committed chunk, a `row` buffer with one `Insert` per
occupied offset and one buffer per column holding `Column.Snapshot(chunk)` (`Col.snapshotOps`: one `Put` per present
offset of the chunk). `readState` commits each chunk's buffers as one transaction.

* column level (`snapshot_apply_*`): applying `(c.snapshotOps ch).1` to a column `c0` of the same kind whose chunk `ch` is
  empty makes every reader of chunk `ch` see what it sees in `c` — numeric (every width), string, record, key and bool
  columns; no panic; the slots of the other chunks are untouched.
* `snapshot_markers_roundtrip`: the `row` buffer holds exactly one `Insert` per set fill bit of the chunk, and applying it
  to a fill list reproduces the chunk's bits.
* store level (`restore_chunk_*`, `readState_*`): the same through the real `Store.commit` (markers, main pass, computed
  pass, `commitCapacity`), for one chunk and for the whole snapshot: every committed offset of a numeric column reads the
  same in the restored store, the fill list is the same on every committed chunk, no panic is raised.

The one place where "identical" needs a side condition: a numeric snapshot writes `padTo width` of the raw slot — a
present slot holding the empty byte string (which no typed `Put` produces: values have 2/4/8 bytes) would come back as
zeros. The general statements carry `.map (padTo width)`; under `CanonAt` (present slots are non-empty) it disappears.
-/
namespace ColumnVerif.Props.C07
open ColumnVerif.Codec ColumnVerif.Store ColumnVerif.Bits

/-! ## column level -/

/-- numeric column, general form: restoring chunk `ch` of `c` into `c0` (same kind, chunk allocated, well-formed arrays,
    chunk empty): readers of the chunk see the snapshotted values; no panic on either side -/
theorem snapshot_apply_roundtrip_num (hash : Bytes → Nat) (c c0 : Col) (k : NumKind) (hk : c.kind = .num k)
    (hk0 : c0.kind = .num k) (ch : Nat) (hch : ch < c.nchunks) (hch0 : ch < c0.nchunks) (hw0 : ColWF c0)
    (hfresh : ∀ i, i / 16384 = ch → Bits.get c0.bits i = false) :
    (∀ i, i / 16384 = ch →
      (applyData hash c0 ch (c.snapshotOps ch).1).col.read i = (c.read i).map (padTo k.width)) ∧
    (applyData hash c0 ch (c.snapshotOps ch).1).panic = false ∧ (c.snapshotOps ch).2 = false := by
  have hkd : c.kind.storesRaw = true := by rw [hk]; rfl
  obtain ⟨_, _, _, m4, m5⟩ := snapshot_apply_meta hash c c0 hkd (hk0.trans hk.symm) ch hch hch0
  refine ⟨fun i hi => ?_, m4, m5⟩
  rw [snapshot_apply_read_raw hash c c0 hkd (hk0.trans hk.symm) ch hch hch0 hw0 hfresh i hi,
    read_data_of_lt c hkd i (by omega), snapVal_num c k hk]
  split <;> rfl

/-- present slots of chunk `ch` hold a value (what every typed `Put` / non-empty merge result guarantees) -/
def CanonAt (c : Col) (ch : Nat) : Prop :=
  ∀ i, i / 16384 = ch → Bits.get c.bits i = true → c.data.getD i [] ≠ []

/-- **`snapshot_apply_roundtrip`** (numeric): present rows read the same value, absent rows read absent -/
theorem snapshot_apply_roundtrip (hash : Bytes → Nat) (c c0 : Col) (k : NumKind) (hk : c.kind = .num k)
    (hk0 : c0.kind = .num k) (ch : Nat) (hch : ch < c.nchunks) (hch0 : ch < c0.nchunks) (hw0 : ColWF c0)
    (hfresh : ∀ i, i / 16384 = ch → Bits.get c0.bits i = false) (hcanon : CanonAt c ch) :
    (∀ i, i / 16384 = ch → (applyData hash c0 ch (c.snapshotOps ch).1).col.read i = c.read i) ∧
    (applyData hash c0 ch (c.snapshotOps ch).1).panic = false ∧ (c.snapshotOps ch).2 = false := by
  obtain ⟨h1, h2, h3⟩ := snapshot_apply_roundtrip_num hash c c0 k hk hk0 ch hch hch0 hw0 hfresh
  refine ⟨fun i hi => ?_, h2, h3⟩
  rw [h1 i hi, read_data_of_lt c (by rw [hk]; rfl) i (by omega)]
  split
  · rename_i hb
    rw [Option.map_some, padTo_of_ne_nil _ _ (hcanon i hi hb)]
  · rfl

/-- string, record and key columns: exact, no side condition -/
theorem snapshot_apply_roundtrip_str (hash : Bytes → Nat) (c c0 : Col)
    (hk : c.kind = .str ∨ c.kind = .record ∨ c.kind = .key) (hk0 : c0.kind = c.kind) (ch : Nat)
    (hch : ch < c.nchunks) (hch0 : ch < c0.nchunks) (hw0 : ColWF c0)
    (hfresh : ∀ i, i / 16384 = ch → Bits.get c0.bits i = false) :
    (∀ i, i / 16384 = ch → (applyData hash c0 ch (c.snapshotOps ch).1).col.read i = c.read i) ∧
    (applyData hash c0 ch (c.snapshotOps ch).1).panic = false ∧ (c.snapshotOps ch).2 = false := by
  have hkd : c.kind.storesRaw = true := by rcases hk with h | h | h <;> rw [h] <;> rfl
  obtain ⟨_, _, _, m4, m5⟩ := snapshot_apply_meta hash c c0 hkd hk0 ch hch hch0
  refine ⟨fun i hi => ?_, m4, m5⟩
  rw [snapshot_apply_read_raw hash c c0 hkd hk0 ch hch hch0 hw0 hfresh i hi, read_data_of_lt c hkd i (by omega),
    snapVal_str c hk]

theorem snapshot_apply_frame (hash : Bytes → Nat) (c c0 : Col) (hkd : c.kind.storesRaw = true) (hk0 : c0.kind = c.kind)
    (ch : Nat) (hch : ch < c.nchunks) (hch0 : ch < c0.nchunks) (hw0 : ColWF c0) (i : Nat) (hi : i / 16384 ≠ ch) :
    slot (applyData hash c0 ch (c.snapshotOps ch).1).col i = slot c0 i := by
  rw [snapshot_apply_slot hash c c0 hkd hk0 ch hch hch0 hw0 i, if_neg (fun h => hi h.1)]

/-- bool columns (`applyOther`): every bit of the chunk is reproduced, the other bits are untouched, no panic -/
theorem snapshot_apply_roundtrip_bool (c c0 : Col) (hk : c.kind = .bool) (hk0 : c0.kind = .bool) (ch : Nat)
    (hsz : 16384 * (ch + 1) ≤ c0.bits.size) (hfresh : ∀ i, i / 16384 = ch → Bits.get c0.bits i = false) :
    (∀ i, i / 16384 = ch → (applyOther c0 (c.snapshotOps ch).1).1.read i = c.read i) ∧
    (∀ i, i / 16384 ≠ ch → (applyOther c0 (c.snapshotOps ch).1).1.read i = c0.read i) ∧
    (applyOther c0 (c.snapshotOps ch).1).2 = false ∧ (c.snapshotOps ch).2 = false := by
  have hb := fun j => snapshot_apply_bool c c0 hk hk0 ch hsz j
  refine ⟨fun i hi => ?_, fun i hi => ?_, (hb 0).2.1, (hb 0).2.2.1⟩
  · have hbit : Bits.get (applyOther c0 (c.snapshotOps ch).1).1.bits i = Bits.get c.bits i := by
      rw [(hb i).1, ite_bit _ _ _ hi (hfresh i hi)]
    rw [read_bool _ (hb i).2.2.2, read_bool c hk, hbit]
  · have hbit : Bits.get (applyOther c0 (c.snapshotOps ch).1).1.bits i = Bits.get c0.bits i := by
      rw [(hb i).1, if_neg (fun x => hi x.1)]
    rw [read_bool _ (hb i).2.2.2, read_bool c0 hk0, hbit]

/-! ## the `row` buffer and the fill list -/

/-- **`snapshot_markers_roundtrip`**: the first buffer `chunkState` writes is the `row` buffer; reading chunk `ch` of it
    yields exactly one `Insert` per set fill bit of the chunk, ascending (and nothing for any other chunk); the marker part
    of `commitMarkers` applied to a fill list `f0` sets exactly those bits — with no bit of the chunk set in `f0`, the chunk's
    bits are those of the source; the bits of other chunks are untouched -/
theorem snapshot_markers_roundtrip (s : Store) (ch : Nat) :
    (s.chunkState ch).1.buffers.head? = some (rowBufOf s ch) ∧
    (rowBufOf s ch).column = rowColumn ∧
    (rowBufOf s ch).rangeOps ch =
      ((List.range 16384).filter (fun x => Bits.get s.fill (16384 * ch + x))).map
        (fun x => (⟨opInsert, 16384 * ch + x, .fixed 0 []⟩ : Op)) ∧
    (∀ c2, c2 ≠ ch → (rowBufOf s ch).rangeOps c2 = []) ∧
    (∀ (s0 : Store) j, Bits.get (s0.commitMarkers ch (rowBufOf s ch)).fill j =
      if j / 16384 = ch ∧ Bits.get s.fill j = true then true else Bits.get s0.fill j) ∧
    (∀ (s0 : Store), (∀ j, j / 16384 = ch → Bits.get s0.fill j = false) →
      ∀ j, j / 16384 = ch → Bits.get (s0.commitMarkers ch (rowBufOf s ch)).fill j = Bits.get s.fill j) := by
  obtain ⟨h1, _, h3, h4⟩ := rowBuf_ops s ch
  have hfill : ∀ (s0 : Store) j, Bits.get (s0.commitMarkers ch (rowBufOf s ch)).fill j =
      if j / 16384 = ch ∧ Bits.get s.fill j = true then true else Bits.get s0.fill j := by
    intro s0 j
    rw [commitMarkers_fill, h1, rowMarkers_fill]
  refine ⟨by rw [chunkState_buffers]; rfl, h3, h1, h4, hfill, ?_⟩
  intro s0 hfresh j hj
  rw [hfill s0 j, ite_bit _ _ _ hj (hfresh j hj)]

/-- the column buffers of a chunk's snapshot: one per registry column that is not a bitmap index, in registry order, each
    holding that column's `snapshotOps` in a single section of the chunk -/
theorem snapshot_buffers (s : Store) (ch : Nat) :
    (s.chunkState ch).1.buffers = rowBufOf s ch :: colBufsOf s ch ∧
    (∀ b ∈ (s.chunkState ch).1.buffers, ChunkOK b ∧ ∀ c' ∈ b.chunks, c' = ch) ∧
    (∀ c ∈ s.cols, c.kind.isIndex = false →
      ((Buf.empty c.name).putAll (c.snapshotOps ch).1) ∈ colBufsOf s ch ∧
      ((Buf.empty c.name).putAll (c.snapshotOps ch).1).rangeOps ch = (c.snapshotOps ch).1) := by
  refine ⟨chunkState_buffers s ch, fun b hb => ⟨chunkState_chunkOK s ch b hb, chunkState_chunks s ch b hb⟩, ?_⟩
  intro c hc hni
  refine ⟨?_, (putAll_empty_rangeOps c.name _ ch (snapshotOps_chunk c ch)).1⟩
  unfold colBufsOf
  exact List.mem_map.2 ⟨c, List.mem_filter.2 ⟨by simpa using hc, by simp [hni]⟩, rfl⟩

/-! ## store level: through `Store.commit` -/

/-- one chunk of a snapshot of `s` committed into `s0` (the transaction `readState` builds): the numeric column `x` of the
    result holds, in chunk `ch`, the snapshotted value at every offset present in `s`; every other slot is as in `s0` -/
theorem restore_chunk_slot (s s0 : Store) (ch : Nat) (x : String) (k : NumKind) (c c0 : Col)
    (hn : NamesDistinct s) (hr : s.findCol rowColumn = none)
    (hf : s.findCol x = some c) (hk : c.kind = .num k) (hch : ch < c.nchunks)
    (hf0 : s0.findCol x = some c0) (hk0 : c0.kind = .num k) (hw0 : ColWF c0) (hcov0 : s0.commits.size ≤ c0.nchunks)
    (hcomp0 : ∀ n c', s0.findCol n = some c' → x ∉ c'.computed) :
    ∃ col', (s0.commit (chunkTxn s ch)).findCol x = some col' ∧ col'.kind = .num k ∧ ColWF col' ∧ ch < col'.nchunks ∧
      ∀ i, slot col' i =
        if i / 16384 = ch ∧ Bits.get c.bits i = true then (true, padTo k.width (c.data.getD i [])) else slot c0 i := by
  obtain ⟨col', f, k', _, w', _, d', sl⟩ := Store.restore_chunk_slot s s0 ch x k c c0 hn hr hf hk hch hf0 hk0 hw0 hcov0 hcomp0
  exact ⟨col', f, k', w', d', sl⟩

/-- `readState` of a snapshot is one such commit per chunk, in ascending order -/
theorem readState_is_chunk_commits (s0 s : Store) :
    s0.readState (s.snapshot).1 = (List.range s.nChunks).foldl (fun s0 ch => s0.commit (chunkTxn s ch)) s0 :=
  readState_snapshot s0 s

/-- **C07, numeric column, whole snapshot, store level.** `s` any store with distinct column names, no column called
    `row`, a numeric column `x` covering the committed chunks; `s0` a store with a numeric column `x` of the same kind whose
    presence bitmap is empty (a fresh collection with the same schema). After `s0.readState (s.snapshot).1` every committed
    offset `i` reads in `x` what it reads in `s` (modulo `padTo`, see the header), and the slots beyond are untouched. -/
theorem readState_readback (s s0 : Store) (x : String) (k : NumKind) (c c0 : Col)
    (hn : NamesDistinct s) (hr : s.findCol rowColumn = none)
    (hf : s.findCol x = some c) (hk : c.kind = .num k) (hcovc : s.commits.size ≤ c.nchunks)
    (hf0 : s0.findCol x = some c0) (hk0 : c0.kind = .num k) (hw0 : ColWF c0) (hcov0 : s0.commits.size ≤ c0.nchunks)
    (hcomp0 : ∀ n c', s0.findCol n = some c' → x ∉ c'.computed)
    (hfresh : ∀ i, Bits.get c0.bits i = false) :
    ∃ col', (s0.readState (s.snapshot).1).findCol x = some col' ∧ col'.kind = .num k ∧
      ∀ i, i / 16384 < s.nChunks → col'.read i = (c.read i).map (padTo k.width) := by
  rw [readState_snapshot]
  obtain ⟨col', f, k', _, _, _, n', _, _, sl⟩ := readState_upTo s s0 x k c c0 hn hr hf hk hcovc hf0 hk0 hw0 hcov0 hcomp0
    s.nChunks (Nat.le_refl _)
  refine ⟨col', f, k', fun i hi => ?_⟩
  have hic : i / 16384 < c.nchunks := by unfold Store.nChunks at hi; omega
  rw [read_raw col' (by rw [k']; rfl) i, read_data_of_lt c (by rw [hk]; rfl) i hic]
  by_cases hb : Bits.get c.bits i = true
  · have hs : slot col' i = (true, padTo k.width (c.data.getD i [])) := by rw [sl i, if_pos ⟨hi, hb⟩]
    rw [hs, if_pos ⟨by omega, rfl⟩, if_pos hb]; rfl
  · have hs : slot col' i = slot c0 i := by rw [sl i, if_neg (fun h => hb h.2)]
    rw [hs, if_neg hb, if_neg (fun h => absurd ((hfresh i).symm.trans h.2) (by decide))]; rfl

/-- … with identical values when present numeric slots are non-empty -/
theorem readState_readback_exact (s s0 : Store) (x : String) (k : NumKind) (c c0 : Col)
    (hn : NamesDistinct s) (hr : s.findCol rowColumn = none)
    (hf : s.findCol x = some c) (hk : c.kind = .num k) (hcovc : s.commits.size ≤ c.nchunks)
    (hf0 : s0.findCol x = some c0) (hk0 : c0.kind = .num k) (hw0 : ColWF c0) (hcov0 : s0.commits.size ≤ c0.nchunks)
    (hcomp0 : ∀ n c', s0.findCol n = some c' → x ∉ c'.computed)
    (hfresh : ∀ i, Bits.get c0.bits i = false) (hcanon : ∀ ch, CanonAt c ch) :
    ∃ col', (s0.readState (s.snapshot).1).findCol x = some col' ∧
      ∀ i, i / 16384 < s.nChunks → col'.read i = c.read i := by
  obtain ⟨col', f, _, h⟩ := readState_readback s s0 x k c c0 hn hr hf hk hcovc hf0 hk0 hw0 hcov0 hcomp0 hfresh
  refine ⟨col', f, fun i hi => ?_⟩
  rw [h i hi, read_data_of_lt c (by rw [hk]; rfl) i (by unfold Store.nChunks at hi; omega)]
  split
  · rename_i hb
    rw [Option.map_some, padTo_of_ne_nil _ _ (hcanon _ i rfl hb)]
  · rfl

/-- rows at identical offsets: after `readState`, the fill list has, on every committed chunk of `s`, exactly the bits of
    `s` (into a store whose fill list is empty); beyond, it is what it was -/
theorem readState_fill (s s0 : Store) (hn : NamesDistinct s) (hr : s.findCol rowColumn = none) (j : Nat) :
    Bits.get (s0.readState (s.snapshot).1).fill j =
      if j / 16384 < s.nChunks ∧ Bits.get s.fill j = true then true else Bits.get s0.fill j := by
  rw [readState_snapshot]
  exact readState_fill_upTo s s0 hn hr s.nChunks j

theorem readState_fill_fresh (s s0 : Store) (hn : NamesDistinct s) (hr : s.findCol rowColumn = none)
    (hfresh : ∀ j, Bits.get s0.fill j = false) (j : Nat) (hj : j / 16384 < s.nChunks) :
    Bits.get (s0.readState (s.snapshot).1).fill j = Bits.get s.fill j := by
  rw [readState_fill s s0 hn hr j, ite_bit _ _ _ hj (hfresh j)]

/-- restoring into a covered store raises no panic — whatever kinds of columns the snapshot carries -/
theorem readState_no_panic (s s0 : Store) (hcov : CoveredAll s0) (hck : ComputedKinds s0) :
    (s0.readState (s.snapshot).1).panicked = s0.panicked := by
  rw [readState_snapshot]
  exact (readState_no_panic_upTo s s0 hcov hck s.nChunks).1

/-! ## R7 — non-vacuity -/

def src : Col :=
  { name := "n", kind := .num .u32, nchunks := 1,
    bits := (Array.replicate 16384 false).setIfInBounds 5 true |>.setIfInBounds 7 true,
    data := (Array.replicate 16384 []).setIfInBounds 5 [0, 0, 1, 2] |>.setIfInBounds 7 [9, 9, 9, 9] |>.setIfInBounds 8 [1, 1, 1, 1] }

def fresh : Col :=
  { name := "n", kind := .num .u32, nchunks := 1, bits := Array.replicate 16384 false, data := Array.replicate 16384 [] }

theorem fresh_wf : ColWF fresh := ⟨by simp [fresh], by simp [fresh]⟩

theorem fresh_empty : ∀ i, Bits.get fresh.bits i = false := by
  intro i
  simp only [fresh]
  exact get_replicate_false 16384 i

theorem src_canon : ∀ ch, CanonAt src ch := by
  intro ch i _ hb
  have hi : i = 5 ∨ i = 7 := by
    simp only [src, Bits.get, Array.getElem?_setIfInBounds, Array.size_setIfInBounds, Array.size_replicate] at hb
    by_cases h7 : 7 = i
    · exact Or.inr h7.symm
    · by_cases h5 : 5 = i
      · exact Or.inl h5.symm
      · simp [h7, h5, Array.getElem?_replicate] at hb
        split at hb <;> simp at hb
  rcases hi with rfl | rfl <;> simp [src, Array.getD_eq_getD_getElem?]

example : ∀ i, i / 16384 = 0 → (applyData (fun _ => 0) fresh 0 (src.snapshotOps 0).1).col.read i = src.read i :=
  (snapshot_apply_roundtrip (fun _ => 0) src fresh .u32 rfl rfl 0 (by decide) (by decide) fresh_wf (fun i _ => fresh_empty i)
    (src_canon 0)).1

def srcStore : Store := { cols := #[src], commits := #[3], fill := (Array.replicate 16384 false).setIfInBounds 5 true }
def freshStore : Store := { cols := #[fresh], commits := #[0] }

theorem srcStore_find : srcStore.findCol "n" = some src := by simp [srcStore, Store.findCol, src]
theorem freshStore_find : freshStore.findCol "n" = some fresh := by simp [freshStore, Store.findCol, fresh]
theorem srcStore_names : NamesDistinct srcStore := by simp [NamesDistinct, srcStore]
theorem srcStore_norow : srcStore.findCol rowColumn = none := by
  simp [srcStore, Store.findCol, src, rowColumn]

theorem freshStore_computed : ∀ n c', freshStore.findCol n = some c' → "n" ∉ c'.computed := by
  intro n c' h
  have := findCol_mem h
  simp only [freshStore, List.mem_toArray, List.mem_singleton] at this
  rw [this]; simp [fresh]

example : ∃ col', (freshStore.readState (srcStore.snapshot).1).findCol "n" = some col' ∧
    ∀ i, i / 16384 < srcStore.nChunks → col'.read i = src.read i :=
  readState_readback_exact srcStore freshStore "n" .u32 src fresh srcStore_names srcStore_norow srcStore_find rfl
    (by decide) freshStore_find rfl fresh_wf (by decide) freshStore_computed fresh_empty src_canon

end ColumnVerif.Props.C07
