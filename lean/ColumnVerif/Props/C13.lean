import ColumnVerif.Lemmas.Wire
import ColumnVerif.Props.C05
/-!
# C13 — a truncated stream never yields a partial commit

Statements use the definitions of `Model/Wire` plus the spec-level names of `Lemmas/Wire`
(`Commit.toRaw`, `Commit.WF`, `BufFits`, `RawBuf.WF`, `wholeCount`; see the header of the wire
section of `Props/C05`).

* **B1/B2** every *strict* prefix `p` of an encoding makes the decoder return `.error _` — never
  `.ok`, whatever the end flag `e` of the source is; when the stream was cut inside a compressed
  frame (`e = true`) the error is `.bad`, i.e. it can never be mistaken for a clean `io.EOF`;
  on the empty clean source (`p = []`, `e = false`) the error is `.eof`.
* **B3** `Log.Range` over a log cut at an arbitrary byte delivers exactly the commits that lie
  entirely before the cut — in order, none of them partial.
* **B4 (totality)** every decoder of `Model/Wire` is a total Lean function: `readUvarintAux` and
  `rangeLogAux` recurse structurally on explicit fuel, `readMany` on the count, everything else is
  non-recursive; so "returns `.error`" above really is the only alternative to "returns `.ok`" —
  there is no divergence or panic case in the model. (The fuel of `rangeLog`, `bytes.length + 1`,
  is never the reason for stopping on an encoded log: see `log_roundtrip`, `log_prefix_exact`.)
-/
namespace ColumnVerif.Props.C13
open ColumnVerif.Codec ColumnVerif.Wire

/-! ## B1 — primitive decoders -/

/-- `ReadUvarint` (no range condition on `x` needed). -/
theorem uvarint_prefix_fails (x : Nat) (p : Bytes) (hp : p <+: encUvarint x) (hne : p ≠ encUvarint x)
    (e : Bool) : ∃ err, readUvarint ⟨p, e⟩ = .error err ∧ (e = true → err = .bad) :=
  (uvarint_cuts x).of_prefix p hp hne e

theorem uvarint_empty_eof : readUvarint ⟨[], false⟩ = .error .eof := rfl

/-- `Slice(n)` on fewer than `n` bytes. -/
theorem readN_prefix_fails (b p : Bytes) (hp : p <+: b) (hne : p ≠ b) (e : Bool) :
    ∃ err, readN b.length ⟨p, e⟩ = .error err ∧ (e = true → err = .bad) :=
  (readN_decodes b).cuts.of_prefix p hp hne e

theorem readN_empty_eof (n : Nat) (hn : n ≠ 0) : readN n ⟨[], false⟩ = .error .eof :=
  (if_neg hn).trans (if_neg (Nat.not_le.2 (Nat.pos_of_ne_zero hn)))

theorem u32_prefix_fails (v : Nat) (p : Bytes) (hp : p <+: encU32 v) (hne : p ≠ encU32 v) (e : Bool) :
    ∃ err, readU32 ⟨p, e⟩ = .error err ∧ (e = true → err = .bad) :=
  (u32_decodes_mod v).cuts.of_prefix p hp hne e

theorem u32_empty_eof : readU32 ⟨[], false⟩ = .error .eof := rfl

theorem bytes_prefix_fails (b : Bytes) (hb : b.length < 2 ^ 64) (p : Bytes) (hp : p <+: encBytes b)
    (hne : p ≠ encBytes b) (e : Bool) :
    ∃ err, readBytes ⟨p, e⟩ = .error err ∧ (e = true → err = .bad) :=
  (bytes_decodes b hb).cuts.of_prefix p hp hne e

theorem bytes_empty_eof : readBytes ⟨[], false⟩ = .error .eof := rfl

theorem header_prefix_fails (h : Nat × Nat × Nat) (p : Bytes) (hp : p <+: encHeader h)
    (hne : p ≠ encHeader h) (e : Bool) :
    ∃ err, readHeader ⟨p, e⟩ = .error err ∧ (e = true → err = .bad) :=
  (header_decodes_mod h).cuts.of_prefix p hp hne e

theorem header_empty_eof : readHeader ⟨[], false⟩ = .error .eof := rfl

/-- `n` items in a row: given, for every item, its round trip and its own prefix failure. -/
theorem readMany_prefix_fails {α} (d : Dec α) (enc : α → Bytes) (as : List α)
    (h : ∀ a ∈ as, ∀ rest e, d ⟨enc a ++ rest, e⟩ = .ok (a, ⟨rest, e⟩))
    (hc : ∀ a ∈ as, ∀ p, p <+: enc a → p ≠ enc a → ∀ e,
      ∃ err, d ⟨p, e⟩ = .error err ∧ (e = true → err = .bad))
    (p : Bytes) (hp : p <+: (as.map enc).flatten) (hne : p ≠ (as.map enc).flatten) (e : Bool) :
    ∃ err, readMany d as.length ⟨p, e⟩ = .error err ∧ (e = true → err = .bad) :=
  (many_decodes (f := id) as fun a ha => ⟨h a ha, cuts_of_prefix_fails (hc a ha)⟩).cuts.of_prefix
    p hp hne e

/-- `ReadRange`: count, then the items. -/
theorem readRange_prefix_fails {α} (d : Dec α) (enc : α → Bytes) (as : List α) (hl : as.length < 2 ^ 64)
    (h : ∀ a ∈ as, ∀ rest e, d ⟨enc a ++ rest, e⟩ = .ok (a, ⟨rest, e⟩))
    (hc : ∀ a ∈ as, ∀ p, p <+: enc a → p ≠ enc a → ∀ e,
      ∃ err, d ⟨p, e⟩ = .error err ∧ (e = true → err = .bad))
    (p : Bytes) (hp : p <+: encUvarint as.length ++ (as.map enc).flatten)
    (hne : p ≠ encUvarint as.length ++ (as.map enc).flatten) (e : Bool) :
    ∃ err, readRange d ⟨p, e⟩ = .error err ∧ (e = true → err = .bad) :=
  (range_decodes (f := id) as hl fun a ha => ⟨h a ha, cuts_of_prefix_fails (hc a ha)⟩).cuts.of_prefix
    p hp hne e

theorem readMany_empty_eof {α} (d : Dec α) (n : Nat) (h : d ⟨[], false⟩ = .error .eof) :
    readMany d (n+1) ⟨[], false⟩ = .error .eof := by
  unfold readMany; rw [h]

theorem readRange_empty_eof {α} (d : Dec α) : readRange d ⟨[], false⟩ = .error .eof := rfl

/-- `Buffer.ReadFrom`. -/
theorem rawbuf_prefix_fails (r : RawBuf) (hWF : r.WF) (p : Bytes) (hp : p <+: encRawBuf r)
    (hne : p ≠ encRawBuf r) (e : Bool) :
    ∃ err, readRawBuf ⟨p, e⟩ = .error err ∧ (e = true → err = .bad) :=
  (rawbuf_decodes r hWF).cuts.of_prefix p hp hne e

theorem rawbuf_empty_eof : readRawBuf ⟨[], false⟩ = .error .eof := rfl

/-! ## B2 — commits -/

/-- one `(Value, Offset)` pair of the shard table -/
theorem shard_prefix_fails (q : Nat × Nat) (h1 : q.1 < 2 ^ 32) (h2 : q.2 < 2 ^ 32) (p : Bytes)
    (hp : p <+: encU32 q.1 ++ encU32 q.2) (hne : p ≠ encU32 q.1 ++ encU32 q.2) (e : Bool) :
    ∃ err, readShard ⟨p, e⟩ = .error err ∧ (e = true → err = .bad) :=
  (shard_decodes q ⟨h1, h2⟩).cuts.of_prefix p hp hne e

theorem shard_empty_eof : readShard ⟨[], false⟩ = .error .eof := rfl

/-- One update buffer inside `Commit.ReadFrom`. The Go code drops the error of the shard-table
    `ReadRange` and carries on with `ReadBytes`; the proof covers that path: when the cut lies in
    the shard table the following `readBytes` runs on the exhausted source and fails as well. -/
theorem commitBuf_prefix_fails (chunk : Nat) (b : Buf) (h : BufFits chunk b) (p : Bytes)
    (hp : p <+: encCommitBuf chunk b) (hne : p ≠ encCommitBuf chunk b) (e : Bool) :
    ∃ err, readCommitBuf chunk ⟨p, e⟩ = .error err ∧ (e = true → err = .bad) :=
  (commitBuf_decodes chunk b h).cuts.of_prefix p hp hne e

theorem commitBuf_empty_eof (chunk : Nat) : readCommitBuf chunk ⟨[], false⟩ = .error .eof := rfl

/-- Every strict prefix of a commit's encoding is rejected. -/
theorem commit_prefix_fails (c : Commit) (h : c.WF) (p : Bytes) (hp : p <+: encCommit c)
    (hne : p ≠ encCommit c) (e : Bool) : ∃ err, readCommit ⟨p, e⟩ = .error err :=
  let ⟨err, h1, _⟩ := (commit_decodes c h).cuts.of_prefix p hp hne e
  ⟨err, h1⟩

theorem commit_prefix_never_ok (c : Commit) (h : c.WF) (p : Bytes) (hp : p <+: encCommit c)
    (hne : p ≠ encCommit c) (e : Bool) (r : RawCommit × Src) : readCommit ⟨p, e⟩ ≠ .ok r := by
  obtain ⟨err, h1⟩ := commit_prefix_fails c h p hp hne e
  rw [h1]; intro h2; cases h2

/-- … and a cut inside a compressed frame is never taken for a clean end of the log. -/
theorem commit_prefix_corrupt_bad (c : Commit) (h : c.WF) (p : Bytes) (hp : p <+: encCommit c)
    (hne : p ≠ encCommit c) : readCommit ⟨p, true⟩ = .error .bad := by
  obtain ⟨err, h1, h2⟩ := (commit_decodes c h).cuts.of_prefix p hp hne true
  rw [h1, h2 rfl]

theorem commit_empty_eof : readCommit ⟨[], false⟩ = .error .eof := rfl

/-! ## B3 — the log -/

/-- Cut the log after `n` bytes: `Log.Range` delivers exactly the first `k` commits, where
    `k = wholeCount …` is the number of commits whose encoding ends at or before byte `n`. -/
theorem log_prefix_exact (cs : List Commit) (h : ∀ c ∈ cs, c.WF) (n : Nat) (e : Bool) :
    (rangeLog ⟨((cs.map encCommit).flatten).take n, e⟩).1 =
      (cs.map Commit.toRaw).take (wholeCount (cs.map encCommit) n) := by
  obtain ⟨flag, h1, _⟩ := rangeLog_take cs h n e
  simp only [encLog] at h1
  rw [h1]

/-- Only whole commits, in order, a prefix of the log. -/
theorem log_prefix_safe (cs : List Commit) (h : ∀ c ∈ cs, c.WF) (n : Nat) (e : Bool) :
    ∃ k, k ≤ cs.length ∧
      (rangeLog ⟨((cs.map encCommit).flatten).take n, e⟩).1 = (cs.map Commit.toRaw).take k :=
  ⟨wholeCount (cs.map encCommit) n, by simpa using wholeCount_le (cs.map encCommit) n,
    log_prefix_exact cs h n e⟩

/-- `wholeCount` is what its name says: the bytes before the cut are the first `k` encodings plus a
    strict prefix of the next one (nothing, if there is no next one). -/
theorem wholeCount_spec (cs : List Commit) (n : Nat) :
    ∃ p, ((cs.map encCommit).flatten).take n =
        ((cs.take (wholeCount (cs.map encCommit) n)).map encCommit).flatten ++ p ∧
      (∀ (hk : wholeCount (cs.map encCommit) n < cs.length),
        p <+: encCommit cs[wholeCount (cs.map encCommit) n] ∧
        p ≠ encCommit cs[wholeCount (cs.map encCommit) n]) ∧
      (cs.length ≤ wholeCount (cs.map encCommit) n → p = []) := by
  obtain ⟨p, h1, h2, h3⟩ := take_flatten (cs.map encCommit) n
  refine ⟨p, by rw [List.map_take]; exact h1, fun hk => (strict_prefix_iff _ _).mpr (h2 _ ?_),
    fun h => h3 (by rwa [List.length_map])⟩
  rw [List.getElem?_map, List.getElem?_eq_getElem hk]; rfl

/-- A stream cut inside a compressed frame always makes `Log.Range` return an error. -/
theorem log_prefix_corrupt_reported (cs : List Commit) (h : ∀ c ∈ cs, c.WF) (n : Nat) :
    (rangeLog ⟨((cs.map encCommit).flatten).take n, true⟩).2 = true := by
  obtain ⟨flag, h1, h2⟩ := rangeLog_take cs h n true
  simp only [encLog] at h1
  rw [h1]; exact h2 rfl

/-- The uncut log with a clean end: everything is delivered and no error is reported. -/
theorem log_prefix_whole (cs : List Commit) (h : ∀ c ∈ cs, c.WF) (n : Nat)
    (hn : ((cs.map encCommit).flatten).length ≤ n) :
    rangeLog ⟨((cs.map encCommit).flatten).take n, false⟩ = (cs.map Commit.toRaw, false) := by
  rw [List.take_of_length_le hn]
  exact rangeLog_all cs h

/-- A clean cut exactly between two commits: the commits before it, no error. -/
theorem log_prefix_boundary (cs : List Commit) (h : ∀ c ∈ cs, c.WF) (k : Nat) :
    rangeLog ⟨((cs.map encCommit).flatten).take (((cs.take k).map encCommit).flatten).length, false⟩ =
      ((cs.map Commit.toRaw).take k, false) :=
  rangeLog_boundary cs h k

/-! ## non-vacuity and a behaviour worth knowing

`sampleCommit` (from `Props/C05`) meets `Commit.WF`. Cutting its encoding *between two
primitives* with a clean end makes `readCommit` fail with `.eof`, which `Log.Range` treats as
the normal end of the log: the partial commit is dropped (that is what B3 promises) but no error
is reported. With `e = true` the same cut is reported (`log_prefix_corrupt_reported`). -/
open ColumnVerif.Props.C05 in
example : (rangeLog ⟨(encCommit sampleCommit ++ encCommit sampleCommit).take
    ((encCommit sampleCommit).length + 1), false⟩) = ([sampleCommit.toRaw], false) := by
  have h := rangeLog_encLog [sampleCommit] (List.forall_mem_singleton.2 sampleCommit_wf)
    ((encCommit sampleCommit).take 1) false .eof rfl
  rw [encLog, List.map_singleton, List.flatten_singleton] at h
  rw [List.take_append, List.take_of_length_le (Nat.le_succ _), Nat.add_sub_cancel_left]
  exact h

end ColumnVerif.Props.C13
