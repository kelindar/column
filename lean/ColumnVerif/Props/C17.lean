import ColumnVerif.Model.Expire
import ColumnVerif.Props.C04
/-!
# C17 — rows expire only after their deadline, and then do expire (decision logic)

PARTIAL: "within a few cleanup intervals" depends on the Go scheduler and timers, which no model
here exhibits; what is proved is the decision a vacuum pass takes for every row, every stored
value and every clock reading, and the TTL arithmetic. That the deadline survives snapshot/restore
and replication is C07/C06: it is an ordinary int64 column.
-/
namespace ColumnVerif.Props.C17
open ColumnVerif.Codec ColumnVerif.Bits ColumnVerif.Store

theorem vacuumDeletes_none (now : Int) : vacuumDeletes now none = false := rfl

theorem vacuumDeletes_some (now : Int) (bs : Bytes) :
    vacuumDeletes now (some bs) = (decide (int64OfBytes bs ≠ 0) && decide (int64OfBytes bs < now)) := by
  unfold vacuumDeletes expiresAt
  simp only
  by_cases hz : int64OfBytes bs ≠ 0
  · rw [if_pos hz]; simp [hz]
  · rw [if_neg hz]; simp [hz]

theorem vacuumDeletes_iff (now : Int) (v : Option Bytes) :
    vacuumDeletes now v = true ↔ ∃ bs, v = some bs ∧ int64OfBytes bs ≠ 0 ∧ int64OfBytes bs < now := by
  cases v with
  | none => simp [vacuumDeletes_none]
  | some bs => simp [vacuumDeletes_some]

/-- a pass deletes a row iff it is live, holds a deadline value, the deadline is non-zero and lies
    strictly before `now` — for every store, every clock reading, every offset -/
theorem vacuum_deletes_iff (s : Store) (now : Int) (c : Col) (hc : s.findCol expireColumn = some c) (o : Nat) :
    o ∈ s.vacuumPass now ↔
      (Bits.get s.fill o = true ∧ c.indexBit o = true ∧
        ∃ bs, c.read o = some bs ∧ int64OfBytes bs ≠ 0 ∧ int64OfBytes bs < now) := by
  unfold Store.vacuumPass
  simp only [hc, List.mem_filter]
  rw [C04.rangeList_sem, initialize_of_setup _ _ (with_spec s {} _).1, C04.with_sem, C04.initialize_sem s {} rfl,
    vacuumDeletes_iff]
  simp only [List.all_cons, List.all_nil, Bool.and_true, C04.bitOf, hc, Bool.and_eq_true, and_assoc]

/-- a row without a time-to-live (no value, or deadline 0) is never removed -/
theorem no_ttl_never_removed (now : Int) (v : Option Bytes)
    (h : v = none ∨ ∃ bs, v = some bs ∧ int64OfBytes bs = 0) : vacuumDeletes now v = false := by
  rcases h with rfl | ⟨bs, rfl, hz⟩
  · rfl
  · rw [vacuumDeletes_some]; simp [hz]

/-- a deadline in the future (or exactly now) is never removed -/
theorem future_never_removed (now : Int) (bs : Bytes) (h : now ≤ int64OfBytes bs) :
    vacuumDeletes now (some bs) = false := by
  rw [vacuumDeletes_some]
  have : ¬ int64OfBytes bs < now := by omega
  simp [this]

/-- a deadline that has passed is removed by the next pass -/
theorem past_removed_by_next_pass (now : Int) (bs : Bytes) (hz : int64OfBytes bs ≠ 0) (h : int64OfBytes bs < now) :
    vacuumDeletes now (some bs) = true := by
  rw [vacuumDeletes_some]; simp [hz, h]

/-- setting a positive TTL puts the deadline that far in the future; a non-positive one means never -/
theorem set_ttl_deadline (now ttl : Int) :
    (0 < ttl → writeTTL now ttl = now + ttl ∧ now < writeTTL now ttl) ∧ (ttl ≤ 0 → writeTTL now ttl = 0) := by
  unfold writeTTL
  constructor
  · intro h; simp [h]; omega
  · intro h; have : ¬ ttl > 0 := by omega
    simp [this]

/-- extending moves the deadline by exactly the amount -/
theorem extend_moves_deadline (d delta : Int) : extendTTL d delta = d + delta := rfl

/-- observation O1 (outside the property: it does not define "extend" without a deadline):
    extending a row that never had a TTL sets the deadline to 1970 + δ, which any later pass deletes -/
theorem extend_without_deadline_counterexample :
    extendTTL 0 5000000000 = 5000000000 ∧
    vacuumDeletes 1790000000000000000 (some (natToBE 8 5000000000)) = true := by decide

/-! non-vacuity: a store with three rows (no TTL, past, future) -/
def sampleStore : Store :=
  { cap := 64, fill := Bits.set (Bits.set (Bits.set (Bits.growTo #[] 1) 0) 1) 2,
    cols := #[{ name := "expire", kind := .num .i64, nchunks := 1,
                bits := Bits.set (Bits.set (Bits.growTo #[] 1) 1) 2,
                data := #[[], natToBE 8 100, natToBE 8 900] }] }

/- the selection is read through `C04.with_rangeList` and `get_set`, and only the decision per offset is evaluated
   (run by the kernel, the pass walks the 128-slot selection once for every `Bits.get`) -/
example : sampleStore.vacuumPass 500 = [1] := by
  have hs : (({} : Txn).initialize sampleStore).sel.size = 128 := by
    have : sampleStore.fill.size = 64 := by simp only [sampleStore, C04.size_set, size_growTo]; decide
    rw [C04.initialize_size _ {} rfl, Bits.words, this]; rfl
  unfold Store.vacuumPass
  rw [C04.with_rangeList, hs]
  simp [C04.initialize_sem _ {} rfl, sampleStore, get_set, get_growTo, C04.bitOf, Store.findCol, Col.indexBit,
    expireColumn, Col.read, List.filter_filter]
  decide +kernel

end ColumnVerif.Props.C17
