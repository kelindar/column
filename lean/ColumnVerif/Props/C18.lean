import ColumnVerif.Lemmas.Progress
/-!
# C18 — deadlock freedom and bounded termination of the two protocol machines

Over **every** schedule of `Conc/Machine.lean` (commit protocol: writers take one chunk latch at a time,
readers take a read latch) and of `Conc/SnapMachine.lean` (writers + one snapshot thread), from an
initial world (`Init w0`, `Reach … w0 w`):

* `no_deadlock` / `no_deadlock_working`: while some thread still has work, some step is enabled — and
  it is a step of a thread that has work (not just of an unrelated reader that may always enter);
* `blocker_runs`: a thread that waits (its `acquire` is disabled) waits for a thread that is inside a
  latch section of that chunk and *can run*; a waiting thread holds nothing
  (`holds_while_waiting_never`), so the waits-for relation has no chains, let alone cycles
  (`no_wait_chain`);
* `step_measure` / `bounded_runs`: a measure (9 per chunk not yet begun + the own steps left in the
  current section; 7 for the snapshot machine) drops with every step except a reader entering
  (`racquire`, +3) resp. `sOpen chunks` (sets the snapshot thread's share to `chunks.length + 2`, fires
  at most once). Hence in every run the threads of a finite set `ts` take at most
  `9 * Σ_{t ∈ ts} |todo₀ t| + 4 * r` steps, `r` = number of read sections they enter — exactly that many
  when they are all done and ids are drawn inside the latch; for the snapshot machine exactly
  `7 * Σ |todo₀ t| + (chunks.length + 3)` steps are taken when all is done.

"Thread `t` has an enabled step" is `Moves … w t`: some `Step` changes the pc of `t` (each `Step`
constructor changes the pc of exactly its acting thread — `step_actor`).

What this does *not* say: the model's `racquire` only needs `holder c = none`, so an unbounded stream
of readers can keep a writer waiting (the bound is in terms of `r`); Go's `RWMutex` blocks new readers
once a writer waits — that writer preference is not part of the model.
-/
namespace ColumnVerif.Props.C18

section commit
open ColumnVerif.Conc
variable {cfg : ProtoCfg} {merge : Nat → Nat → Nat} {w0 w : W}

/-! ## A. the commit machine -/

/-- thread `t` has something left to do -/
def Working (w : W) (t : Nat) : Prop := w.pc t ≠ .idle ∨ w.todo t ≠ []

/-- the pc is inside a write- or read-latch section of chunk `c`
    (`held/loaded/wroteAcc/wroteA/wroteB/emitted c …` or `rheld/readA/readAB c …`) -/
def InSection (p : PC) (c : Nat) : Prop := wchunk p = some c ∨ rchunk p = some c

theorem inSection_iff (p : PC) (c : Nat) :
    InSection p c ↔ (∃ id, p = .held c id) ∨ (∃ id s, p = .loaded c id s) ∨ (∃ id, p = .wroteAcc c id) ∨
      (∃ id, p = .wroteA c id) ∨ (∃ id, p = .wroteB c id) ∨ (∃ id, p = .emitted c id) ∨
      p = .rheld c ∨ (∃ a, p = .readA c a) ∨ ∃ a b, p = .readAB c a b := by
  cases p <;> simp [InSection, wchunk, rchunk]

theorem readers_in_section (hi : Init w0) (hr : Reach cfg merge w0 w) {t c : Nat}
    (h : t ∈ w.readers c) : rchunk (w.pc t) = some c :=
  (reach_invRM hi hr).rpc t c h

theorem readers_nodup (hi : Init w0) (hr : Reach cfg merge w0 w) (c : Nat) : (w.readers c).Nodup :=
  (reach_invRM hi hr).nodup c

/-- a thread inside a latch section always has an enabled step (in any world, no invariant needed):
    sections are straight-line code -/
theorem section_enabled {t c : Nat} (h : InSection (w.pc t) c) : Moves cfg merge w t := by
  rcases h with h | h
  · exact wsection_moves h
  · exact rsection_moves h

/-- `Moves` for a waiting thread is exactly the guard of `acquire` -/
theorem waiting_moves_iff {t c : Nat} {id : Option Nat} (hp : w.pc t = .pre c id) :
    Moves cfg merge w t ↔ (w.holder c = none ∧ w.readers c = []) :=
  moves_pre_iff hp

/-- a waiting thread holds no latch of any kind -/
theorem holds_while_waiting_never (hi : Init w0) (hr : Reach cfg merge w0 w) {t c : Nat}
    {id : Option Nat} (hp : w.pc t = .pre c id) : ∀ d, w.holder d ≠ some t ∧ t ∉ w.readers d := by
  intro d
  constructor
  · intro hh
    have := (reach_inv hi hr).m.hpc t d hh
    rw [hp] at this; simp [wchunk] at this
  · intro hm
    have := readers_in_section hi hr hm
    rw [hp] at this; simp [rchunk] at this

/-- A.2 — a thread whose `acquire` is not enabled waits for a thread `u` (the holder or a registered
    reader of the chunk) that is inside a section of that chunk and has an enabled step -/
theorem blocker_runs (hi : Init w0) (hr : Reach cfg merge w0 w) {t c : Nat} {id : Option Nat}
    (hp : w.pc t = .pre c id) (hb : ¬ Moves cfg merge w t) :
    ∃ u, u ≠ t ∧ (w.holder c = some u ∨ u ∈ w.readers c) ∧ InSection (w.pc u) c ∧
      Moves cfg merge w u := by
  rw [moves_pre_iff hp] at hb
  have hne : ∀ u, InSection (w.pc u) c → u ≠ t := by
    rintro u hu rfl
    rw [hp] at hu; simp [InSection, wchunk, rchunk] at hu
  cases hh : w.holder c with
  | some u =>
    have hs : InSection (w.pc u) c := Or.inl ((reach_inv hi hr).m.hpc u c hh)
    exact ⟨u, hne u hs, Or.inl rfl, hs, section_enabled hs⟩
  | none =>
    cases hl : w.readers c with
    | nil => exact absurd ⟨hh, hl⟩ hb
    | cons u rest =>
      have hm : u ∈ w.readers c := by rw [hl]; simp
      have hs : InSection (w.pc u) c := Or.inr (readers_in_section hi hr hm)
      exact ⟨u, hne u hs, Or.inr (hl ▸ hm), hs, section_enabled hs⟩

/-- `t` waits for `u`: `t` is about to take the latch of a chunk that `u` holds or reads -/
def WaitsFor (w : W) (t u : Nat) : Prop :=
  ∃ c id, w.pc t = .pre c id ∧ (w.holder c = some u ∨ u ∈ w.readers c)

theorem blocked_iff_waits {t c : Nat} {id : Option Nat} (hp : w.pc t = .pre c id) :
    ¬ Moves cfg merge w t ↔ ∃ u, WaitsFor w t u := by
  rw [moves_pre_iff hp]
  constructor
  · intro hb
    cases hh : w.holder c with
    | some u => exact ⟨u, c, id, hp, Or.inl hh⟩
    | none =>
      cases hl : w.readers c with
      | nil => exact absurd ⟨hh, hl⟩ hb
      | cons u rest => exact ⟨u, c, id, hp, Or.inr (by rw [hl]; simp)⟩
  · rintro ⟨u, c', id', hp', h⟩ ⟨hh, hl⟩
    rw [hp] at hp'; injection hp' with hc _; subst hc
    rcases h with h | h
    · rw [hh] at h; simp at h
    · rw [hl] at h; simp at h

/-- the waits-for relation has no chains: whoever is waited for can run and waits for nobody.
    (So there is no wait cycle, of any length.) -/
theorem no_wait_chain (hi : Init w0) (hr : Reach cfg merge w0 w) {t u : Nat} (h : WaitsFor w t u) :
    Moves cfg merge w u ∧ ∀ v, ¬ WaitsFor w u v := by
  obtain ⟨c, id, hp, hu⟩ := h
  have hs : InSection (w.pc u) c := by
    rcases hu with hu | hu
    · exact Or.inl ((reach_inv hi hr).m.hpc u c hu)
    · exact Or.inr (readers_in_section hi hr hu)
  refine ⟨section_enabled hs, ?_⟩
  rintro v ⟨d, id', hp', _⟩
  rw [hp'] at hs; simp [InSection, wchunk, rchunk] at hs

theorem working_runs_or_waits (hi : Init w0) (hr : Reach cfg merge w0 w) {t : Nat}
    (h : Working w t) :
    Moves cfg merge w t ∨ ∃ u c, u ≠ t ∧ InSection (w.pc u) c ∧ WaitsFor w t u ∧ Moves cfg merge w u := by
  by_cases hm : Moves cfg merge w t
  · exact Or.inl hm
  · right
    cases hp : w.pc t with
    | idle =>
      rcases h with h | h
      · exact absurd hp h
      · exact absurd (idle_moves hp h) hm
    | pre c id =>
      obtain ⟨u, hne, hu, hs, hmu⟩ := blocker_runs hi hr hp hm
      exact ⟨u, c, hne, hs, ⟨c, id, hp, hu⟩, hmu⟩
    | _ => exact absurd (busy_moves (by simp [hp]) (by simp [hp])) hm

/-- A.1 (strong form) — while some thread has work, a thread that has work has an enabled step -/
theorem no_deadlock_working (hi : Init w0) (hr : Reach cfg merge w0 w) (h : ∃ t, Working w t) :
    ∃ u, Working w u ∧ Moves cfg merge w u := by
  obtain ⟨t, ht⟩ := h
  rcases working_runs_or_waits hi hr ht with hm | ⟨u, c, _, hs, _, hmu⟩
  · exact ⟨t, ht, hm⟩
  · refine ⟨u, Or.inl ?_, hmu⟩
    intro hidle
    rw [hidle] at hs; simp [InSection, wchunk, rchunk] at hs

/-- A.1 — in every reachable world where some thread still has work, some step is enabled -/
theorem no_deadlock (hi : Init w0) (hr : Reach cfg merge w0 w) (h : ∃ t, Working w t) :
    ∃ w', Step cfg merge w w' := by
  obtain ⟨u, _, w', hs, _⟩ := no_deadlock_working hi hr h
  exact ⟨w', hs⟩

/-- a world without any enabled step has no work left (contrapositive of `no_deadlock`) -/
theorem stuck_is_done (hi : Init w0) (hr : Reach cfg merge w0 w) (h : ¬ ∃ w', Step cfg merge w w') :
    ∀ t, w.pc t = .idle ∧ w.todo t = [] := by
  intro t
  refine ⟨Classical.byContradiction fun hp => h (no_deadlock hi hr ⟨t, Or.inl hp⟩),
    Classical.byContradiction fun ht => h (no_deadlock hi hr ⟨t, Or.inr ht⟩)⟩

/-! ### A.3 — the termination measure

`rem`, `busy`, `tmu`, `mu`, `RunC` are defined in `Lemmas/Progress.lean`:
`tmu w t = 9 * (|todo t| - busy (pc t)) + rem (pc t)`, `mu ts w = Σ_{t ∈ ts} tmu w t`. -/

/-- `rem`: the number of own steps until the thread is idle again -/
example : rem .idle = 0 ∧ rem (.pre 0 none) = 8 ∧ rem (.held 0 none) = 7 ∧ rem (.held 0 (some 1)) = 6 ∧
    rem (.loaded 0 1 0) = 5 ∧ rem (.wroteAcc 0 1) = 4 ∧ rem (.wroteA 0 1) = 3 ∧ rem (.wroteB 0 1) = 2 ∧
    rem (.emitted 0 1) = 1 ∧ rem (.rheld 0) = 3 ∧ rem (.readA 0 0) = 2 ∧ rem (.readAB 0 0 0) = 1 := by
  decide

/-- a step that moves thread `t` to `rheld c` is `racquire t c` (justifies the label `read` of `RunC`) -/
theorem read_step_is_racquire {w' : W} {t c : Nat} (hs : Step cfg merge w w') (hne : w'.pc t ≠ w.pc t)
    (hc : w'.pc t = .rheld c) : w.pc t = .idle ∧ w.todo t = [] ∧ w.holder c = none ∧
      w'.readers c = t :: w.readers c := by
  cases hs with
  | racquire u d hpc htodo hh =>
    obtain rfl := eq_of_setPc_ne hne
    simp only [setPc_self] at hc; cases hc
    exact ⟨hpc, htodo, hh, if_pos rfl⟩
  | _ =>
    obtain rfl := eq_of_setPc_ne hne
    simp only [setPc_self] at hc; cases hc

/-- every step moves exactly one thread `t`; it leaves the measure of every other thread alone, and
    either is a reader entering (`t` arrives at `rheld`; `tmu` of `t` goes from 0 to 3) or strictly
    decreases the measure of `t` — by exactly 1 if ids are drawn inside the latch -/
theorem step_measure_thread (hi : Init w0) (hr : Reach cfg merge w0 w) {w' : W}
    (hs : Step cfg merge w w') :
    ∃ t, w'.pc t ≠ w.pc t ∧ (∀ u, u ≠ t → w'.pc u = w.pc u ∧ tmu w' u = tmu w u) ∧
      (((∃ c, w'.pc t = .rheld c) ∧ tmu w' t = tmu w t + 3) ∨
       ((∀ c, w'.pc t ≠ .rheld c) ∧ tmu w' t + 1 ≤ tmu w t ∧
          (cfg.idInsideLatch = true → tmu w' t + 1 = tmu w t))) :=
  step_tmu (reach_inv hi hr).todo hs

/-- `step_measure`: for a finite set `ts` of threads, a step of a thread outside `ts` leaves `mu ts`
    alone; a step of a thread in `ts` is a reader entering (`mu` + 3) or strictly decreases `mu` -/
theorem step_measure (hi : Init w0) (hr : Reach cfg merge w0 w) {ts : List Nat} (hts : ts.Nodup)
    {w' : W} (hs : Step cfg merge w w') :
    ∃ t, w'.pc t ≠ w.pc t ∧ (t ∉ ts → mu ts w' = mu ts w) ∧
      (t ∈ ts → ((∃ c, w'.pc t = .rheld c) ∧ mu ts w' = mu ts w + 3) ∨
                ((∀ c, w'.pc t ≠ .rheld c) ∧ mu ts w' < mu ts w)) := by
  obtain ⟨t, hch, hoth, hcase⟩ := step_measure_thread hi hr hs
  have hmu := mu_step (ts := ts) fun u hu => (hoth u hu).2
  refine ⟨t, hch, hmu.1, fun hm => ?_⟩
  have hsum := hmu.2 hts hm
  rcases hcase with ⟨hc, he⟩ | ⟨hc, hle, _⟩
  · exact Or.inl ⟨hc, by omega⟩
  · exact Or.inr ⟨hc, by omega⟩

theorem run_counted (ts : List Nat) (hr : Reach cfg merge w0 w) :
    ∃ n r k, RunC cfg merge ts w0 n r k w :=
  reach_runC ts hr

/-- `bounded_runs`: in a run from an initial world, the threads of `ts` together take at most
    `9 * Σ_{t ∈ ts} |todo₀ t| + 4 * r` steps, where `r` is the number of read sections they enter —
    whatever the other threads do in between (`k` steps). No livelock: a schedule of finitely many
    transactions and `r` reads stops. -/
theorem bounded_runs (hi : Init w0) {ts : List Nat} (hts : ts.Nodup) {n r k : Nat}
    (h : RunC cfg merge ts w0 n r k w) :
    n + mu ts w ≤ 9 * (ts.map (fun t => (w0.todo t).length)).sum + 4 * r := by
  have := (runC_measure hi hts h).1
  rw [mu_init hi] at this
  exact this

theorem bounded_runs' (hi : Init w0) {ts : List Nat} (hts : ts.Nodup) {n r k : Nat}
    (h : RunC cfg merge ts w0 n r k w) :
    n ≤ 9 * (ts.map (fun t => (w0.todo t).length)).sum + 4 * r := by
  have := bounded_runs hi hts h
  omega

/-- with ids drawn inside the latch the count is exact: steps taken + steps left = 9 per chunk + 4
    per read section -/
theorem bounded_runs_exact (hc : cfg.idInsideLatch = true) (hi : Init w0) {ts : List Nat}
    (hts : ts.Nodup) {n r k : Nat} (h : RunC cfg merge ts w0 n r k w) :
    n + mu ts w = 9 * (ts.map (fun t => (w0.todo t).length)).sum + 4 * r := by
  have := (runC_measure hi hts h).2 hc
  rw [mu_init hi] at this
  exact this

/-- per-thread bound, under arbitrary interference: thread `t` takes at most
    `9 * |todo₀ t| + 4 * r` steps, `r` = the read sections it enters -/
theorem thread_steps_bounded (hi : Init w0) {t n r k : Nat} (h : RunC cfg merge [t] w0 n r k w) :
    n ≤ 9 * (w0.todo t).length + 4 * r := by
  have := bounded_runs' hi (by simp) h
  simpa using this

/-- when the threads of `ts` are all done, the measure is 0 (so `bounded_runs_exact` counts the steps
    exactly) -/
theorem mu_done {ts : List Nat} (h : ∀ t ∈ ts, w.pc t = .idle ∧ w.todo t = []) : mu ts w = 0 := by
  unfold mu
  induction ts with
  | nil => rfl
  | cons a l ih =>
    simp only [List.map_cons, List.sum_cons]
    rw [ih (fun t ht => h t (by simp [ht]))]
    have := h a (by simp)
    simp [tmu, this.1, this.2, busy, rem]

end commit

/-! ## B. the snapshot machine -/

namespace Snap
open ColumnVerif.Conc.Snap

variable {w0 w : W}

/-- writer `t` has something left to do -/
def Working (w : W) (t : Nat) : Prop := w.pc t ≠ .idle ∨ w.todo t ≠ []

theorem section_enabled {t c : Nat} (h : InLatch (w.pc t) c) : Moves w t := latch_moves h

/-- `Moves` for a waiting writer is exactly the guard of `acquire`; in particular no writer ever waits
    for the snapshot thread (`sRead` is one atomic step: the read latch is not held across steps) -/
theorem waiting_moves_iff {t c : Nat} (hp : w.pc t = .pre c) : Moves w t ↔ w.holder c = none :=
  moves_pre_iff hp

theorem reading_moves_iff {c : Nat} {rest : List Nat} (hp : w.spc = .opened (c :: rest)) :
    SMoves w ↔ w.holder c = none :=
  smoves_opened_iff hp

/-- a waiting writer holds no latch -/
theorem holds_while_waiting_never (hi : Init w0) (hr : Reach w0 w) {t c : Nat} (hp : w.pc t = .pre c) :
    ∀ d, w.holder d ≠ some t := by
  intro d hh
  have := (reach_inv hi hr).m.hpc t d hh
  rw [hp] at this; cases this

/-- B.2 (writers) — a writer whose `acquire` is not enabled waits for the holder of the chunk, which
    is inside the latch section and has an enabled step -/
theorem blocker_runs (hi : Init w0) (hr : Reach w0 w) {t c : Nat} (hp : w.pc t = .pre c)
    (hb : ¬ Moves w t) :
    ∃ u, u ≠ t ∧ w.holder c = some u ∧ InLatch (w.pc u) c ∧ Moves w u := by
  rw [moves_pre_iff hp] at hb
  cases hh : w.holder c with
  | none => exact absurd hh hb
  | some u =>
    have hs := (reach_inv hi hr).m.hpc u c hh
    refine ⟨u, ?_, rfl, hs, latch_moves hs⟩
    rintro rfl
    rw [hp] at hs; cases hs

/-- B.2 (snapshot thread) — blocked in `sRead c`, it waits for the holder of `c`, which is inside the
    latch section and has an enabled step -/
theorem blocker_runs_snapshot (hi : Init w0) (hr : Reach w0 w) {c : Nat} {rest : List Nat}
    (hp : w.spc = .opened (c :: rest)) (hb : ¬ SMoves w) :
    ∃ u, w.holder c = some u ∧ InLatch (w.pc u) c ∧ Moves w u := by
  rw [smoves_opened_iff hp] at hb
  cases hh : w.holder c with
  | none => exact absurd hh hb
  | some u =>
    have hs := (reach_inv hi hr).m.hpc u c hh
    exact ⟨u, rfl, hs, latch_moves hs⟩

/-- whoever is waited for (a latch holder) waits for nobody: it is not at `pre` -/
theorem no_wait_chain (hi : Init w0) (hr : Reach w0 w) {u c : Nat} (hh : w.holder c = some u) :
    Moves w u ∧ ∀ d, w.pc u ≠ .pre d := by
  have hs := (reach_inv hi hr).m.hpc u c hh
  refine ⟨latch_moves hs, fun d hp => ?_⟩
  rw [hp] at hs; cases hs

theorem working_runs_or_waits (hi : Init w0) (hr : Reach w0 w) {t : Nat} (h : Working w t) :
    Moves w t ∨ ∃ u c, u ≠ t ∧ w.pc t = .pre c ∧ w.holder c = some u ∧ InLatch (w.pc u) c ∧ Moves w u := by
  rcases writer_moves w t with hm | ⟨hp, ht⟩ | ⟨c, hp⟩
  · exact Or.inl hm
  · exact absurd ht (h.resolve_left fun hne => hne hp)
  · by_cases hm : Moves w t
    · exact Or.inl hm
    · obtain ⟨u, hne, hu, hs, hmu⟩ := blocker_runs hi hr hp hm
      exact Or.inr ⟨u, c, hne, hp, hu, hs, hmu⟩

/-- B.1 (writers) — while some writer has work, a writer that has work has an enabled step,
    whatever the snapshot thread does -/
theorem writers_progress (hi : Init w0) (hr : Reach w0 w) (h : ∃ t, Working w t) :
    ∃ u, Working w u ∧ Moves w u := by
  obtain ⟨t, ht⟩ := h
  rcases working_runs_or_waits hi hr ht with hm | ⟨u, c, _, _, _, hs, hmu⟩
  · exact ⟨t, ht, hm⟩
  · refine ⟨u, Or.inl ?_, hmu⟩
    intro hidle
    rw [hidle] at hs; cases hs

/-- B.1 (snapshot thread) — until it has copied the log, the snapshot thread can run or waits for a
    latch holder that can -/
theorem snapshot_progress (hi : Init w0) (hr : Reach w0 w) (h : w.spc ≠ .copied) :
    SMoves w ∨ ∃ c rest u, w.spc = .opened (c :: rest) ∧ w.holder c = some u ∧ InLatch (w.pc u) c ∧
      Moves w u := by
  rcases snapshot_moves w with hm | hc | ⟨c, rest, hp⟩
  · exact Or.inl hm
  · exact absurd hc h
  · by_cases hm : SMoves w
    · exact Or.inl hm
    · obtain ⟨u, hu, hs, hmu⟩ := blocker_runs_snapshot hi hr hp hm
      exact Or.inr ⟨c, rest, u, hp, hu, hs, hmu⟩

/-- B.1 — while a writer has work or the snapshot is not finished, some step is enabled -/
theorem no_deadlock (hi : Init w0) (hr : Reach w0 w) (h : (∃ t, Working w t) ∨ w.spc ≠ .copied) :
    ∃ w', Step w w' := by
  rcases h with h | h
  · obtain ⟨u, _, w', hs, _⟩ := writers_progress hi hr h
    exact ⟨w', hs⟩
  · rcases snapshot_progress hi hr h with ⟨w', hs, _⟩ | ⟨_, _, u, _, _, _, w', hs, _⟩
    · exact ⟨w', hs⟩
    · exact ⟨w', hs⟩

theorem stuck_is_done (hi : Init w0) (hr : Reach w0 w) (h : ¬ ∃ w', Step w w') :
    (∀ t, w.pc t = .idle ∧ w.todo t = []) ∧ w.spc = .copied := by
  refine ⟨fun t => ⟨?_, ?_⟩, ?_⟩
  · exact Classical.byContradiction fun hp => h (no_deadlock hi hr (Or.inl ⟨t, Or.inl hp⟩))
  · exact Classical.byContradiction fun ht => h (no_deadlock hi hr (Or.inl ⟨t, Or.inr ht⟩))
  · exact Classical.byContradiction fun hs => h (no_deadlock hi hr (Or.inr hs))

/-! ### B.3 — the termination measure

`tmu w t = 7 * (|todo t| - busy (pc t)) + rem (pc t)`, `srem` for the snapshot thread,
`mu ts w = Σ_{t ∈ ts} tmu w t + srem w.spc` (all in `Lemmas/Progress.lean`). -/

example : rem .idle = 0 ∧ rem (.pre 0) = 6 ∧ rem (.held 0) = 5 ∧ rem (.drawn 0 1) = 4 ∧
    rem (.applied 0 1) = 3 ∧ rem (.sawRecorder 0 1 true) = 2 ∧ rem (.recorded 0 1) = 1 ∧
    srem .notStarted = 0 ∧ srem (.opened [3, 4]) = 4 ∧ srem (.opened []) = 2 ∧ srem .closed = 1 ∧
    srem .copied = 0 := by
  decide

-- `step_actor` without the guards; it holds of every step, reachable world or not
set_option linter.unusedVariables false in
/-- every step is the step of exactly one writer, whose measure drops by exactly 1 (nothing else
    changes), or a step of the snapshot thread (no writer's measure changes): `sOpen chunks` from
    `notStarted`, or a step that drops `srem` by exactly 1 -/
theorem step_measure (hi : Init w0) (hr : Reach w0 w) {w' : W} (hs : Step w w') :
    (∃ t, w'.pc t ≠ w.pc t ∧ w'.spc = w.spc ∧
        (∀ u, u ≠ t → w'.pc u = w.pc u ∧ tmu w' u = tmu w u) ∧ tmu w' t + 1 = tmu w t) ∨
    ((∀ u, w'.pc u = w.pc u ∧ tmu w' u = tmu w u) ∧ w'.spc ≠ w.spc ∧
        ((w.spc = .notStarted ∧ ∃ chunks, w'.spc = .opened chunks) ∨
         (w.spc ≠ .notStarted ∧ srem w'.spc + 1 = srem w.spc))) := by
  rcases step_actor hs with ⟨t, hspc, hne, hoth, hdec, _⟩ | ⟨hall, hne, hcase, _⟩
  · exact Or.inl ⟨t, hne, hspc, hoth, hdec⟩
  · exact Or.inr ⟨hall, hne, hcase.imp_right fun h => ⟨h.1, h.2.2⟩⟩

theorem run_counted (ts : List Nat) (hr : Reach w0 w) : ∃ n b k, RunC ts w0 n b k w :=
  reach_runC ts hr

/-- `sOpen` fires at most once (`spc` never returns to `notStarted`): the budget `b` is 0 before it
    and `chunks.length + 3` for the one chunk list chosen, ever after -/
theorem snapshot_budget_once (hi : Init w0) {ts : List Nat} {n b k : Nat} (h : RunC ts w0 n b k w) :
    (w.spc = .notStarted ∧ b = 0) ∨
      (w.spc ≠ .notStarted ∧ ∃ chunks : List Nat, b = chunks.length + 3) :=
  runC_budget hi h

/-- `bounded_runs`: in a run from an initial world, the writers of `ts` and the snapshot thread
    together take *exactly* `7 * Σ_{t ∈ ts} |todo₀ t| + b - mu ts w` steps — whatever other writers do
    in between — where `b = chunks.length + 3` once `sOpen chunks` has fired (0 before) -/
theorem bounded_runs (hi : Init w0) {ts : List Nat} (hts : ts.Nodup) {n b k : Nat}
    (h : RunC ts w0 n b k w) :
    n + mu ts w = 7 * (ts.map (fun t => (w0.todo t).length)).sum + b := by
  have := runC_measure hts h
  rw [mu_init hi] at this
  exact this

theorem bounded_runs' (hi : Init w0) {ts : List Nat} (hts : ts.Nodup) {n b k : Nat}
    (h : RunC ts w0 n b k w) :
    n ≤ 7 * (ts.map (fun t => (w0.todo t).length)).sum + b :=
  bounded_runs hi hts h ▸ Nat.le_add_right n _

theorem mu_done {ts : List Nat} (h : ∀ t ∈ ts, w.pc t = .idle ∧ w.todo t = []) (hs : w.spc = .copied) :
    mu ts w = 0 := by
  unfold mu
  rw [hs]
  simp only [srem, Nat.add_zero]
  induction ts with
  | nil => rfl
  | cons a l ih =>
    simp only [List.map_cons, List.sum_cons]
    rw [ih fun t ht => h t (List.mem_cons_of_mem a ht), tmu, (h a List.mem_cons_self).1,
      (h a List.mem_cons_self).2]
    rfl

end Snap

/-! ## C. non-vacuity -/

namespace Demo

section commit
open ColumnVerif.Conc

/-- commit machine: thread 0 holds chunk 0 (`begin`, `acquire`), thread 1 waits for it (`begin`) -/
theorem blocked_by_writer : ∃ w, Reach ProtoCfg.good (· + ·) Demo.w0 w ∧ w.pc 1 = .pre 0 none ∧
    w.holder 0 = some 0 ∧ ¬ Moves ProtoCfg.good (· + ·) w 1 := by
  have r1 := Reach.step (Reach.refl (cfg := ProtoCfg.good) (merge := (· + ·)) (w0 := Demo.w0))
    (Step.begin Demo.w0 0 0 [] rfl rfl rfl)
  have r2 := Reach.step r1 (Step.acquire _ 0 0 none rfl rfl rfl)
  have r3 := Reach.step r2 (Step.begin _ 1 0 [] rfl rfl rfl)
  refine ⟨_, r3, rfl, rfl, ?_⟩
  rw [moves_pre_iff (c := 0) (id := none) rfl]
  intro h; exact absurd h.1 (by decide)

/-- the premises of `blocker_runs` are satisfiable, and its conclusion on that world: the blocker is
    thread 0, and it can run -/
example : ∃ w, Reach ProtoCfg.good (· + ·) Demo.w0 w ∧ w.pc 1 = .pre 0 none ∧
    ¬ Moves ProtoCfg.good (· + ·) w 1 ∧
    ∃ u, u ≠ 1 ∧ (w.holder 0 = some u ∨ u ∈ w.readers 0) ∧ InSection (w.pc u) 0 ∧
      Moves ProtoCfg.good (· + ·) w u := by
  obtain ⟨w, hr, hp, _, hb⟩ := blocked_by_writer
  exact ⟨w, hr, hp, hb, blocker_runs Demo.init_w0 hr hp hb⟩

/-- commit machine: thread 2 reads chunk 0 (`racquire`), thread 0 waits for it (`begin`) -/
theorem blocked_by_reader : ∃ w, Reach ProtoCfg.good (· + ·) Demo.w0 w ∧ w.pc 0 = .pre 0 none ∧
    w.readers 0 = [2] ∧ ¬ Moves ProtoCfg.good (· + ·) w 0 := by
  have r1 := Reach.step (Reach.refl (cfg := ProtoCfg.good) (merge := (· + ·)) (w0 := Demo.w0))
    (Step.racquire Demo.w0 2 0 rfl rfl rfl)
  have r2 := Reach.step r1 (Step.begin _ 0 0 [] rfl rfl rfl)
  refine ⟨_, r2, rfl, rfl, ?_⟩
  rw [moves_pre_iff (c := 0) (id := none) rfl]
  intro h; exact absurd h.2 (by decide)

example : ∃ w, Reach ProtoCfg.good (· + ·) Demo.w0 w ∧ WaitsFor w 0 2 ∧
    Moves ProtoCfg.good (· + ·) w 2 := by
  obtain ⟨w, hr, hp, hrd, _⟩ := blocked_by_reader
  have hw : WaitsFor w 0 2 := ⟨0, none, hp, Or.inr (by rw [hrd]; simp)⟩
  exact ⟨w, hr, hw, (no_wait_chain Demo.init_w0 hr hw).1⟩

/-- the bound of `bounded_runs` is attained: thread 0 commits chunk 0 (9 steps), thread 2 reads it
    (4 steps, 1 read section): 13 counted steps = 9 * 1 + 4 * 1, and nothing is left -/
theorem tight_run : ∃ w, RunC ProtoCfg.good (· + ·) [0, 2] Demo.w0 13 1 0 w ∧ mu [0, 2] w = 0 ∧
    9 * ([0, 2].map (fun t => (Demo.w0.todo t).length)).sum + 4 * 1 = 13 := by
  exact ⟨_, RunC.refl
    |>.work (.begin Demo.w0 0 0 [] rfl rfl rfl) (t := 0) (by decide) (by decide) nofun
    |>.work (.acquire _ 0 0 none rfl rfl rfl) (t := 0) (by decide) (by decide) nofun
    |>.work (.draw _ 0 0 rfl) (t := 0) (by decide) (by decide) nofun
    |>.work (.load _ 0 0 1 rfl) (t := 0) (by decide) (by decide) nofun
    |>.work (.storeAcc _ 0 0 1 0 rfl) (t := 0) (by decide) (by decide) nofun
    |>.work (.writeA _ 0 0 1 rfl) (t := 0) (by decide) (by decide) nofun
    |>.work (.writeB _ 0 0 1 rfl) (t := 0) (by decide) (by decide) nofun
    |>.work (.emit _ 0 0 1 rfl) (t := 0) (by decide) (by decide) nofun
    |>.work (.release _ 0 0 1 rfl) (t := 0) (by decide) (by decide) nofun
    |>.read (.racquire _ 2 0 rfl rfl rfl) (t := 2) (c := 0) (by decide) (by decide) rfl
    |>.work (.rreadA _ 2 0 rfl) (t := 2) (by decide) (by decide) nofun
    |>.work (.rreadB _ 2 0 1 rfl) (t := 2) (by decide) (by decide) nofun
    |>.work (.rrelease _ 2 0 1 1 rfl) (t := 2) (by decide) (by decide) nofun, by decide, by decide⟩

example : ∃ w n r k, RunC ProtoCfg.good (· + ·) [0, 2] Demo.w0 n r k w ∧
    n + mu [0, 2] w = 9 * ([0, 2].map (fun t => (Demo.w0.todo t).length)).sum + 4 * r := by
  obtain ⟨w, h, _⟩ := tight_run
  exact ⟨w, _, _, _, h, bounded_runs_exact rfl Demo.init_w0 (by decide) h⟩

end commit

namespace Snap
open ColumnVerif.Conc.Snap

/-- writers 0 and 1 each commit chunk 0 -/
def w0 : W where
  next := 0
  holder := fun _ => none
  lastId := fun _ => 0
  content := fun _ => []
  recorder := false
  log := []
  pc := fun _ => .idle
  todo := fun t => if t < 2 then [0] else []
  spc := .notStarted
  snapRead := fun _ => none
  snapLog := []
  doneBeforeOpen := fun _ => []
  contentAtCopy := fun _ => []

theorem init_w0 : Init w0 :=
  ⟨fun _ => rfl, fun _ => rfl, rfl, rfl, rfl, rfl, fun _ => rfl,
    fun _ => ⟨by simp [w0], rfl, by simp [w0], by simp [w0]⟩⟩

/-- snapshot machine: writer 0 holds chunk 0, writer 1 waits for it, and the snapshot thread —
    opened with `[0]` — waits for it as well -/
theorem blocked : ∃ w, Reach w0 w ∧ w.pc 1 = .pre 0 ∧ w.spc = .opened [0] ∧ w.holder 0 = some 0 ∧
    ¬ Moves w 1 ∧ ¬ SMoves w := by
  have r1 := Reach.step (Reach.refl (w0 := w0)) (Step.begin w0 0 0 [] rfl rfl)
  have r2 := Reach.step r1 (Step.acquire _ 0 0 rfl rfl)
  have r3 := Reach.step r2 (Step.begin _ 1 0 [] rfl rfl)
  have r4 := Reach.step r3 (Step.sOpen _ [0] rfl)
  refine ⟨_, r4, rfl, rfl, rfl, ?_, ?_⟩
  · rw [moves_pre_iff (c := 0) rfl]; decide
  · rw [smoves_opened_iff (c := 0) (rest := []) rfl]; decide

/-- the premises of both `blocker_runs` theorems are satisfiable, and their conclusions there -/
example : ∃ w, Reach w0 w ∧ w.pc 1 = .pre 0 ∧ ¬ Moves w 1 ∧ w.spc = .opened [0] ∧ ¬ SMoves w ∧
    (∃ u, u ≠ 1 ∧ w.holder 0 = some u ∧ InLatch (w.pc u) 0 ∧ Moves w u) ∧
    (∃ u, w.holder 0 = some u ∧ InLatch (w.pc u) 0 ∧ Moves w u) := by
  obtain ⟨w, hr, hp, hs, _, hb, hsb⟩ := blocked
  exact ⟨w, hr, hp, hb, hs, hsb, C18.Snap.blocker_runs init_w0 hr hp hb,
    C18.Snap.blocker_runs_snapshot init_w0 hr hs hsb⟩

/-- the count of `bounded_runs` on a complete run: writer 0 commits chunk 0 (7 steps), the snapshot
    thread runs `sOpen [0]`, `sRead 0`, `sClose`, `sCopy` (budget 1 + 3): 11 = 7 * 1 + 4 steps -/
theorem tight_run : ∃ w, RunC [0] w0 11 4 0 w ∧ mu [0] w = 0 ∧
    7 * ([0].map (fun t => (w0.todo t).length)).sum + 4 = 11 := by
  have r0 : RunC [0] w0 0 0 0 w0 := RunC.refl
  have r1 := RunC.writer r0 (Step.begin w0 0 0 [] rfl rfl) (t := 0) (by decide) (by decide)
  have r2 := RunC.writer r1 (Step.acquire _ 0 0 rfl rfl) (t := 0) (by decide) (by decide)
  have r3 := RunC.writer r2 (Step.draw _ 0 0 rfl) (t := 0) (by decide) (by decide)
  have r4 := RunC.writer r3 (Step.apply _ 0 0 1 rfl) (t := 0) (by decide) (by decide)
  have r5 := RunC.writer r4 (Step.loadRecorder _ 0 0 1 rfl) (t := 0) (by decide) (by decide)
  have r6 := RunC.writer r5 (Step.skipLog _ 0 0 1 rfl) (t := 0) (by decide) (by decide)
  have r7 := RunC.writer r6 (Step.release _ 0 0 1 rfl) (t := 0) (by decide) (by decide)
  have r8 := RunC.sopen r7 (Step.sOpen _ [0] rfl) (chunks := [0]) rfl rfl
  have r9 := RunC.snap r8 (Step.sRead _ 0 [] rfl rfl) (by decide) (by decide)
  have r10 := RunC.snap r9 (Step.sClose _ rfl) (by decide) (by decide)
  have r11 := RunC.snap r10 (Step.sCopy _ rfl) (by decide) (by decide)
  exact ⟨_, r11, by decide, by decide⟩

example : ∃ w n b k, RunC [0] w0 n b k w ∧
    n + mu [0] w = 7 * ([0].map (fun t => (w0.todo t).length)).sum + b := by
  obtain ⟨w, h, _⟩ := tight_run
  exact ⟨w, _, _, _, h, C18.Snap.bounded_runs init_w0 (by decide) h⟩

end Snap
end Demo


#print axioms no_deadlock
#print axioms no_deadlock_working
#print axioms blocker_runs
#print axioms holds_while_waiting_never
#print axioms no_wait_chain
#print axioms step_measure
#print axioms bounded_runs
#print axioms bounded_runs_exact
#print axioms thread_steps_bounded
#print axioms Snap.no_deadlock
#print axioms Snap.writers_progress
#print axioms Snap.snapshot_progress
#print axioms Snap.blocker_runs
#print axioms Snap.blocker_runs_snapshot
#print axioms Snap.holds_while_waiting_never
#print axioms Snap.step_measure
#print axioms Snap.snapshot_budget_once
#print axioms Snap.bounded_runs
#print axioms Demo.tight_run
#print axioms Demo.Snap.tight_run

end ColumnVerif.Props.C18
