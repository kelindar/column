import ColumnVerif.Props.C04
import ColumnVerif.Lemmas.Chain
/-!
# C04 (chains) — a whole filter chain computes the set-algebra expression it spells

`Txn.chain s t ops` is what the driver runs for every `select`. Here every operator gets a
denotation on predicates over offsets (`FilterOp.denote`), written with `bitOf`, `findCol`,
`Col.read` and the presence bits only, and the selection after a chain of any length is the
left-to-right composition of the denotations.

Two facts of the code shape the statements:

* `Union` looks at the *length* of the selection (offsets beyond it are never added), and `Clear()`
  — reached by `With`/`WithUnion(single)` of a missing column, by a typed value filter on a missing
  column or a column of the wrong kind, by `WithValue` on a missing column — truncates the selection to
  length `0`. After that nothing can be selected any more, not even by a later `Union` (finding D22).
  So the meaning of a selection is a pair `Den = (size, mem)`; `FilterOp.step` is the meaning of one
  operator on such pairs (`FilterOp.clears` says when the size drops to `0`), and `chain_sem` gives the
  closed form: `false` everywhere if some operator clears, else the plain fold of `denote` over
  predicates with the universe `i < N` fixed.
* a *first* `Union`/`WithUnion` (transaction not yet set up) intersects its first name with the live
  rows instead of uniting (`union_fresh_sem`): `FilterOp.stepFirst`. Every other first operator
  initializes (selection := live rows) and then behaves as on a set-up transaction.
-/

namespace ColumnVerif.Store
open ColumnVerif.Bits ColumnVerif.Codec ColumnVerif.Props.C04

/-- the row test of `WithInt/WithUint/WithFloat/WithString` on column `col`: nothing passes when the
    column is missing or of the wrong kind; rows in chunks the column does not have pass untouched;
    otherwise the row must hold a value satisfying the predicate -/
def predBit (s : Store) (col : String) (kindOk : Kind → Bool) (pred : Bytes → Bool) (i : Nat) : Bool :=
  match s.findCol col with
  | none => false
  | some c =>
    kindOk c.kind &&
      (if i / 16384 < c.nchunks then Bits.get c.bits i && pred ((c.read i).getD []) else true)

/-- the row test of `WithValue` -/
def valueBit (s : Store) (col : String) (pred : Bytes → Bool) (i : Nat) : Bool :=
  match s.findCol col with
  | none => false
  | some c =>
    match c.read i with
    | some v => pred v
    | none => false

/-- set-algebra meaning of one operator on a set-up transaction: `X` is the selection before, as a
    predicate on offsets, `N` the length of the selection (the universe `Union` can add from) -/
def FilterOp.denote (s : Store) (op : FilterOp) (N : Nat) (X : Nat → Bool) (i : Nat) : Bool :=
  match op with
  | .with_ ns => X i && ns.all (fun n => bitOf s n i)
  | .without ns => X i && !(ns.any (fun n => bitOf s n i))
  | .union ns => decide (i < N) && (X i || ns.any (fun n => bitOf s n i))
  | .withUnion ns => X i && ns.any (fun n => bitOf s n i)
  | .withNum col pred => X i && predBit s col Kind.isNumeric pred i
  | .withString col pred => X i && predBit s col Kind.isTextual pred i
  | .withValue col pred => X i && valueBit s col pred i

/-- meaning of a selection: its length and its membership predicate -/
structure Den where
  size : Nat
  mem : Nat → Bool

/-- the selection after `Clear()` -/
def Den.empty : Den := ⟨0, fun _ => false⟩

/-- meaning of one operator on a set-up transaction -/
def FilterOp.step (s : Store) (d : Den) (op : FilterOp) : Den :=
  ⟨if op.clears s then 0 else d.size, op.denote s d.size d.mem⟩

/-- meaning of a chain on a set-up transaction -/
def chainDen (s : Store) (d : Den) (ops : List FilterOp) : Den := ops.foldl (FilterOp.step s) d

/-- first-call `Union(names…)`: the first name intersects (a missing first name keeps everything),
    the others unite; no name at all keeps everything -/
def unionFirst (s : Store) (ns : List String) (N : Nat) (X : Nat → Bool) (i : Nat) : Bool :=
  match ns with
  | [] => X i
  | n :: rest =>
    decide (i < N) &&
      ((X i && (match s.findCol n with
                | some c => c.indexBit i
                | none => true))
        || rest.any (fun n => bitOf s n i))

/-- meaning of the first operator of a chain on a fresh transaction; `d` is the meaning of the
    initialized selection (the live rows) -/
def FilterOp.stepFirst (s : Store) (d : Den) : FilterOp → Den
  | .union ns => ⟨d.size, unionFirst s ns d.size d.mem⟩
  | .withUnion ns => ⟨d.size, unionFirst s ns d.size d.mem⟩
  | op => op.step s d

/-- the initialized selection: the live rows, at least `Capacity/64 + 1` words long -/
def liveDen (s : Store) : Den :=
  ⟨max s.fill.size (64 * max (s.cap / 64 + 1) (Bits.words s.fill)), fun i => Bits.get s.fill i⟩

end ColumnVerif.Store

namespace ColumnVerif.Props.C04chain
open ColumnVerif.Bits ColumnVerif.Codec ColumnVerif.Store ColumnVerif.Props.C04

/-- the meaning of the selection a transaction holds -/
def denOf (t : Txn) : Den := ⟨t.sel.size, sel t⟩

theorem Den.ext' {a b : Den} (h1 : a.size = b.size) (h2 : ∀ i, a.mem i = b.mem i) : a = b := by
  cases a; cases b
  simp only [Den.mk.injEq]
  exact ⟨h1, funext h2⟩

/-- typed value filters (`WithInt/Uint/Float/String`), first call or not: a missing column or one of the
    wrong kind runs into `Clear()`; otherwise the chunk loop applies the row test of `predBit` -/
theorem withPred_den (s : Store) (t : Txn) (col : String) (kindOk : Kind → Bool) (pred : Bytes → Bool) (i : Nat) :
    sel (t.withPred s col kindOk pred) i = (sel (t.initialize s) i && predBit s col kindOk pred i) := by
  unfold Txn.withPred predBit
  cases hc : s.findCol col with
  | none => simp [sel, Bits.get]
  | some c =>
    cases hk : kindOk c.kind with
    | false => simp [hk, sel, Bits.get]
    | true =>
      simp only [hk, Bool.not_true, Bool.false_eq_true, if_false, sel, Bool.true_and]
      rw [get_mapChunks_of_false _ _ (fun _ => by split <;> rfl)]
      split
      · rw [Bool.and_assoc]
      · rw [Bool.and_true]

theorem withValue_den (s : Store) (t : Txn) (col : String) (pred : Bytes → Bool) (i : Nat) :
    sel (t.withValue s col pred) i = (sel (t.initialize s) i && valueBit s col pred i) := by
  cases hc : s.findCol col with
  | none => unfold Txn.withValue; simp [hc, valueBit, sel, Bits.get]
  | some c => rw [withValue_sem s t col pred c hc]; simp only [valueBit, hc]; cases c.read i <;> rfl

/-- every operator, applied to a set-up transaction, acts on the selection as its denotation -/
theorem applyOp_sem (s : Store) (t : Txn) (h : t.setup = true) (op : FilterOp) (i : Nat) :
    sel (t.applyOp s op) i = op.denote s t.sel.size (sel t) i := by
  have hi := initialize_of_setup s t h
  cases op <;> simp only [Txn.applyOp, FilterOp.denote]
  case with_ ns => rw [with_sem, hi]
  case without ns => rw [without_sem, hi, List.not_any_eq_all_not]
  case union ns => exact union_sem s t h ns i
  case withUnion ns =>
    by_cases h1 : ns.length = 1
    · match ns, h1 with
      | [n], _ => rw [withUnion_single_sem s t h]; simp
    · exact withUnion_sem s t h ns h1 i
  case withNum col pred | withString col pred => rw [withPred_den, hi]
  case withValue col pred => rw [withValue_den, hi]

/-- … and leaves the transaction set up (`applyOp_setup`), with a selection of the same length, or
    of length `0` when it cleared (`applyOp_size`) -/
theorem applyOp_den (s : Store) (t : Txn) (h : t.setup = true) (op : FilterOp) :
    denOf (t.applyOp s op) = op.step s (denOf t) :=
  Den.ext' (applyOp_size s t h op) (applyOp_sem s t h op)

/-- compositional form: the meaning of the selection after a chain is the fold of the operators'
    meanings -/
theorem chain_den (s : Store) (t : Txn) (h : t.setup = true) (ops : List FilterOp) :
    denOf (t.chain s ops) = chainDen s (denOf t) ops := by
  unfold Txn.chain chainDen
  induction ops generalizing t with
  | nil => rfl
  | cons op rest ih =>
    simp only [List.foldl_cons]
    rw [ih _ (applyOp_setup s t op), applyOp_den s t h op]

theorem chain_mem (s : Store) (t : Txn) (h : t.setup = true) (ops : List FilterOp) (i : Nat) :
    sel (t.chain s ops) i = (chainDen s (denOf t) ops).mem i :=
  congrArg (fun d => d.mem i) (chain_den s t h ops)

theorem bitOf_of_missing (s : Store) (n : String) (i : Nat) (h : (s.findCol n).isNone = true) :
    bitOf s n i = false := by
  unfold bitOf
  cases hf : s.findCol n with
  | none => rfl
  | some c => rw [hf] at h; cases h

theorem denote_of_clears (s : Store) (op : FilterOp) (hc : op.clears s = true) (N : Nat) (X : Nat → Bool)
    (i : Nat) : op.denote s N X i = false := by
  cases op with
  | with_ ns =>
    obtain ⟨n, hn, hm⟩ := List.any_eq_true.1 hc
    have : ns.all (fun n => bitOf s n i) = false :=
      List.all_eq_false.2 ⟨n, hn, by rw [bitOf_of_missing s n i hm]; decide⟩
    simp only [FilterOp.denote, this, Bool.and_false]
  | without ns | union ns => cases hc
  | withUnion ns =>
    match ns, hc with
    | [n], hc => simp only [FilterOp.denote, List.any_cons, List.any_nil, bitOf_of_missing s n i hc]; simp
    | [], hc | _ :: _ :: _, hc => cases hc
  | withNum col pred | withString col pred =>
    cases hf : s.findCol col with
    | none => simp [FilterOp.denote, predBit, hf]
    | some c => simp [FilterOp.clears, hf] at hc; simp [FilterOp.denote, predBit, hf, hc]
  | withValue col pred =>
    cases hf : s.findCol col with
    | none => simp [FilterOp.denote, valueBit, hf]
    | some c => simp [FilterOp.clears, hf] at hc

theorem denote_empty (s : Store) (op : FilterOp) (i : Nat) : op.denote s 0 (fun _ => false) i = false := by
  cases op <;> simp [FilterOp.denote]

/-- a clearing operator empties the selection … -/
theorem step_of_clears (s : Store) (d : Den) (op : FilterOp) (hc : op.clears s = true) :
    op.step s d = Den.empty := by
  apply Den.ext'
  · simp [FilterOp.step, hc, Den.empty]
  · intro i; exact denote_of_clears s op hc d.size d.mem i

/-- … and the empty selection stays empty under every operator, `Union` included -/
theorem step_empty (s : Store) (op : FilterOp) : op.step s Den.empty = Den.empty := by
  apply Den.ext'
  · simp only [FilterOp.step, Den.empty]; split <;> rfl
  · intro i; exact denote_empty s op i

theorem chainDen_empty (s : Store) (ops : List FilterOp) : chainDen s Den.empty ops = Den.empty :=
  foldl_invariant (· = Den.empty) _ ops _ rfl fun _ op _ h => h ▸ step_empty s op

/-- closed form of a chain's meaning: empty once some operator clears, else the fold of the denotations over a
    fixed universe -/
theorem chainDen_eq (s : Store) (d : Den) (ops : List FilterOp) :
    chainDen s d ops = if ops.any (fun op => op.clears s) then Den.empty
      else ⟨d.size, ops.foldl (fun X op => op.denote s d.size X) d.mem⟩ := by
  induction ops generalizing d with
  | nil => rfl
  | cons op rest ih =>
    show chainDen s (op.step s d) rest = _
    rw [List.any_cons]
    cases h1 : op.clears s with
    | true => rw [step_of_clears s d op h1, chainDen_empty]; rfl
    | false => rw [ih]; simp only [FilterOp.step, h1]; rfl

theorem chainDen_mem (s : Store) (d : Den) (ops : List FilterOp) (i : Nat) :
    (chainDen s d ops).mem i =
      (!ops.any (fun op => op.clears s) && ops.foldl (fun X op => op.denote s d.size X) d.mem i) := by
  rw [chainDen_eq]; cases ops.any (fun op => op.clears s) <;> rfl

theorem chainDen_size (s : Store) (d : Den) (ops : List FilterOp) :
    (chainDen s d ops).size = if ops.any (fun op => op.clears s) then 0 else d.size := by
  rw [chainDen_eq]; cases ops.any (fun op => op.clears s) <;> rfl

/-- **C04 for chains of any length** (transaction already set up). Offset `i` is selected after
    `ops` iff no operator of the chain ran into `Clear()` and `i` satisfies the set-algebra
    expression the chain spells — the left fold of the operators' denotations, starting from the
    selection before the chain, with `Union` restricted to the universe `i < t.sel.size`. -/
theorem chain_sem (s : Store) (t : Txn) (h : t.setup = true) (ops : List FilterOp) (i : Nat) :
    sel (t.chain s ops) i =
      (!ops.any (fun op => op.clears s) &&
        ops.foldl (fun X op => op.denote s t.sel.size X) (sel t) i) := by
  rw [chain_mem s t h ops i, chainDen_mem]; rfl

/-- no operator clears (all named columns of `With`, typed filters, `WithValue` exist with the right
    kind): the plain fold -/
theorem chain_sem_of_not_clears (s : Store) (t : Txn) (h : t.setup = true) (ops : List FilterOp)
    (hc : ∀ op ∈ ops, op.clears s = false) (i : Nat) :
    sel (t.chain s ops) i = ops.foldl (fun X op => op.denote s t.sel.size X) (sel t) i := by
  rw [chain_sem s t h, List.any_eq_false.2 fun op hop => by simp [hc op hop]]; rfl

/-- some operator clears: nothing is selected, whatever follows (D22) -/
theorem chain_sem_of_clears (s : Store) (t : Txn) (h : t.setup = true) (ops : List FilterOp)
    (op : FilterOp) (hop : op ∈ ops) (hc : op.clears s = true) (i : Nat) :
    sel (t.chain s ops) i = false := by
  rw [chain_sem s t h, List.any_eq_true.2 ⟨op, hop, hc⟩]; rfl

theorem chain_sel_size (s : Store) (t : Txn) (h : t.setup = true) (ops : List FilterOp) :
    (t.chain s ops).sel.size = if ops.any (fun op => op.clears s) then 0 else t.sel.size :=
  (congrArg Den.size (chain_den s t h ops)).trans (chainDen_size s (denOf t) ops)

theorem denOf_initialize (s : Store) (t : Txn) (h : t.setup = false) : denOf (t.initialize s) = liveDen s :=
  Den.ext' (initialize_size s t h) (initialize_sem s t h)

/-- first-call `Union(n, rest…)`: the first name intersects with the live rows, the others are united. If the
    first name is missing the selection stays "all live rows" — the behaviour of the code, finding D22(a) -/
theorem union_fresh_sem (s : Store) (t : Txn) (h : t.setup = false) (ns : List String) (i : Nat) :
    sel (t.union s ns) i = unionFirst s ns (t.initialize s).sel.size (sel (t.initialize s)) i := by
  cases ns with
  | nil => unfold Txn.union; rfl
  | cons n rest =>
    unfold Txn.union
    simp only [h, Bool.not_false, List.foldl_cons, unionFirst]
    cases hc : s.findCol n <;> simp only [unionStep, hc, if_true] <;> rw [union_loop_sem]
    · simp
    · simp only [sel, get_mapChunks, size_mapChunks]
      by_cases hi : i < (t.initialize s).sel.size <;> simp [hi]

theorem applyOp_den_fresh (s : Store) (t : Txn) (h : t.setup = false) (op : FilterOp) :
    denOf (t.applyOp s op) = op.stepFirst s (denOf (t.initialize s)) := by
  have hu : ∀ ns, denOf (t.union s ns) = (FilterOp.union ns).stepFirst s (denOf (t.initialize s)) :=
    fun ns => Den.ext' (union_spec s t ns).2 (union_fresh_sem s t h ns)
  cases op with
  | union ns => exact hu ns
  | withUnion ns => exact (congrArg denOf (withUnion_fresh s t h ns)).trans (hu ns)
  | _ => rw [applyOp_initialize s t _ rfl, applyOp_den s _ (initialize_setup s t)]; rfl

/-- chain on a fresh transaction, any first operator: the first operator acts by `stepFirst` on the
    live rows, the others by `step` -/
theorem chain_den_fresh (s : Store) (t : Txn) (h : t.setup = false) (op : FilterOp) (rest : List FilterOp) :
    denOf (t.chain s (op :: rest)) = chainDen s (op.stepFirst s (liveDen s)) rest := by
  show denOf ((t.applyOp s op).chain s rest) = _
  rw [chain_den s _ (applyOp_setup s t op), applyOp_den_fresh s t h, denOf_initialize s t h]

theorem chain_fresh_eq (s : Store) (t : Txn) (op : FilterOp) (rest : List FilterOp) (hop : op.isUnion = false) :
    t.chain s (op :: rest) = (t.initialize s).chain s (op :: rest) := by
  show (t.applyOp s op).chain s rest = ((t.initialize s).applyOp s op).chain s rest
  rw [applyOp_initialize s t op hop]

/-- **C04 for chains from a fresh transaction** whose first operator is not `Union`/`WithUnion`:
    the fold of the denotations over the live rows (`Bits.get s.fill`), universe = length of the
    initialized selection. -/
theorem chain_sem_fresh (s : Store) (t : Txn) (h : t.setup = false) (op : FilterOp) (rest : List FilterOp)
    (hop : op.isUnion = false) (i : Nat) :
    sel (t.chain s (op :: rest)) i =
      (!(op :: rest).any (fun op => op.clears s) &&
        (op :: rest).foldl (fun X op => op.denote s (liveDen s).size X) (fun i => Bits.get s.fill i) i) := by
  rw [chain_fresh_eq s t op rest hop, chain_mem s _ (initialize_setup s t), denOf_initialize s t h, chainDen_mem]
  rfl

/-- first-call `Union(names…)` followed by any chain (D22(a) is inside `unionFirst`) -/
theorem chain_sem_fresh_union (s : Store) (t : Txn) (h : t.setup = false) (ns : List String)
    (rest : List FilterOp) (i : Nat) :
    sel (t.chain s (.union ns :: rest)) i =
      (!rest.any (fun op => op.clears s) &&
        rest.foldl (fun X op => op.denote s (liveDen s).size X)
          (unionFirst s ns (liveDen s).size (fun i => Bits.get s.fill i)) i) := by
  exact (congrArg (fun d => d.mem i) (chain_den_fresh s t h (.union ns) rest)).trans (chainDen_mem ..)

theorem rangeList_den (s : Store) (t : Txn) (h : t.setup = true) :
    (t.rangeList s).2 = (List.range (denOf t).size).filter (denOf t).mem :=
  rangeList_eq_filter s t h _ (Nat.le_refl _)

/-- `Range` after a chain visits exactly the offsets below the selection's length that satisfy the
    denoted predicate, ascending, each once (the list is the filtered `List.range`) -/
theorem chain_range (s : Store) (t : Txn) (h : t.setup = true) (ops : List FilterOp) :
    ((t.chain s ops).rangeList s).2 =
      (List.range (chainDen s (denOf t) ops).size).filter (chainDen s (denOf t) ops).mem := by
  rw [rangeList_den s _ (chain_setup s t ops h), chain_den s t h]

/-- membership form: the side condition `i < size` is implied -/
theorem chain_range_mem (s : Store) (t : Txn) (h : t.setup = true) (ops : List FilterOp) (i : Nat) :
    i ∈ ((t.chain s ops).rangeList s).2 ↔
      (!ops.any (fun op => op.clears s) &&
        ops.foldl (fun X op => op.denote s t.sel.size X) (sel t) i) = true := by
  rw [rangeList_sem, initialize_of_setup s _ (chain_setup s t ops h), chain_sem s t h]

theorem chain_range_nodup (s : Store) (t : Txn) (ops : List FilterOp) :
    ((t.chain s ops).rangeList s).2.Nodup :=
  (range_sorted _).imp Nat.ne_of_lt

/-- `Count` after a chain = number of offsets below the selection's length satisfying the denoted
    predicate -/
theorem chain_count (s : Store) (t : Txn) (h : t.setup = true) (ops : List FilterOp) :
    ((t.chain s ops).count s).2 =
      (List.range (chainDen s (denOf t) ops).size).countP (chainDen s (denOf t) ops).mem := by
  rw [txn_count_sem, chain_range s t h, List.countP_eq_length_filter]

/-- closed forms when no operator clears -/
theorem chain_range_of_not_clears (s : Store) (t : Txn) (h : t.setup = true) (ops : List FilterOp)
    (hc : ops.any (fun op => op.clears s) = false) :
    ((t.chain s ops).rangeList s).2 =
      (List.range t.sel.size).filter (ops.foldl (fun X op => op.denote s t.sel.size X) (sel t)) := by
  rw [chain_range s t h, chainDen_eq, hc]; rfl

theorem chain_count_of_not_clears (s : Store) (t : Txn) (h : t.setup = true) (ops : List FilterOp)
    (hc : ops.any (fun op => op.clears s) = false) :
    ((t.chain s ops).count s).2 =
      (List.range t.sel.size).countP (ops.foldl (fun X op => op.denote s t.sel.size X) (sel t)) := by
  rw [chain_count s t h, chainDen_eq, hc]; rfl

/-- … and when one does: `Range` visits nothing, `Count` is `0` -/
theorem chain_range_of_clears (s : Store) (t : Txn) (h : t.setup = true) (ops : List FilterOp)
    (hc : ops.any (fun op => op.clears s) = true) :
    ((t.chain s ops).rangeList s).2 = [] ∧ ((t.chain s ops).count s).2 = 0 := by
  rw [chain_range s t h, chain_count s t h, chainDen_eq, hc]
  exact ⟨rfl, rfl⟩

/-- fresh transaction, chain not starting with `Union`/`WithUnion` (the empty chain included):
    `Range`/`Count` initialize if nothing did, so the result is that of the chain run over the live rows -/
theorem chain_range_fresh (s : Store) (t : Txn) (h : t.setup = false) (ops : List FilterOp)
    (hop : ∀ op ∈ ops.head?, op.isUnion = false) :
    ((t.chain s ops).rangeList s).2 =
      (List.range (chainDen s (liveDen s) ops).size).filter (chainDen s (liveDen s) ops).mem := by
  rw [← denOf_initialize s t h, ← chain_range s _ (initialize_setup s t)]
  cases ops with
  | nil =>
    show (t.rangeList s).2 = ((t.initialize s).rangeList s).2
    unfold Txn.rangeList; rw [initialize_initialize]
  | cons op rest => rw [chain_fresh_eq s t op rest (hop op (by simp))]

theorem chain_count_fresh (s : Store) (t : Txn) (h : t.setup = false) (ops : List FilterOp)
    (hop : ∀ op ∈ ops.head?, op.isUnion = false) :
    ((t.chain s ops).count s).2 =
      (List.range (chainDen s (liveDen s) ops).size).countP (chainDen s (liveDen s) ops).mem := by
  rw [txn_count_sem, chain_range_fresh s t h ops hop, List.countP_eq_length_filter]

/-! ### non-vacuity: a two-column store, chains of three operators; the set-algebra side is evaluated, the code
side follows from it by the theorems -/

def bitsOf (l : List Nat) : Bitmap := l.foldl Bits.set #[]

theorem get_foldl_set (l : List Nat) (b : Bitmap) (i : Nat) :
    Bits.get (l.foldl Bits.set b) i = (l.contains i || Bits.get b i) := by
  induction l generalizing b with
  | nil => simp
  | cons x l ih => simp [ih, get_set, Bool.or_left_comm, Bool.or_assoc]

theorem size_foldl_set (l : List Nat) (b : Bitmap) :
    (l.foldl Bits.set b).size = l.foldl (fun n i => max n (64 * (i / 64 + 1))) b.size := by
  induction l generalizing b with
  | nil => rfl
  | cons x l ih => rw [List.foldl_cons, ih, size_set]; rfl

theorem get_bitsOf (l : List Nat) (i : Nat) : Bits.get (bitsOf l) i = l.contains i := by
  rw [bitsOf, get_foldl_set]; simp [Bits.get]

/-- live rows 1,2,3,5,6; bool column `a` = {1,2,3}; numeric column `v` with values at 2,3,5,6 -/
def sampleStore : Store :=
  { cap := 0, fill := bitsOf [1, 2, 3, 5, 6],
    cols := #[
      { name := "a", kind := .bool, bits := bitsOf [1, 2, 3] },
      { name := "v", kind := .num .i16, nchunks := 1, bits := bitsOf [2, 3, 5, 6],
        data := #[[], [], [0, 7], [0, 9], [], [0, 7], [0, 7]] }] }

/-- `With("a").WithInt("v", = 7).Union("v")` -/
def sampleOps : List FilterOp := [.with_ ["a"], .withNum "v" (fun b => b == [0, 7]), .union ["v"]]
/-- the typed filter has the wrong kind: `Clear()`, the later `Union` adds nothing -/
def sampleOpsCleared : List FilterOp := [.with_ ["a"], .withString "v" (fun _ => true), .union ["a"]]

/- A `Bits.get` costs the kernel a walk along the array, after building it: the sample's bitmaps are read
   through `get_bitsOf`, once. -/
theorem sample_fill (i : Nat) : Bits.get sampleStore.fill i = [1, 2, 3, 5, 6].contains i := by
  simp only [sampleStore, get_bitsOf]
theorem sample_a (i : Nat) : bitOf sampleStore "a" i = [1, 2, 3].contains i := by
  simp [bitOf, sampleStore, Store.findCol, Col.indexBit, get_bitsOf]
theorem sample_v (i : Nat) : bitOf sampleStore "v" i = (decide (i < 16384) && [2, 3, 5, 6].contains i) := by
  simp [bitOf, sampleStore, Store.findCol, Col.indexBit, get_bitsOf]
theorem sample_nope : sampleStore.findCol "nope" = none := by
  simp [sampleStore, Store.findCol]

-- the set-algebra side: ((live ∩ a) ∩ {v = 7}) ∪ v, universe 64
-- building the bitmap costs the kernel an `Array.append` per grown word: its length comes from `size_foldl_set`
theorem sample_size : (liveDen sampleStore).size = 64 := by
  rw [liveDen, Bits.words, show sampleStore.fill = bitsOf [1, 2, 3, 5, 6] by simp only [sampleStore], bitsOf,
    size_foldl_set]
  decide
example : (liveDen sampleStore).size = 64 := sample_size
theorem sample_den : (List.range 64).filter
    (sampleOps.foldl (fun X op => op.denote sampleStore 64 X) (fun i => Bits.get sampleStore.fill i))
    = [2, 3, 5, 6] := by
  conv =>
    lhs; arg 1; ext i
    simp only [sampleOps, List.foldl, FilterOp.denote, List.all_cons, List.all_nil, List.any_cons, List.any_nil,
      sample_fill, sample_a, sample_v]
    simp [predBit, sampleStore, Store.findCol, Col.read, Kind.isNumeric, get_bitsOf]
  decide +kernel
example : (List.range 64).filter
    (sampleOps.foldl (fun X op => op.denote sampleStore 64 X) (fun i => Bits.get sampleStore.fill i))
    = [2, 3, 5, 6] := sample_den
-- the hypotheses of the theorems hold here
example : ({} : Txn).setup = false := rfl
example : (({} : Txn).initialize sampleStore).setup = true := initialize_setup _ _
example : sampleOps.any (fun op => op.clears sampleStore) = false := by decide +kernel
example : ∀ op ∈ sampleOps.head?, op.isUnion = false := by decide
example : ((({} : Txn).chain sampleStore sampleOps).rangeList sampleStore).2 =
    (List.range (chainDen sampleStore (liveDen sampleStore) sampleOps).size).filter
      (chainDen sampleStore (liveDen sampleStore) sampleOps).mem :=
  chain_range_fresh sampleStore {} rfl sampleOps (by decide)
-- the code side, through it (running the filters themselves costs the kernel far more)
theorem sample_range : ((({} : Txn).chain sampleStore sampleOps).rangeList sampleStore).2 = [2, 3, 5, 6] := by
  rw [chain_range_fresh sampleStore {} rfl sampleOps (by decide),
    chainDen_eq, if_neg (by decide +kernel), sample_size]
  dsimp only [liveDen]
  exact sample_den
example : ((({} : Txn).chain sampleStore sampleOps).rangeList sampleStore).2 = [2, 3, 5, 6] := sample_range
example : ((({} : Txn).chain sampleStore sampleOps).count sampleStore).2 = 4 := by
  rw [txn_count_sem, sample_range]; rfl
example : sampleOpsCleared.any (fun op => op.clears sampleStore) = true := by decide +kernel
example : ((({} : Txn).chain sampleStore sampleOpsCleared).rangeList sampleStore).2 = [] := by decide +kernel
-- first-call `Union` with a missing first name keeps every live row (D22(a)), then `Without("v")`
theorem sample_den_union : (List.range 64).filter
    (chainDen sampleStore (FilterOp.stepFirst sampleStore (liveDen sampleStore) (.union ["nope", "a"]))
      [.without ["v"]]).mem = [1] := by
  conv =>
    lhs; arg 1; ext i
    simp only [chainDen, List.foldl, FilterOp.step, FilterOp.stepFirst, sample_size]
    simp only [FilterOp.denote, unionFirst, liveDen, sample_nope, List.any_cons, List.any_nil, sample_fill, sample_a,
      sample_v]
  decide +kernel
example : (List.range 64).filter
    (chainDen sampleStore (FilterOp.stepFirst sampleStore (liveDen sampleStore) (.union ["nope", "a"]))
      [.without ["v"]]).mem = [1] := sample_den_union
example : ((({} : Txn).chain sampleStore [.union ["nope", "a"], .without ["v"]]).rangeList sampleStore).2 = [1] := by
  rw [rangeList_den _ _ (chain_cons_setup ..), chain_den_fresh _ {} rfl, chainDen_size, if_neg (by decide)]
  show List.filter _ (List.range (liveDen sampleStore).size) = _
  rw [sample_size]; exact sample_den_union

end ColumnVerif.Props.C04chain

#print axioms ColumnVerif.Props.C04chain.chain_den
#print axioms ColumnVerif.Props.C04chain.chain_sem
#print axioms ColumnVerif.Props.C04chain.chain_sem_fresh
#print axioms ColumnVerif.Props.C04chain.chain_den_fresh
#print axioms ColumnVerif.Props.C04chain.chain_count
#print axioms ColumnVerif.Props.C04chain.chain_range
#print axioms ColumnVerif.Props.C04chain.chain_range_mem
#print axioms ColumnVerif.Props.C04chain.chain_range_fresh
#print axioms ColumnVerif.Props.C04chain.chain_count_fresh
