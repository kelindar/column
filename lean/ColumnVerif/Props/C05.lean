import ColumnVerif.Lemmas.Buffer
import ColumnVerif.Lemmas.Wire
/-!
# C05 — commit buffers, commits and logs round-trip every operation sequence

Statements only use definitions of `Model/Codec`, `Model/Buffer`, `Model/Wire`; helper lemmas are
in `Lemmas/`. "For all" here means: every list of well-formed operations (`Op.WF`: type nibble
< 16, offset < 2^32, value of 0/2/4/8 bytes or a string of at most 65535 bytes), of any length,
with offsets in any order.
-/
namespace ColumnVerif.Props.C05
open ColumnVerif.Codec

/-- One operation: `Reader.Next` after any `Put*` returns the same type, offset and value and
    leaves exactly the bytes that followed. Every width, every delta (1–5 byte varint, the
    `isNext` flag, negative deltas by wrap-around). -/
theorem op_roundtrip (last : Nat) (o : Op) (rest : Bytes) (hl : last < M32) (hw : o.WF) :
    decodeOp (encodeOp last o ++ rest) last = some (o, rest) :=
  decode_encode last o rest hl hw

/-- `Seek` + `for r.Next()`: a buffer filled through the writer API reads back as the identical
    sequence (kind, offset, value), whatever the offsets do (repeats, decreasing, chunk jumps). -/
theorem seek_roundtrip (col : String) (ops : List Op) (hw : ∀ o ∈ ops, o.WF) :
    decodeBytes ((Buf.empty col).putAll ops).bytes 0 = some ops := by
  rw [Buf.bytes_putAll _ _ (Buf.empty_inv col) hw]
  simp only [Buf.empty, Buf.bytes, Buf.secs, List.reverse_nil, List.map_nil, List.flatten_nil,
    List.nil_append]
  exact decodeBytes_encodeAll ops 0 (by simp [M32]) hw

/-- `Range(buf, chunk)`: reading one chunk yields exactly that chunk's operations in write order,
    for every chunk of an arbitrarily interleaved buffer … -/
theorem range_roundtrip (col : String) (ops : List Op) (hw : ∀ o ∈ ops, o.WF) (c : Nat) :
    ((Buf.empty col).putAll ops).rangeOps c = ops.filter (fun o => chunkOf o.idx = c) := by
  rw [Buf.rangeOps_eq_filter _ _ (Buf.putAll_inv _ _ (Buf.empty_inv col) hw), Buf.allOps_putAll]
  simp [Buf.empty, Buf.allOps, Buf.secs]

/-- … and each section's byte slice, decoded from its header's `Value`, is that section's ops
    (this is what ties `rangeOps` to the bytes the real reader walks). -/
theorem range_sections_decode (col : String) (ops : List Op) (hw : ∀ o ∈ ops, o.WF)
    (s : Sec) (hs : s ∈ ((Buf.empty col).putAll ops).secs) :
    decodeBytes s.bytes s.value = some s.ops :=
  Wire.Sec.decodes s (Wire.Buf.secOK _ (Buf.putAll_inv _ _ (Buf.empty_inv col) hw) s hs)

/-! non-vacuity: a concrete interleaved, backwards-jumping buffer meets the hypotheses -/
def sampleOps : List Op :=
  [⟨opPut, 5, .fixed 1 [1, 2]⟩, ⟨opMerge, 20000, .str [104, 105]⟩, ⟨opPut, 6, .fixed 3 [0,0,0,0,0,0,0,9]⟩,
   ⟨opDelete, 6, .fixed 0 []⟩, ⟨opInsert, 4294967295, .fixed 0 []⟩, ⟨opPut, 0, .fixed 2 [1,2,3,4]⟩]

example : ∀ o ∈ sampleOps, o.WF := by decide +kernel
example : ((Buf.empty "x").putAll sampleOps).rangeOps 0 =
    [⟨opPut, 5, .fixed 1 [1, 2]⟩, ⟨opPut, 6, .fixed 3 [0,0,0,0,0,0,0,9]⟩, ⟨opDelete, 6, .fixed 0 []⟩,
     ⟨opPut, 0, .fixed 2 [1,2,3,4]⟩] := by decide +kernel


/-! ## The wire format (`Model/Wire`): `iostream` primitives, `Buffer.WriteTo/ReadFrom`,
`Commit.WriteTo/ReadFrom`, `Log.Range`

Every statement has the shape "decoding `encoding ++ rest` returns the value and leaves exactly
`rest`" (with the stream's end flag `e` untouched), for **all** values that fit the field widths.
Spec-level names used below (defined in `Lemmas/Wire`, all plain functions of the model's data):
`chunkSecs chunk b` = the sections of `b` whose header says `chunk`, in write order;
`chunkData chunk b` = their bytes; `commitBufRaw chunk b` = what `Commit.ReadFrom` rebuilds for
`b`; `Commit.toRaw c` = `⟨c.id, c.chunk, c.updates.map (commitBufRaw c.chunk)⟩`;
`RawBuf.WF`, `BufFits`, `Commit.WF` = the size bounds of the format (see there). -/
section Wire
open ColumnVerif.Wire

/-- A1 `WriteUvarint`/`ReadUvarint`: every `uint64` (1 to 10 bytes, including the 10-byte
    overflow guard). -/
theorem uvarint_roundtrip (x : Nat) (hx : x < 2 ^ 64) (rest : Bytes) (e : Bool) :
    readUvarint ⟨encUvarint x ++ rest, e⟩ = .ok (x, ⟨rest, e⟩) :=
  uvarint_reads x hx rest e

/-- A2 `Slice(n)`. -/
theorem readN_roundtrip (b rest : Bytes) (e : Bool) :
    readN b.length ⟨b ++ rest, e⟩ = .ok (b, ⟨rest, e⟩) :=
  (readN_decodes b).reads rest e

/-- A2 little-endian `uint32`. -/
theorem u32_roundtrip (v : Nat) (hv : v < 2 ^ 32) (rest : Bytes) (e : Bool) :
    readU32 ⟨encU32 v ++ rest, e⟩ = .ok (v, ⟨rest, e⟩) :=
  (u32_decodes v hv).reads rest e

/-- A2 `WriteBytes`/`ReadBytes`. -/
theorem bytes_roundtrip (b : Bytes) (hb : b.length < 2 ^ 64) (rest : Bytes) (e : Bool) :
    readBytes ⟨encBytes b ++ rest, e⟩ = .ok (b, ⟨rest, e⟩) :=
  (bytes_decodes b hb).reads rest e

/-- A2 `WriteString`/`ReadBytes`: the UTF-8 bytes of the string. -/
theorem string_roundtrip (s : String) (hs : s.toUTF8.toList.length < 2 ^ 64) (rest : Bytes) (e : Bool) :
    readBytes ⟨encString s ++ rest, e⟩ = .ok (s.toUTF8.toList, ⟨rest, e⟩) :=
  (bytes_decodes _ hs).reads rest e

/-- A2 one big-endian header triple `(Chunk, Start, Value)`. -/
theorem header_roundtrip (h : Nat × Nat × Nat) (h1 : h.1 < 2 ^ 32) (h2 : h.2.1 < 2 ^ 32)
    (h3 : h.2.2 < 2 ^ 32) (rest : Bytes) (e : Bool) :
    readHeader ⟨encHeader h ++ rest, e⟩ = .ok (h, ⟨rest, e⟩) :=
  (header_decodes h ⟨h1, h2, h3⟩).reads rest e

/-- A2 `n` items in a row, given the item round trip. -/
theorem readMany_roundtrip {α} (d : Dec α) (enc : α → Bytes) (as : List α)
    (h : ∀ a ∈ as, ∀ rest e, d ⟨enc a ++ rest, e⟩ = .ok (a, ⟨rest, e⟩)) (rest : Bytes) (e : Bool) :
    readMany d as.length ⟨(as.map enc).flatten ++ rest, e⟩ = .ok (as, ⟨rest, e⟩) := by
  have := many_reads (f := id) as h rest e
  rwa [List.map_id] at this

/-- A2 `WriteRange`/`ReadRange`: count, then the items. -/
theorem readRange_roundtrip {α} (d : Dec α) (enc : α → Bytes) (as : List α) (hl : as.length < 2 ^ 64)
    (h : ∀ a ∈ as, ∀ rest e, d ⟨enc a ++ rest, e⟩ = .ok (a, ⟨rest, e⟩)) (rest : Bytes) (e : Bool) :
    readRange d ⟨encUvarint as.length ++ (as.map enc).flatten ++ rest, e⟩ = .ok (as, ⟨rest, e⟩) := by
  have := range_reads (f := id) as hl h rest e
  rwa [List.map_id] at this

/-- A3 `Buffer.WriteTo`/`ReadFrom` on the raw record. -/
theorem rawbuf_roundtrip (r : RawBuf) (hWF : r.WF) (rest : Bytes) (e : Bool) :
    readRawBuf ⟨encRawBuf r ++ rest, e⟩ = .ok (r, ⟨rest, e⟩) :=
  (rawbuf_decodes r hWF).reads rest e

/-- A4 slicing the derived byte slice along the derived header table and decoding every slice from
    its header's `Value` gives back all sections — chunk, value and the operations of each
    (`Sec.ops = rops.reverse`, and a `Sec` is determined by `chunk`, `value`, `rops`). -/
theorem buffer_sections_roundtrip (b : Buf) (h : b.Inv) :
    sectionsOf b.headers b.bytes = some b.secs :=
  sectionsOf_buf b h

theorem buffer_sections_roundtrip_ops (b : Buf) (h : b.Inv) :
    ∃ secs, sectionsOf b.headers b.bytes = some secs ∧
      secs.map (fun s => (s.chunk, s.value, s.ops)) = b.secs.map (fun s => (s.chunk, s.value, s.ops)) :=
  ⟨b.secs, sectionsOf_buf b h, rfl⟩

/-- A4 the column name survives the UTF-8 round trip (no hypothesis needed). -/
theorem column_roundtrip (s : String) : String.fromUTF8? ⟨s.toUTF8.toList.toArray⟩ = some s :=
  fromUTF8_toUTF8 s

/-- A4 `toBuf ∘ toRaw`: column, `last` and all sections are recovered; the writer-side field `cur`
    is rebuilt from the last header. -/
theorem buffer_toBuf_roundtrip (b : Buf) (h : b.Inv) :
    (Buf.toRaw b).toBuf = some { b with cur := b.rsecs.head?.map Sec.chunk } :=
  toRaw_toBuf b h

/-- A4 … which is `b` itself unless `b` was reset while holding sections (`cur = none`). -/
theorem buffer_toBuf_roundtrip_eq (b : Buf) (h : b.Inv) (hc : b.cur = none → b.rsecs = []) :
    (Buf.toRaw b).toBuf = some b :=
  toRaw_toBuf_eq b h hc

/-- A3+A4 end to end for a buffer filled through the writer API: write, read, rebuild = identity. -/
theorem buffer_wire_roundtrip (col : String) (ops : List Op) (hw : ∀ o ∈ ops, o.WF)
    (hfit : (Buf.toRaw ((Buf.empty col).putAll ops)).WF) (rest : Bytes) (e : Bool) :
    ∃ raw, readRawBuf ⟨encBuf ((Buf.empty col).putAll ops) ++ rest, e⟩ = .ok (raw, ⟨rest, e⟩) ∧
      raw.toBuf = some ((Buf.empty col).putAll ops) := by
  refine ⟨_, (rawbuf_decodes _ hfit).reads rest e, ?_⟩
  exact toRaw_toBuf_eq _ (Buf.putAll_inv _ _ (Buf.empty_inv col) hw)
    (Buf.putAll_cur _ _ (fun _ => rfl))

/-- … and the buffer read back is the *writer's* state too (`cur`, the chunk being written, is rebuilt from the last
    header — `none` for an empty buffer): writing on after `Buffer.ReadFrom` gives the buffer that writing on the
    original would have given, whatever is written (driver op `loadfrom`). -/
theorem write_after_readfrom (col : String) (ops more : List Op) (hw : ∀ o ∈ ops, o.WF)
    (hfit : (Buf.toRaw ((Buf.empty col).putAll ops)).WF) (rest : Bytes) (e : Bool) :
    ∃ raw, readRawBuf ⟨encBuf ((Buf.empty col).putAll ops) ++ rest, e⟩ = .ok (raw, ⟨rest, e⟩) ∧
      (raw.toBuf).map (·.putAll more) = some (((Buf.empty col).putAll ops).putAll more) := by
  obtain ⟨raw, h1, h2⟩ := buffer_wire_roundtrip col ops hw hfit rest e
  exact ⟨raw, h1, by rw [h2]; rfl⟩

/-- the size hypothesis `RawBuf.WF` follows from the invariant and four plain bounds -/
theorem buffer_fits (b : Buf) (h : b.Inv) (hname : b.column.toUTF8.toList.length < 2 ^ 64)
    (hcount : b.secs.length < 2 ^ 64) (hdata : b.bytes.length < 2 ^ 32)
    (hchunk : ∀ s ∈ b.secs, s.chunk < 2 ^ 32) : (Buf.toRaw b).WF :=
  Buf.toRaw_wf b h hname hcount hdata hchunk

/-- A5 `Commit.WriteTo`/`ReadFrom`: the decoder returns exactly `c.toRaw` … -/
theorem commit_roundtrip (c : Commit) (h : c.WF) (rest : Bytes) (e : Bool) :
    readCommit ⟨encCommit c ++ rest, e⟩ = .ok (c.toRaw, ⟨rest, e⟩) :=
  (commit_decodes c h).reads rest e

/-- A5 … whose `i`-th buffer, sliced along its rebuilt header table and decoded, is the list of
    sections of chunk `c.chunk` of the `i`-th update, in write order. -/
theorem commit_roundtrip_sections (c : Commit) (h : c.WF) (hinv : ∀ b ∈ c.updates, b.Inv)
    (rest : Bytes) (e : Bool) :
    ∃ raw, readCommit ⟨encCommit c ++ rest, e⟩ = .ok (raw, ⟨rest, e⟩) ∧
      raw.id = c.id ∧ raw.chunk = c.chunk ∧ raw.updates.length = c.updates.length ∧
      ∀ i (hi : i < c.updates.length) (hi' : i < raw.updates.length),
        raw.updates[i].column = c.updates[i].column.toUTF8.toList ∧
        sectionsOf raw.updates[i].headers raw.updates[i].data =
          some (c.updates[i].secs.filter (fun s => s.chunk = c.chunk)) := by
  refine ⟨c.toRaw, (commit_decodes c h).reads rest e, rfl, rfl, by simp [Commit.toRaw], ?_⟩
  intro i hi hi'
  simp only [Commit.toRaw, List.getElem_map]
  exact ⟨rfl, sectionsOf_commitBufRaw c.chunk c.updates[i] (hinv _ (List.getElem_mem hi))⟩

/-- A5 … so a reader walking the received buffer sees exactly `Buf.range` of the sender. -/
theorem commit_roundtrip_ops (c : Commit) (hinv : ∀ b ∈ c.updates, b.Inv) (b : Buf)
    (hb : b ∈ c.updates) :
    (sectionsOf (commitBufRaw c.chunk b).headers (commitBufRaw c.chunk b).data).map
      (fun secs => secs.map Sec.ops) = some (b.range c.chunk) := by
  rw [sectionsOf_commitBufRaw c.chunk b (hinv b hb)]; rfl

/-- A6 `Log.Range` over an intact log delivers every commit, in order, and reports no error. -/
theorem log_roundtrip (cs : List Commit) (h : ∀ c ∈ cs, c.WF) :
    rangeLog ⟨(cs.map encCommit).flatten, false⟩ = (cs.map Commit.toRaw, false) :=
  rangeLog_all cs h

/-! non-vacuity of the size hypotheses: a two-buffer commit built through the writer API -/
def sampleBuf : Buf := (Buf.empty "col").putAll sampleOps
def sampleBuf2 : Buf := (Buf.empty "other").putAll sampleOps
def sampleCommit : Commit := ⟨7, 0, [sampleBuf, sampleBuf2]⟩

theorem sampleBuf_inv : sampleBuf.Inv := Buf.putAll_inv _ _ (Buf.empty_inv _) (by decide +kernel)
theorem sampleBuf2_inv : sampleBuf2.Inv := Buf.putAll_inv _ _ (Buf.empty_inv _) (by decide +kernel)

/-- `Commit.WF` is satisfiable (and so are `BufFits`, `Buf.Inv`) -/
theorem sampleCommit_wf : sampleCommit.WF := by decide +kernel

example : ∀ b ∈ sampleCommit.updates, b.Inv := by
  intro b hb
  simp only [sampleCommit, List.mem_cons, List.not_mem_nil, or_false] at hb
  rcases hb with rfl | rfl
  · exact sampleBuf_inv
  · exact sampleBuf2_inv

/-- `RawBuf.WF` is satisfiable: the whole sample buffer fits `Buffer.WriteTo` -/
example : (Buf.toRaw sampleBuf).WF := by decide +kernel

/-- the sample commit has sections in chunk 0 (the statements are not about empty data) -/
example : (chunkSecs 0 sampleBuf).length = 3 := by decide +kernel

end Wire
end ColumnVerif.Props.C05
