import ColumnVerif.Conc.Invariants
/-!
# C09 — concurrent merges into one chunk: no delta is lost, none is applied twice

A merge is a read-modify-write (`load`, then `storeAcc`) under the chunk latch. Over every schedule
of the machine in `Conc/Machine.lean` (any number of threads and chunks), and for an **arbitrary**
merge function, the merged value of a chunk is the fold of the applied commits in apply order.
The ghost record of a commit is appended in the very step that stores the merged value, so
`merge_fold` holds in every reachable world, not only in quiescent ones.
-/
namespace ColumnVerif.Props.C09
open ColumnVerif.Conc

variable {cfg : ProtoCfg} {merge : Nat → Nat → Nat} {w0 w : W}

/-- the merged value is the fold, in apply order, of the deltas of the applied commits -/
theorem merge_fold (hi : Init w0) (hr : Reach cfg merge w0 w) (c : Nat) :
    w.acc c = foldAcc merge (w0.acc c) (w.applied c) :=
  (reach_inv hi hr).acc.fold c

/-- the value a thread has read in the first half of its merge is still the current value when it
    stores (nobody else can write in between): the read-modify-write is atomic -/
theorem loaded_is_current (hi : Init w0) (hr : Reach cfg merge w0 w) {t c id seen : Nat}
    (h : w.pc t = .loaded c id seen) : seen = w.acc c ∧ w.holder c = some t :=
  ⟨(reach_inv hi hr).acc.seen t c id seen h, (reach_inv hi hr).m.whold t c (by rw [h]; rfl)⟩

/-- every record carries the delta of the thread that applied it (as given in the initial world) -/
theorem record_delta (hi : Init w0) (hr : Reach cfg merge w0 w) (c : Nat) :
    ∀ r ∈ w.applied c, r.delta = w0.delta r.tid :=
  (reach_inv hi hr).todo.rec_delta c

theorem foldAcc_add (init : Nat) (l : List Rec) :
    foldAcc (· + ·) init l = init + (l.map (·.delta)).sum := by
  induction l with
  | nil => simp [foldAcc]
  | cons r l ih => simp only [foldAcc, ih, List.map_cons, List.sum_cons]; omega

/-- for addition: the value is the initial value plus the sum of all applied deltas -/
theorem merge_sum (hi : Init w0) (hr : Reach cfg (· + ·) w0 w) (c : Nat) :
    w.acc c = w0.acc c + ((w.applied c).map (·.delta)).sum := by
  rw [merge_fold hi hr c, foldAcc_add]

/-- Bookkeeping per thread and chunk: (records of `t` in `applied c`) + (occurrences of `c` still in
    `todo t`) = (occurrences of `c` in the initial `todo t`) + (1 if `t` is past `storeAcc` of a
    commit of `c` that it has not yet released — that `c` is still the head of `todo t`). -/
theorem applied_once (hi : Init w0) (hr : Reach cfg merge w0 w) (t c : Nat) :
    recsOf w t c + (w.todo t).count c = (w0.todo t).count c + inflight (w.pc t) c :=
  (reach_inv hi hr).todo.count t c

theorem working_on_head (hi : Init w0) (hr : Reach cfg merge w0 w) {t c : Nat}
    (h : workChunk (w.pc t) = some c) : ∃ rest, w.todo t = c :: rest :=
  (reach_inv hi hr).todo.head t c h

theorem inflight_le_count {p : PC} {c : Nat} {l : List Nat}
    (h : ∀ d, workChunk p = some d → ∃ rest, l = d :: rest) : inflight p c ≤ l.count c := by
  cases p <;> simp only [inflight] <;> try exact Nat.zero_le _
  all_goals
    split
    · next hd =>
      subst hd
      obtain ⟨rest, rfl⟩ := h _ rfl
      simp
    · exact Nat.zero_le _

/-- a thread never applies a chunk more often than its transaction lists it -/
theorem applied_at_most (hi : Init w0) (hr : Reach cfg merge w0 w) (t c : Nat) :
    recsOf w t c ≤ (w0.todo t).count c := by
  have h1 := applied_once hi hr t c
  have h2 : inflight (w.pc t) c ≤ (w.todo t).count c :=
    inflight_le_count (fun d hd => working_on_head hi hr hd)
  omega

/-- … and when the transaction is finished, exactly as often -/
theorem applied_exactly (hi : Init w0) (hr : Reach cfg merge w0 w) (t c : Nat)
    (hpc : w.pc t = .idle) (hdone : w.todo t = []) : recsOf w t c = (w0.todo t).count c := by
  have h1 := applied_once hi hr t c
  rw [hpc, hdone] at h1
  simpa [inflight] using h1

/-! ### non-vacuity -/

/-- a concrete initial world and a 13-step run: thread 0 merges delta 5 into chunk 0 -/
example : ∃ w0 w, Init w0 ∧ Reach ProtoCfg.good (· + ·) w0 w ∧ w.applied 0 = [⟨0, 1, 5⟩] ∧
    w.acc 0 = 5 ∧ recsOf w 0 0 = 1 := by
  obtain ⟨w, hr, _, _, _, hacc, happ, hpc, htodo⟩ := Demo.run_good ProtoCfg.good rfl (· + ·)
  refine ⟨Demo.w0, w, Demo.init_w0, hr, happ, ?_, ?_⟩
  · rw [merge_sum Demo.init_w0 hr 0, happ]; rfl
  · rw [applied_exactly Demo.init_w0 hr 0 0 hpc htodo]; rfl

end ColumnVerif.Props.C09
