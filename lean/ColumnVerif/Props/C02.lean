import ColumnVerif.Lemmas.StorePlumb
import ColumnVerif.Props.C11
/-!
# C02 — a failed transaction leaves no trace

"A transaction whose callback returns an error leaves no trace … and nothing is emitted to the change stream."

In the model (as in the code) everything a transaction writes goes to transaction-local buffers (`Txn.putOp`,
`Txn.deleteAt`, `Txn.setKey`, `Txn.deleteKey` return no store at all); the only shared state touched before commit is the
fill list / row counter (`next()` at insert time, `free()` when the insert callback fails). Rollback drops the buffers
and recounts. So: (a) rollback is the identity on a quiescent store and never emits; (b) a failed insert gives its
offset back; (c) before commit nothing but `fill` / `count` differs — and the reservation of a *successful* insert in a
transaction that later rolls back is *not* given back (`rollback_keeps_reservation`, finding D8/D17).
-/
namespace ColumnVerif.Props.C02
open ColumnVerif.Codec ColumnVerif.Bits ColumnVerif.Store ColumnVerif.StorePlumb ColumnVerif.Props.C11

/-! ### (a) rollback -/

/-- on a store whose counter agrees with its fill list (every quiescent store: `count_at_quiescence`) rollback changes
    nothing at all, whatever the transaction buffered -/
theorem rollback_identity (s : Store) (t : Txn) (h : s.count = Bits.count s.fill) : s.rollback t = s := by
  unfold Store.rollback
  rw [← h]

/-- rollback touches the row counter only: no column, no fill bit, no commit id, nothing in the change stream -/
theorem rollback_frame (s : Store) (t : Txn) :
    (s.rollback t).cols = s.cols ∧ (s.rollback t).fill = s.fill ∧ (s.rollback t).commits = s.commits ∧
    (s.rollback t).nextId = s.nextId ∧ (s.rollback t).emitted = s.emitted ∧ (s.rollback t).recorded = s.recorded ∧
    (s.rollback t).pk = s.pk ∧ (s.rollback t).panicked = s.panicked ∧
    (s.rollback t).count = Bits.count s.fill :=
  ⟨rfl, rfl, rfl, rfl, rfl, rfl, rfl, rfl, rfl⟩

theorem rollback_emits_nothing (s : Store) (t : Txn) : (s.rollback t).emitted = s.emitted := rfl

/-- what a reader sees of any column is the same before and after a rollback -/
theorem rollback_reads (s : Store) (t : Txn) (name : String) : (s.rollback t).findCol name = s.findCol name := rfl

/-! ### (b) a failed insert releases its offset -/

/-- everything but the fill list and the row counter is the same -/
structure OnlyFill (s s' : Store) : Prop where
  cols : s'.cols = s.cols
  commits : s'.commits = s.commits
  nextId : s'.nextId = s.nextId
  emitted : s'.emitted = s.emitted
  recorded : s'.recorded = s.recorded
  recording : s'.recording = s.recording
  logger : s'.logger = s.logger
  pk : s'.pk = s.pk
  hash : s'.hash = s.hash
  cap : s'.cap = s.cap
  panicked : s'.panicked = s.panicked

theorem OnlyFill.refl (s : Store) : OnlyFill s s := ⟨rfl, rfl, rfl, rfl, rfl, rfl, rfl, rfl, rfl, rfl, rfl⟩

theorem OnlyFill.trans {a b c : Store} (h1 : OnlyFill a b) (h2 : OnlyFill b c) : OnlyFill a c :=
  ⟨h2.cols.trans h1.cols, h2.commits.trans h1.commits, h2.nextId.trans h1.nextId, h2.emitted.trans h1.emitted,
   h2.recorded.trans h1.recorded, h2.recording.trans h1.recording, h2.logger.trans h1.logger, h2.pk.trans h1.pk,
   h2.hash.trans h1.hash, h2.cap.trans h1.cap, h2.panicked.trans h1.panicked⟩

/-- the one-equation form: the store is the old one with another fill list and counter -/
theorem OnlyFill.eq {s s' : Store} (h : OnlyFill s s') : s' = { s with fill := s'.fill, count := s'.count } := by
  obtain ⟨h1, h2, h3, h4, h5, h6, h7, h8, h9, h10, h11⟩ := h
  cases s; cases s'
  simp only at *
  subst h1 h2 h3 h4 h5 h6 h7 h8 h9 h10 h11
  rfl

theorem OnlyFill.findCol {s s' : Store} (h : OnlyFill s s') (name : String) : s'.findCol name = s.findCol name := by
  unfold Store.findCol; rw [h.cols]

theorem onlyFill_with (s : Store) (f : Bitmap) (n : Nat) : OnlyFill s { s with fill := f, count := n } :=
  ⟨rfl, rfl, rfl, rfl, rfl, rfl, rfl, rfl, rfl, rfl, rfl⟩

theorem next_onlyFill (s : Store) : OnlyFill s s.next.1 := by rw [next_fst]; exact onlyFill_with s _ _

theorem free_onlyFill (s : Store) (i : Nat) : OnlyFill s (s.free i) := onlyFill_with s _ _

theorem reserve_fst (s : Store) (t : Txn) : (t.reserve s).1 = s.next.1 := rfl
theorem reserve_idx (s : Store) (t : Txn) : (t.reserve s).2.2 = s.next.2 := rfl

theorem insert_store (s : Store) (t : Txn) (body : Store → Txn → Txn) (fail : Bool) :
    (t.insert s body fail).1 = (if fail then s.next.1.free s.next.2 else s.next.1) ∧
    (t.insert s body fail).2.2 = s.next.2 := ⟨rfl, rfl⟩

/-- **C02 (b)** the callback of an insert failed: the offset handed out is free again, no other fill bit differs from
    the store before the insert, the counter is recounted, and nothing else in the store changed (whatever the callback
    buffered) -/
theorem failed_insert_releases (s : Store) (t : Txn) (body : Store → Txn → Txn) :
    Bits.get (t.insert s body true).1.fill (t.insert s body true).2.2 = false ∧
    (∀ j, j ≠ (t.insert s body true).2.2 → Bits.get (t.insert s body true).1.fill j = Bits.get s.fill j) ∧
    (t.insert s body true).1.count = Bits.count (t.insert s body true).1.fill ∧
    OnlyFill s (t.insert s body true).1 := by
  obtain ⟨h1, h2⟩ := insert_store s t body true
  rw [h1, h2, if_pos rfl]
  exact ⟨free_clears _ _, fun j hj => (free_frame _ _ j hj).trans (next_frame s j hj), free_count _ _,
    OnlyFill.trans (next_onlyFill s) (free_onlyFill _ _)⟩

/-- … and on a store satisfying the fill invariant (`FillInv`, kept by every history: C11) no trace at all is left in
    the fill list: every bit reads as before; with an exact counter the counter is as before, too -/
theorem failed_insert_no_trace (s : Store) (t : Txn) (body : Store → Txn → Txn) (h : FillInv s) :
    (∀ j, Bits.get (t.insert s body true).1.fill j = Bits.get s.fill j) ∧
    (s.count = Bits.count s.fill → (t.insert s body true).1.count = s.count) := by
  obtain ⟨r1, r2, r3, _⟩ := failed_insert_releases s t body
  have hfill : ∀ j, Bits.get (t.insert s body true).1.fill j = Bits.get s.fill j := by
    intro j
    by_cases hj : j = (t.insert s body true).2.2
    · rw [hj, r1, (insert_store s t body true).2, next_is_free s h]
    · exact r2 j hj
  exact ⟨hfill, fun hc => by rw [r3, hc]; exact count_congr _ _ hfill⟩

/-! ### (c) buffered writes are invisible; the reservation is not -/

/-- `Txn.insert`, failed or not: the store differs in `fill` / `count` only — the values the callback wrote are in the
    transaction's buffers, invisible to every reader of the store -/
theorem insert_onlyFill (s : Store) (t : Txn) (body : Store → Txn → Txn) (fail : Bool) :
    OnlyFill s (t.insert s body fail).1 := by
  rw [(insert_store s t body fail).1]
  split
  · exact OnlyFill.trans (next_onlyFill s) (free_onlyFill _ _)
  · exact next_onlyFill s

/-- a key operation on a key that resolves (update path of `UpsertKey` / `QueryKey`, refused `InsertKey`): the store
    is returned as it is -/
theorem keyOp_existing (s : Store) (t : Txn) (cmd : String) (key : Bytes) (body : Store → Txn → Txn) (fail : Bool)
    (pk : String) (hpk : s.pk = some pk) (i : Nat) (hi : s.offsetOf key = some i) :
    (t.keyOp s cmd key body fail).1 = s ∧ (t.keyOp s cmd key body fail).2.2 = .existsAt i := by
  unfold Txn.keyOp
  rw [hpk]
  simp only
  rw [hi]
  simp only
  split <;> exact ⟨rfl, rfl⟩

/-- any key operation (also one that creates a row, also a failed one): `fill` / `count` only -/
theorem keyOp_onlyFill (s : Store) (t : Txn) (cmd : String) (key : Bytes) (body : Store → Txn → Txn) (fail : Bool) :
    OnlyFill s (t.keyOp s cmd key body fail).1 := by
  unfold Txn.keyOp
  split
  · exact OnlyFill.refl s
  · split
    · split <;> exact OnlyFill.refl s
    · split
      · exact OnlyFill.refl s
      · show OnlyFill s (if fail then s.next.1.free s.next.2 else s.next.1)
        split
        · exact OnlyFill.trans (next_onlyFill s) (free_onlyFill _ _)
        · exact next_onlyFill s

/-- **C02 (c)** before commit, a whole sequence of inserts and key operations leaves every column, the commit table,
    the id counter and the change stream as they were: in-flight values, deletions and key writes are invisible -/
theorem buffered_writes_invisible (s : Store) (t : Txn) (body : Store → Txn → Txn) (fail : Bool) (cmd : String)
    (key : Bytes) (name : String) :
    (t.insert s body fail).1.findCol name = s.findCol name ∧
    (t.keyOp s cmd key body fail).1.findCol name = s.findCol name ∧
    (t.insert s body fail).1.emitted = s.emitted ∧ (t.keyOp s cmd key body fail).1.emitted = s.emitted ∧
    (t.insert s body fail).1.commits = s.commits ∧ (t.keyOp s cmd key body fail).1.commits = s.commits ∧
    (t.insert s body fail).1.nextId = s.nextId ∧ (t.keyOp s cmd key body fail).1.nextId = s.nextId :=
  ⟨(insert_onlyFill s t body fail).findCol name, (keyOp_onlyFill s t cmd key body fail).findCol name,
   (insert_onlyFill s t body fail).emitted, (keyOp_onlyFill s t cmd key body fail).emitted,
   (insert_onlyFill s t body fail).commits, (keyOp_onlyFill s t cmd key body fail).commits,
   (insert_onlyFill s t body fail).nextId, (keyOp_onlyFill s t cmd key body fail).nextId⟩

/-- a failed transaction, end to end: a failed insert followed by rollback, on a quiescent store, gives back a store
    that reads the same everywhere: same columns, same fill bits, same count, nothing emitted -/
theorem failed_insert_then_rollback (s : Store) (t : Txn) (body : Store → Txn → Txn)
    (h : s.count = Bits.count s.fill) :
    let s' := (t.insert s body true).1.rollback (t.insert s body true).2.1
    OnlyFill s s' ∧ (∀ j, Bits.get s'.fill j = Bits.get s.fill j) ∧ s'.count = s.count := by
  have hinv : FillInv s := by unfold FillInv; omega
  obtain ⟨h1, h2⟩ := failed_insert_no_trace s t body hinv
  obtain ⟨_, _, h3, h4⟩ := failed_insert_releases s t body
  simp only
  rw [rollback_identity _ _ h3]
  exact ⟨h4, h1, h2 h⟩

/-- **finding D8/D17** the reservation of a *successful* insert is visible at once and survives a rollback of the
    transaction: the fill bit stays set and the row counter is one higher — on every store satisfying the fill
    invariant -/
theorem rollback_keeps_reservation (s : Store) (t : Txn) (body : Store → Txn → Txn) (h : FillInv s) :
    let r := t.insert s body false
    Bits.get s.fill r.2.2 = false ∧
    Bits.get (r.1.rollback r.2.1).fill r.2.2 = true ∧
    (r.1.rollback r.2.1).count = Bits.count s.fill + 1 := by
  intro r
  have h1 : r.1 = s.next.1 := rfl
  have h2 : r.2.2 = s.next.2 := rfl
  clear_value r
  obtain ⟨_, hf, _, _, _, _, _, _, hc⟩ := rollback_frame r.1 r.2.1
  have hfree := next_is_free s h
  rw [hf, hc, h1, h2, next_fill]
  exact ⟨hfree, by rw [← next_fill]; exact next_occupies s, count_set_of_false s.fill s.next.2 hfree⟩

/-- the same on a concrete store: empty collection, one insert, rollback — one row is counted, offset 0 is taken -/
def emptyStore : Store := {}

theorem rollback_after_insert_counterexample :
    let r := (default : Txn).insert emptyStore (fun _ t => t) false
    (r.1.rollback r.2.1).count = emptyStore.count + 1 ∧ r.2.2 = 0 ∧
    Bits.get (r.1.rollback r.2.1).fill r.2.2 = true ∧ Bits.get emptyStore.fill r.2.2 = false := by
  have h := rollback_keeps_reservation emptyStore default (fun _ t => t) (Nat.le_refl 0)
  exact ⟨h.2.2, by decide +kernel, h.2.1, h.1⟩

/-! ### non-vacuity of the hypotheses -/

example : emptyStore.count = Bits.count emptyStore.fill := by decide
example : FillInv emptyStore := by unfold FillInv; decide
example : FillInv sampleStore ∧ sampleStore.count = Bits.count sampleStore.fill :=
  ⟨Nat.le_of_eq sample_count, sample_count.symm⟩

end ColumnVerif.Props.C02
