import ColumnVerif.Lemmas.StoreReplica
import ColumnVerif.Props.C06
import ColumnVerif.Props.C15
import ColumnVerif.Props.C01storeAny
/-!
# C06 at store level — a replica that replays what the primary's `Store.commit` emits stays equal to it

`Props/C06.lean` proves convergence at COLUMN level (`replica_stays_in_sync_num`: the section a commit hands to the logger
holds no `Merge`; replaying it on a column in sync keeps it in sync). `Props/C01storeAny.lean` proves `commit_col`: what
`Store.commit` leaves under a data column's name is the fold of `applyData` over the dirty chunks. Here the two are composed
at STORE level, through the real `Store.commit` / `commitChunk` (what is appended to `emitted` and when), `Emitted.received`
(`.log`: every buffer restricted to the commit's chunk, `restrictBuf`; `.channel`: a clone of all buffers, finding D16) and
`Store.replay` (itself a commit, of the received buffers, walking every chunk that has a header in them).

Vocabulary (from `Lemmas/StoreReplica.lean`):
* `emittedBy p t` — the entries `p.commit t` hands to the logger, in emission order; `emittedByAll p ts` for a sequence.
* `replayAll k r es` — the replica replays the entries `es` in order: `es.foldl (fun r e => r.replay e.chunk (e.received k)) r`.
* `NumSync x p r` — the numeric column `x` is registered on both sides (the replica's numeric kind and merge function are
  free), arrays well-formed (`ColWF`) and covering the committed chunks, every slot (presence bit, raw bytes) equal.
  `DataSync x p r` — the same for numeric ↔ numeric, string / record ↔ string / record or key ↔ key columns (`KindsMatch`);
  `KeySync x p r` — key column: slots and key table (`seek`) equal.
* `FillSync p r` — the fill lists agree bit by bit (the arrays may have grown differently).
* `TxnOK x t` / `TxnWF t` — distinct buffer names (`bufferFor`), the buffers (of `x` / all) and the marker buffer keep every op
  in a section of its own chunk (`Buf.Inv`), the marker buffer holds no `Merge`.
* `Delivers ups1 ch bufs` — the delivery `bufs` of the emitted buffers `ups1` holds sections of `ch` only, the same ops per
  column for `ch` and the same markers: `.log` always delivers (`delivers_log`), `.channel` for single-chunk transactions.
* `ComputedKinds s` — computed columns are indexes / triggers / sorted indexes (kept by commits; `StoreRead`).

Contents
1. what a commit emits: `emitted_of_commit`, `loopEmitted_eq`, `received_log_eq`, `received_log_ops`,
   `emitted_chunk_ops_num`, closed form `emitted_stream_num`.
2. one chunk: `replay_log_col_data` (any covered kind), `replay_log_col` (numeric), `replay_log_fill`.
3. a whole commit: `replay_log_commit`, `replay_log_commit_slots`; a whole history: `replica_converges_store`,
   with reservations `replica_converges_store_reserved`; the same schema: `same_schema_same_start`, `replica_converges_fresh`.
4. `.channel`: `replay_channel_commit`, `replica_converges_store_channel` (single-chunk transactions); D16.
5. non-vacuity (`ex_converges`, `exIns_converges`), `channel_multichunk_not_delivered`, `channel_multichunk_counterexample`.
6. string / record columns under the guard `NoAppend` / `StrGuard`: `replay_log_commit_data`,
   `replica_converges_store_data`, `exStr_converges`.
7. key columns (slots, key table, `offsetOf`): `replay_log_commit_key`, `replica_converges_store_key`, `exKey_converges`.
Not covered: resizing string merges (guards `ChunksOK` + D12), enum columns (the replica would need the primary's hash).
-/
namespace ColumnVerif.Props.C06store
open ColumnVerif.Codec ColumnVerif.Store ColumnVerif.Bits

/-! ## 1 — what a commit emits -/

/-- **`emitted_of_commit`.** With a logger attached (`.log` or `.channel`), `p.commit t` prepends to the change stream
    (most recent first) the entries `emittedBy p t`: one per dirty chunk, in ascending chunk order, under consecutive ids,
    each with as many buffers under the same names as the transaction — when the transaction has markers or a non-empty
    buffer of an existing column (`C15.emits`), nothing otherwise. -/
theorem emitted_of_commit (p : Store) (t : Txn) (hl : p.logger ≠ .none) :
    (p.commit t).emitted = (emittedBy p t).reverse ++ p.emitted ∧
    (emittedBy p t).map (·.chunk) = (if C15.emits p t = true then t.dirtyChunks else []) ∧
    (emittedBy p t).map (·.id) =
      (if C15.emits p t = true then List.range' (p.nextId + 1) t.dirtyChunks.length else []) ∧
    (∀ e ∈ emittedBy p t, e.updates.map StorePlumb.bufSig = t.updates.map StorePlumb.bufSig) := by
  have h1 := Store.emitted_of_commit p t hl
  obtain ⟨_, c2, c3, c4, _⟩ := C15.commit_emits_once_per_dirty_chunk p t hl
  rw [C15.newCommits_of_append h1] at c2 c3 c4
  refine ⟨h1, ?_, ?_, ?_⟩
  · have := congrArg List.reverse c2
    rw [List.map_reverse, List.reverse_reverse] at this
    rw [this]
    split <;> simp
  · rw [List.reverse_reverse] at c3
    exact c3
  · intro e he
    exact c4 e (List.mem_reverse.2 he)

/-- the entries are those of the chunk loop, started from the store `commitCapacity` leaves … -/
theorem emittedBy_eq (p : Store) (t : Txn) :
    emittedBy p t = loopEmitted t.markers.isSome t.dirtyChunks (capStore p t) t.updates := rfl

/-- … one latch section after the other, each handing on the buffers **as its own pass leaves them** (`(commitChunk …).2`:
    the sections of the chunk rewritten by the main pass, the sections of the later chunks still as issued) -/
theorem loopEmitted_eq (cr : Bool) (c : Nat) (cs : List Nat) (s : Store) (ups : List Buf) :
    loopEmitted cr (c :: cs) s ups =
      (if (cr || StorePlumb.updatedFlag s ups) = true then [⟨s.nextId + 1, c, (s.commitChunk c cr ups).2⟩] else []) ++
        loopEmitted cr cs (s.commitChunk c cr ups).1 (s.commitChunk c cr ups).2 := rfl

/-- what the `.log` logger delivers of an entry: every buffer restricted to the entry's chunk, empty ones dropped -/
theorem received_log_eq (e : Emitted) :
    e.received .log = (e.updates.map (fun b => restrictBuf b e.chunk)).filter (fun b => !b.isEmpty) := rfl

/-- … which holds, for the entry's chunk, the ops of every column and (with distinct buffer names) the markers the entry
    carries; only sections of that chunk -/
theorem received_log_ops (e : Emitted) (hd : BufsDistinct e.updates) :
    (∀ x, opsFor (e.received .log) x e.chunk = opsFor e.updates x e.chunk) ∧
    markerOps (e.received .log) e.chunk = markerOps e.updates e.chunk ∧
    (∀ b ∈ e.received .log, ∀ c ∈ b.chunks, c = e.chunk) := by
  have hdl := delivers_log e.updates e.chunk hd
  have hne : nonEmpty (recvLog e.updates e.chunk) = recvLog e.updates e.chunk := nonEmpty_idem _
  rw [received_log]
  refine ⟨fun x => ?_, ?_, hdl.chunks⟩
  · have := hdl.ops x
    rw [hne] at this; exact this
  · have := hdl.markers
    rw [hne] at this; exact this

/-- **the entry of one chunk, numeric column `x`**: the marker buffer is handed on untouched; the buffer(s) of `x` hold, for
    the chunk, the ops the transaction issued **as rewritten by the main pass** in the column state the markers leave — no
    `Merge` is left, same offsets in the same order -/
theorem emitted_chunk_ops_num (s : Store) (ch : Nat) (ups : List Buf) (x : String) (col : Col) (k : NumKind)
    (hxr : x ≠ rowColumn) (hf : s.findCol x = some col) (hk : col.kind = .num k) (hch : ch < col.nchunks)
    (hck : ComputedKinds s) :
    let ups1 := (s.commitChunk ch (ups.find? isMarkerBuf).isSome ups).2
    markerOps ups1 ch = markerOps ups ch ∧
    opsFor ups1 x ch = (applyData s.hash (applyData s.hash col ch (markerOps ups ch)).col ch (opsFor ups x ch)).ops ∧
    (∀ o ∈ opsFor ups1 x ch, o.typ ≠ opMerge) ∧
    (opsFor ups1 x ch).map (·.idx) = (opsFor ups x ch).map (·.idx) := by
  dsimp only
  have hd : col.kind.isData = true := by rw [hk]; rfl
  have hsh := applyData_sameShape s.hash col ch (markerOps ups ch)
  have o1 := (commitChunk_col_full s ch _ ups x col hxr hf hd (notComputed_of_computedKinds s hck x col hf hd ups)
    (by rw [markerOpsCr_isSome]; exact appended_nil_num _ _ k (hsh.kind.trans hk) _ _)).2.2.2
  rw [markerOpsCr_isSome] at o1
  obtain ⟨_, _, e3, e4⟩ := C06.applyData_num_emitted s.hash k (applyData s.hash col ch (markerOps ups ch)).col ch
    (opsFor ups x ch) (hsh.kind.trans hk) (by rw [hsh.nchunks]; exact hch)
  rw [o1]
  exact ⟨commitChunk_markerOps s ch _ ups ch, rfl, e3, e4⟩

/-- **the stream of a commit for a numeric column, closed form.** `p.commit t` emits (logger attached, `C15.emits`), no
    `Merge` among the markers, distinct buffer names. Entry by entry, what the `.log` logger delivers for the entry's chunk —
    its markers followed by the ops of `x` — is `emittedOps`: for the dirty chunks in ascending order, the markers of the chunk
    followed by the ops issued for `x` in it, **rewritten** by `applyData` (`.ops`: every `Merge` replaced by the `Put` of its
    result) in the column state the previous chunks leave (`commit_col`'s fold), from the column as `commitCapacity` leaves it -/
theorem emitted_stream_num (p : Store) (t : Txn) (x : String) (cp : Col) (k : NumKind) (hxr : x ≠ rowColumn)
    (hfp : p.findCol x = some cp) (hkp : cp.kind = .num k) (hckp : ComputedKinds p) (hd : BufsDistinct t.updates)
    (hmk : ∀ o ∈ markerAll t.updates, o.typ ≠ opMerge) (hE : C15.emits p t = true) :
    (emittedBy p t).map (fun e => (e.chunk, markerOps (e.received .log) e.chunk ++ opsFor (e.received .log) x e.chunk)) =
      emittedOps p.hash t.updates x t.dirtyChunks (capCol p t cp) := by
  rw [← emittedBy_ops_num p t x cp k hxr hfp hkp hckp hmk hE]
  apply List.map_congr_left
  intro e he
  obtain ⟨h1, h2, _⟩ := received_log_ops e (distinct_of_sigs (loopEmitted_sigs _ _ _ _ e he).1 hd)
  rw [h1 x, h2]
  rfl

theorem emittedOps_cons (hash : Bytes → Nat) (ups : List Buf) (x : String) (c : Nat) (cs : List Nat) (col : Col) :
    emittedOps hash ups x (c :: cs) col =
      (c, (applyData hash col c (markerOps ups c ++ opsFor ups x c)).ops) ::
        emittedOps hash ups x cs (applyData hash col c (markerOps ups c ++ opsFor ups x c)).col := rfl

/-! ## 2 — one chunk: the primary's latch section, the replica's replay of the entry -/

/-- **`replay_log_col_data`.** Primary `p` and replica `r` both register the data column `x`: numeric on both sides (kinds and
    merge functions unrelated), string / record on both sides, or key on both sides (`KindsMatch`); well-formed, the chunk
    allocated on the primary (`commitCapacity` has run) and the replica's column covering its committed chunks; the primary's
    pass of the chunk appends nothing (`hna`). The primary runs the latch section of chunk `ch` over the buffers `ups` and
    emits the entry `e` (under any id); the replica replays `e.received .log`. Then

    * every offset whose slot (presence bit + raw bytes) agreed before agrees after — in particular, slots equal on chunk
      `ch` before are equal on chunk `ch` after;
    * offsets of the other chunks are untouched on both sides;
    * shapes are kept (so the statement chains). -/
theorem replay_log_col_data (p r : Store) (ch : Nat) (ups : List Buf) (id : Nat) (x : String) (cp cq : Col)
    (hxr : x ≠ rowColumn) (hfp : p.findCol x = some cp) (hfr : r.findCol x = some cq)
    (hkm : KindsMatch cp.kind cq.kind) (hwp : ColWF cp) (hwr : ColWF cq)
    (hchp : ch < cp.nchunks) (hcovr : r.commits.size ≤ cq.nchunks)
    (hckp : ComputedKinds p) (hckr : ComputedKinds r) (hdist : BufsDistinct ups)
    (hco : ∀ o ∈ markerOps ups ch ++ opsFor ups x ch, chunkOf o.idx = ch)
    (hmk : ∀ o ∈ markerOps ups ch, o.typ ≠ opMerge)
    (hna : (applyData p.hash (applyData p.hash cp ch (markerOps ups ch)).col ch (opsFor ups x ch)).appended = []) :
    let pc := p.commitChunk ch (ups.find? isMarkerBuf).isSome ups
    let e : Emitted := ⟨id, ch, pc.2⟩
    ∃ cp' cq', pc.1.findCol x = some cp' ∧ (r.replay ch (e.received .log)).findCol x = some cq' ∧
      (∀ i, slot cq i = slot cp i → slot cq' i = slot cp' i) ∧
      (∀ i, chunkOf i ≠ ch → slot cq' i = slot cq i ∧ slot cp' i = slot cp i) ∧
      SameShape cp cp' ∧ cq'.kind = cq.kind ∧ ColWF cq' ∧ (r.replay ch (e.received .log)).commits.size ≤ cq'.nchunks := by
  intro pc e
  obtain ⟨hdp, hdr⟩ := hkm.isData
  have hcompP := notComputed_of_computedKinds p hckp x cp hfp hdp ups
  have hone : BufsDistinct pc.2 := distinct_of_sigs (StorePlumb.commitChunk_sigs p ch _ ups) hdist
  obtain ⟨cq', g2, g4, g5, g6, g7⟩ := chunk_replay hxr ⟨hfp, hfr, hkm, hwp, hwr, hcovr, hckp, hckr⟩ ch ups (e.received .log)
    hchp hco hmk hna (delivers_log pc.2 ch hone)
  have f1 := commitChunk_col p ch _ ups x cp hxr hfp hdp hcompP (by rw [markerOpsCr_isSome]; exact hna)
  rw [markerOpsCr_isSome] at f1
  exact ⟨_, cq', f1, g2, fun i => g7 [ch] _ (by simp) (passInv_eq hkm _ i),
    fun i hi => g7 [ch] _ (by simp) (passInv_frame _ _ [ch] i (by simpa using hi) _ _) ⟨rfl, rfl⟩,
    applyData_sameShape _ _ _ _, g4, g5, g6⟩

/-- **`replay_log_col`**: the numeric instance — no condition on the ops -/
theorem replay_log_col (p r : Store) (ch : Nat) (ups : List Buf) (id : Nat) (x : String) (cp cq : Col) (k k2 : NumKind)
    (hxr : x ≠ rowColumn) (hfp : p.findCol x = some cp) (hfr : r.findCol x = some cq)
    (hkp : cp.kind = .num k) (hkr : cq.kind = .num k2) (hwp : ColWF cp) (hwr : ColWF cq)
    (hchp : ch < cp.nchunks) (hcovr : r.commits.size ≤ cq.nchunks)
    (hckp : ComputedKinds p) (hckr : ComputedKinds r) (hdist : BufsDistinct ups)
    (hco : ∀ o ∈ markerOps ups ch ++ opsFor ups x ch, chunkOf o.idx = ch)
    (hmk : ∀ o ∈ markerOps ups ch, o.typ ≠ opMerge) :
    let pc := p.commitChunk ch (ups.find? isMarkerBuf).isSome ups
    let e : Emitted := ⟨id, ch, pc.2⟩
    ∃ cp' cq', pc.1.findCol x = some cp' ∧ (r.replay ch (e.received .log)).findCol x = some cq' ∧
      (∀ i, slot cq i = slot cp i → slot cq' i = slot cp' i) ∧
      (∀ i, chunkOf i ≠ ch → slot cq' i = slot cq i ∧ slot cp' i = slot cp i) ∧
      SameShape cp cp' ∧ cq'.kind = cq.kind ∧ ColWF cq' ∧ (r.replay ch (e.received .log)).commits.size ≤ cq'.nchunks :=
  replay_log_col_data p r ch ups id x cp cq hxr hfp hfr (kindsMatch_num hkp hkr) hwp hwr hchp hcovr hckp hckr hdist hco hmk
    (appended_nil_num _ _ k ((applyData_sameShape p.hash cp ch _).kind.trans hkp) _ _)

/-- the same for the fill list: a bit that agreed before agrees after (no condition on the buffers beyond distinct names) -/
theorem replay_log_fill (p r : Store) (ch : Nat) (ups : List Buf) (id : Nat) (hdist : BufsDistinct ups) (j : Nat)
    (hs : Bits.get r.fill j = Bits.get p.fill j) :
    let pc := p.commitChunk ch (ups.find? isMarkerBuf).isSome ups
    let e : Emitted := ⟨id, ch, pc.2⟩
    Bits.get (r.replay ch (e.received .log)).fill j = Bits.get pc.1.fill j := by
  intro pc e
  have hone : BufsDistinct pc.2 := distinct_of_sigs (StorePlumb.commitChunk_sigs p ch _ ups) hdist
  exact chunk_replay_fill p r ch ups (e.received .log) (delivers_log pc.2 ch hone) j (Or.inl hs)

/-! ## 3 — a whole commit, a whole history -/

/-- with the `.log` logger, the entries a commit added to the stream are `emittedBy p t` (C15's `newCommits`, reversed) -/
theorem newCommits_eq (p : Store) (t : Txn) (hl : p.logger ≠ .none) :
    (C15.newCommits p (p.commit t)).reverse = emittedBy p t := by
  rw [C15.newCommits_of_append (Store.emitted_of_commit p t hl), List.reverse_reverse]

/-- **`replay_log_commit`.** The primary commits `t` (any number of dirty chunks, any mix of markers, puts, merges,
    deletes), the replica replays every entry the commit emits, in emission order, as the `.log` logger delivers them.
    A numeric column in sync before is in sync after; fill lists that agreed agree; the replica keeps `ComputedKinds`. -/
theorem replay_log_commit (p r : Store) (t : Txn) (x : String) (hxr : x ≠ rowColumn)
    (hckp : ComputedKinds p) (hckr : ComputedKinds r) (hok : TxnOK x t) :
    (NumSync x p r → NumSync x (p.commit t) (replayAll .log r (emittedBy p t))) ∧
    (FillSync p r → FillSync (p.commit t) (replayAll .log r (emittedBy p t))) ∧
    ComputedKinds (p.commit t) ∧ (NumSync x p r → ComputedKinds (replayAll .log r (emittedBy p t))) := by
  have hdl := emittedBy_delivers_log p t hok.distinct
  exact ⟨fun h => (commit_replay_num x hxr .log p r t hckp hckr hok hdl h).1,
    commit_replay_fill .log p r t hdl, commit_computedKinds p t hckp,
    fun h => (commit_replay_num x hxr .log p r t hckp hckr hok hdl h).2⟩

/-- the per-offset form, with the frame: an offset in sync before is in sync after (the others need not be); offsets of
    chunks the transaction does not touch are left alone on both sides -/
theorem replay_log_commit_slots (p r : Store) (t : Txn) (x : String) (cp cq : Col) (k k2 : NumKind) (hxr : x ≠ rowColumn)
    (hfp : p.findCol x = some cp) (hfr : r.findCol x = some cq) (hkp : cp.kind = .num k) (hkr : cq.kind = .num k2)
    (hwp : ColWF cp) (hwr : ColWF cq) (hcovp : p.commits.size ≤ cp.nchunks) (hcovr : r.commits.size ≤ cq.nchunks)
    (hckp : ComputedKinds p) (hckr : ComputedKinds r) (hok : TxnOK x t) :
    ∃ cp' cq', (p.commit t).findCol x = some cp' ∧ (replayAll .log r (emittedBy p t)).findCol x = some cq' ∧
      (∀ i, slot cq i = slot cp i → slot cq' i = slot cp' i) ∧
      (∀ i, chunkOf i ∉ t.dirtyChunks → slot cq' i = slot cq i ∧ slot cp' i = slot cp i) := by
  have hkm := kindsMatch_num hkp hkr
  have hna := noAppend_num p.hash t.updates x t.dirtyChunks (capCol p t cp) ((capCol_meta p t cp).2.1.trans hkp)
  obtain ⟨cq', P', _, _, _, g8⟩ := commit_replay hxr .log ⟨hfp, hfr, hkm, hwp, hwr, hcovr, hckp, hckr⟩ t hcovp hok hna
    (emittedBy_delivers_log p t hok.distinct)
  exact ⟨_, cq', P'.fp, P'.fr, fun i => g8 _ (passInv_eq hkm _ i),
    fun i hi => g8 _ (passInv_frame _ _ _ i hi _ _) ⟨rfl, rfl⟩⟩

/-- what the history theorem asks of every transaction (for all columns at once): distinct buffer names, every buffer keeps
    its ops in sections of their own chunk (both kept by the writer API: `putOp_distinct`, `Buf.Inv`), no `Merge` in the
    marker buffer (the API writes `Insert` / `Delete` there) -/
structure TxnWF (t : Txn) : Prop where
  distinct : BufsDistinct t.updates
  chunkOK : ∀ v ∈ t.updates, ChunkOK v
  markers : ∀ o ∈ markerAll t.updates, o.typ ≠ opMerge

instance (t : Txn) : Decidable (TxnWF t) :=
  decidable_of_iff (BufsDistinct t.updates ∧ (∀ v ∈ t.updates, ChunkOK v) ∧ ∀ o ∈ markerAll t.updates, o.typ ≠ opMerge)
    ⟨fun h => ⟨h.1, h.2.1, h.2.2⟩, fun h => ⟨h.distinct, h.chunkOK, h.markers⟩⟩

theorem TxnWF.ok {t : Txn} (h : TxnWF t) (x : String) : TxnOK x t :=
  ⟨h.distinct, fun v hv _ => h.chunkOK v hv, h.markers⟩

/-- the history theorem for any logger kind `kd` whose deliveries `Delivers`, the replica replaying `es`, which is what the
    commits emitted (the `.log` and `.channel` versions below are instances) -/
theorem replica_converges_of_delivery (kd : LoggerKind) (p r : Store) (ts : List Txn) (es : List Emitted)
    (hes : es = emittedByAll p ts) (hckp : ComputedKinds p) (hckr : ComputedKinds r) (hts : ∀ t ∈ ts, TxnWF t)
    (hdl : ∀ e ∈ emittedByAll p ts, Delivers e.updates e.chunk (e.received kd)) (hfill : FillSync p r) :
    let p' := ts.foldl Store.commit p
    let r' := replayAll kd r es
    (∀ x, x ≠ rowColumn → NumSync x p r →
      NumSync x p' r' ∧ ∃ cp cq, p'.findCol x = some cp ∧ r'.findCol x = some cq ∧ ∀ i, cq.read i = cp.read i) ∧
    (∀ j, Bits.get r'.fill j = Bits.get p'.fill j) := by
  subst hes
  refine ⟨fun x hxr hs => ?_, commits_replay_fill kd ts p r hdl hfill⟩
  have h := commits_replay_num x hxr kd ts p r hckp hckr (fun t ht => (hts t ht).ok x) hdl hs
  exact ⟨h, h.read⟩

/-- the entries a history added to the change stream (C15's `newCommits`, most recent first), reversed, are what its
    commits emitted -/
theorem newCommits_commits (p : Store) (ts : List Txn) (hl : p.logger ≠ .none) :
    (C15.newCommits p (ts.foldl Store.commit p)).reverse = emittedByAll p ts := by
  rw [C15.newCommits_of_append (emitted_of_commits ts p hl), List.reverse_reverse]

/-- **`replica_converges_store`.** Primary `p` with the `.log` logger and an empty change stream; replica `r` (any logger,
    any merge functions, any hash). Both have computed columns of computed kinds only (`ComputedKinds`, kept by commits), the
    fill lists agree. The primary commits the transactions `ts` one after the other (sequential, hence quiescent at the
    end); the replica replays the whole change stream `p'.emitted` in emission order. Then

    * every numeric column that was in sync (`NumSync`: same name, numeric on both sides, equal slots — e.g. both freshly
      created, `numSync_createColumn`, `same_schema_same_start`) is in sync, and **reads the same at every offset** on
      both sides;
    * the fill lists agree bit by bit (rows inserted / deleted: the markers are part of what is emitted). -/
theorem replica_converges_store (p r : Store) (ts : List Txn) (hl : p.logger = .log) (hem : p.emitted = [])
    (hckp : ComputedKinds p) (hckr : ComputedKinds r) (hts : ∀ t ∈ ts, TxnWF t) (hfill : FillSync p r) :
    let p' := ts.foldl Store.commit p
    let r' := replayAll .log r p'.emitted.reverse
    (∀ x, x ≠ rowColumn → NumSync x p r →
      NumSync x p' r' ∧ ∃ cp cq, p'.findCol x = some cp ∧ r'.findCol x = some cq ∧ ∀ i, cq.read i = cp.read i) ∧
    (∀ j, Bits.get r'.fill j = Bits.get p'.fill j) :=
  replica_converges_of_delivery .log p r ts _ (commits_stream ts p (by rw [hl]; decide) hem) hckp hckr hts
    (emittedByAll_delivers_log ts p (fun t ht => (hts t ht).distinct)) hfill

/-- the same from any state of the change stream: the replica replays the entries the history ADDED (C15's `newCommits`,
    most recent first, reversed) -/
theorem replica_converges_store_from (p r : Store) (ts : List Txn) (hl : p.logger = .log)
    (hckp : ComputedKinds p) (hckr : ComputedKinds r) (hts : ∀ t ∈ ts, TxnWF t) (hfill : FillSync p r) :
    let p' := ts.foldl Store.commit p
    let r' := replayAll .log r (C15.newCommits p p').reverse
    (∀ x, x ≠ rowColumn → NumSync x p r →
      NumSync x p' r' ∧ ∃ cp cq, p'.findCol x = some cp ∧ r'.findCol x = some cq ∧ ∀ i, cq.read i = cp.read i) ∧
    (∀ j, Bits.get r'.fill j = Bits.get p'.fill j) :=
  replica_converges_of_delivery .log p r ts _ (newCommits_commits p ts (by rw [hl]; decide)) hckp hckr hts
    (emittedByAll_delivers_log ts p (fun t ht => (hts t ht).distinct)) hfill

/-- **`replica_converges_store_reserved`** — the history theorem when inserts reserve their offsets first. `Txn.insert` /
    `Txn.reserve` set the bit of the new row in the SHARED fill list at once (`Store.next`; `Store.free` on a failed insert), before
    the commit; the `Insert` marker reaches the replica with the commit. A step of the history is therefore: the fill list and
    row counter as the transaction's reservations leave them (`Store.reserved`), then `Store.commit`. Hypothesis `ResRun`: at
    every step the reserved fill list differs from the committed one only at offsets some marker of the transaction addresses
    (for `Store.next`: the one bit it returns, `next_fill_get`). Markers are `Insert` / `Delete`. Same conclusions as
    `replica_converges_store` (which is the case without reservations, `ResStep.plain`). -/
theorem replica_converges_store_reserved (p r : Store) (sts : List ResStep) (hl : p.logger = .log) (hem : p.emitted = [])
    (hckp : ComputedKinds p) (hckr : ComputedKinds r)
    (hts : ∀ st ∈ sts, TxnWF st.txn ∧ ∀ o ∈ markerAll st.txn.updates, isMarkerOp o)
    (hres : ResRun p sts) (hfill : FillSync p r) :
    let p' := sts.foldl ResStep.run p
    let r' := replayAll .log r p'.emitted.reverse
    (∀ x, x ≠ rowColumn → NumSync x p r →
      NumSync x p' r' ∧ ∃ cp cq, p'.findCol x = some cp ∧ r'.findCol x = some cq ∧ ∀ i, cq.read i = cp.read i) ∧
    (∀ j, Bits.get r'.fill j = Bits.get p'.fill j) := by
  have hstream : (sts.foldl ResStep.run p).emitted.reverse = emittedBySteps p sts := by
    rw [emitted_of_steps sts p (by rw [hl]; decide), hem, List.append_nil, List.reverse_reverse]
  have hdl := emittedBySteps_delivers_log sts p (fun st hst => (hts st hst).1.distinct)
  dsimp only
  rw [hstream]
  refine ⟨fun x hxr hs => ?_, steps_replay_fill .log sts p r hdl
    (fun st hst => ⟨(hts st hst).2, fun m hm _ => (hts st hst).1.chunkOK m hm⟩) hres hfill⟩
  have h := steps_replay_num x hxr .log sts p r hckp hckr (fun st hst => (hts st hst).1.ok x) hdl hs
  exact ⟨h, h.read⟩

/-- what `Txn.reserve` does to the store is such a reservation, and the one bit it changes is the offset it returns -/
theorem reserve_is_reservation (p : Store) (t : Txn) :
    (t.reserve p).1 = p.reserved (Bits.set p.fill (t.reserve p).2.2) (p.count + 1) ∧
    ∀ j, Bits.get (t.reserve p).1.fill j ≠ Bits.get p.fill j → j = (t.reserve p).2.2 :=
  ⟨rfl, fun j h => next_fill_get p j h⟩

/-! ### the same schema on both sides -/

/-- **same schema ⇒ same start.** Two collections built by `NewCollection` + `CreateColumn` with the same numeric column
    names — numeric kinds, merge functions, capacities, loggers and hash functions all free — agree on the registered names,
    every registered column is in sync, the fill lists agree, no computed columns -/
theorem same_schema_same_start (cap cap2 : Nat) (lg lg2 : LoggerKind) (hash hash2 : Bytes → Nat)
    (cols cols2 : List (String × NumKind × (Bytes → Bytes → Bytes))) (hn : cols2.map (·.1) = cols.map (·.1)) :
    SameStart (mkStore cap lg hash cols) (mkStore cap2 lg2 hash2 cols2) :=
  mkStore_sameStart cap cap2 lg lg2 hash hash2 cols cols2 hn

/-- **`replica_converges_fresh`** — the closed form: primary built with the `.log` logger, replica built with the same column
    names (its own kinds / merge functions / capacity / logger / hash); any sequence of well-formed transactions committed on
    the primary, the whole change stream replayed on the replica: every registered column reads the same at every offset on
    both sides (`none` = row absent), and the fill lists agree. -/
theorem replica_converges_fresh (cap cap2 : Nat) (lg2 : LoggerKind) (hash hash2 : Bytes → Nat)
    (cols cols2 : List (String × NumKind × (Bytes → Bytes → Bytes))) (hn : cols2.map (·.1) = cols.map (·.1))
    (ts : List Txn) (hts : ∀ t ∈ ts, TxnWF t) :
    let p' := ts.foldl Store.commit (mkStore cap .log hash cols)
    let r' := replayAll .log (mkStore cap2 lg2 hash2 cols2) p'.emitted.reverse
    (∀ x cp, x ≠ rowColumn → p'.findCol x = some cp → ∃ cq, r'.findCol x = some cq ∧ ∀ i, cq.read i = cp.read i) ∧
    (∀ j, Bits.get r'.fill j = Bits.get p'.fill j) := by
  intro p' r'
  have hst := mkStore_sameStart cap cap2 .log lg2 hash hash2 cols cols2 hn
  obtain ⟨q1, q2⟩ := mkStore_quiet cap .log hash cols
  obtain ⟨h1, h2⟩ := replica_converges_store (mkStore cap .log hash cols) (mkStore cap2 lg2 hash2 cols2) ts q2 q1
    (computedKinds_of_noComputed _ hst.ncp) (computedKinds_of_noComputed _ hst.ncr) hts hst.fill
  refine ⟨?_, h2⟩
  intro x cp hxr hf
  -- the column exists after the commits, hence before (commits keep the registry)
  have hbefore : (mkStore cap .log hash cols).findCol x ≠ none := by
    intro hnone
    have hp := commits_plumb ts (mkStore cap .log hash cols)
    have := hp.findCol x
    rw [hnone] at this
    have hf' : (p'.findCol x).isSome = true := by rw [hf]; rfl
    rw [this] at hf'
    cases hf'
  obtain ⟨_, cp', cq', e1, e2, e3⟩ := h1 x hxr (hst.cols x hbefore)
  rw [hf] at e1
  cases e1
  exact ⟨cq', e2, e3⟩

/-! ## 4 — the `.channel` logger: transactions that touch a single chunk

The `.channel` logger hands the replica a clone of ALL buffers of the transaction (finding D16), and `Store.replay` — a commit
— walks every chunk that has a header in any of them. For a transaction whose dirty chunks are one chunk, what is delivered
is what the `.log` logger delivers (`emittedBy_delivers_channel`), so everything above holds. -/

/-- a whole commit of a single-chunk transaction through the `.channel` logger -/
theorem replay_channel_commit (p r : Store) (t : Txn) (ch : Nat) (x : String) (hxr : x ≠ rowColumn)
    (hckp : ComputedKinds p) (hckr : ComputedKinds r) (hok : TxnWF t) (hsingle : t.dirtyChunks = [ch]) :
    (NumSync x p r → NumSync x (p.commit t) (replayAll .channel r (emittedBy p t))) ∧
    (FillSync p r → FillSync (p.commit t) (replayAll .channel r (emittedBy p t))) ∧
    (NumSync x p r → ComputedKinds (replayAll .channel r (emittedBy p t))) := by
  have hdl := emittedBy_delivers_channel p t ch hsingle hok.chunkOK
  exact ⟨fun h => (commit_replay_num x hxr .channel p r t hckp hckr (hok.ok x) hdl h).1,
    commit_replay_fill .channel p r t hdl,
    fun h => (commit_replay_num x hxr .channel p r t hckp hckr (hok.ok x) hdl h).2⟩

/-- **`replica_converges_store_channel`**: the history theorem for the `.channel` logger, every transaction touching one
    chunk (not necessarily the same one) -/
theorem replica_converges_store_channel (p r : Store) (ts : List Txn) (hl : p.logger = .channel) (hem : p.emitted = [])
    (hckp : ComputedKinds p) (hckr : ComputedKinds r) (hts : ∀ t ∈ ts, TxnWF t ∧ ∃ ch, t.dirtyChunks = [ch])
    (hfill : FillSync p r) :
    let p' := ts.foldl Store.commit p
    let r' := replayAll .channel r p'.emitted.reverse
    (∀ x, x ≠ rowColumn → NumSync x p r →
      NumSync x p' r' ∧ ∃ cp cq, p'.findCol x = some cp ∧ r'.findCol x = some cq ∧ ∀ i, cq.read i = cp.read i) ∧
    (∀ j, Bits.get r'.fill j = Bits.get p'.fill j) :=
  replica_converges_of_delivery .channel p r ts _ (commits_stream ts p (by rw [hl]; decide) hem) hckp hckr
    (fun t ht => (hts t ht).1)
    (emittedByAll_delivers_channel ts p (fun t ht => ⟨(hts t ht).2, (hts t ht).1.chunkOK⟩)) hfill

/-! ### D16: why multi-chunk transactions are excluded

In the model, as in the code (`Txn.commit` marks dirty every chunk that has a header in any buffer, `RangeChunks`), the replay
of a `.channel` entry walks ALL chunks of the cloned buffers: the entry of the first chunk of a multi-chunk transaction makes
the replica apply the later chunks too — as issued, `Merge` ops not yet rewritten, hence through the REPLICA's merge function —
and every later entry of the transaction re-applies the earlier chunks (`channel_multichunk_not_delivered`, section 5: the
mechanism, evaluated by the kernel on the example transaction `exT1`).

Sequentially (one `Store.commit` after the other, the replica replaying the complete stream) the rewritten puts of the later
entries overwrite these values again: with `Store.commit` alone — atomic over its chunks — finding D16 does not show at
quiescence. It shows as soon as another transaction commits to an earlier chunk between two latch sections of the multi-chunk
transaction, i.e. in a concurrent history. The latch section `commitChunk` is the unit of interleaving, so that history can be
written down by hand: `channel_multichunk_counterexample` (after section 5) — the primary ends with the later transaction's
value, the `.channel`-fed replica with the earlier one, the `.log`-fed replica equal to the primary. -/

/-! ## 5 — non-vacuity -/

/-- a non-additive merge: keep the larger value -/
def maxMerge : Bytes → Bytes → Bytes := fun v d => if beNat v < beNat d then d else v

/-- the primary: `.log` logger; `a` an `int64` column that adds, `b` an `int32` column that keeps the maximum -/
def exColsP : List (String × NumKind × (Bytes → Bytes → Bytes)) := [("a", .i64, addMerge64), ("b", .i32, maxMerge)]
def exColsR : List (String × NumKind × (Bytes → Bytes → Bytes)) := [("a", .i64, fun _ d => d), ("b", .i32, fun v _ => v)]
def exPrimary : Store := mkStore 1024 .log (fun _ => 0) exColsP

/-- the replica: another capacity, no logger, another hash; `a` overwrites on merge, `b` ignores the delta -/
def exReplica : Store := mkStore 512 .none (fun _ => 7) exColsR

def v64 (n : Nat) : Val := .fixed 3 (natToBE 8 n)
def v32 (n : Nat) : Val := .fixed 2 (natToBE 4 n)

/-- insert rows 5 (chunk 0) and 16389 (chunk 1); puts and merges on both columns, two merges on the same offset -/
def exT1 : Txn :=
  ([(rowColumn, ⟨opInsert, 5, .fixed 0 []⟩), ("a", ⟨opPut, 5, v64 10⟩), ("b", ⟨opMerge, 5, v32 3⟩),
    (rowColumn, ⟨opInsert, 16389, .fixed 0 []⟩), ("a", ⟨opMerge, 16389, v64 7⟩), ("b", ⟨opPut, 16389, v32 9⟩),
    ("b", ⟨opMerge, 5, v32 2⟩)] : List (String × Op)).foldl (fun t p => t.putOp p.1 p.2) {}

/-- merges on both columns in both chunks, a row deleted -/
def exT2 : Txn :=
  ([("a", ⟨opMerge, 5, v64 5⟩), ("b", ⟨opMerge, 16389, v32 4⟩), (rowColumn, ⟨opDelete, 16389, .fixed 0 []⟩),
    ("a", ⟨opMerge, 16389, v64 1⟩), ("b", ⟨opMerge, 5, v32 8⟩)] : List (String × Op)).foldl (fun t p => t.putOp p.1 p.2) {}

theorem exT_wf : ∀ t ∈ [exT1, exT2], TxnWF t := by decide

example : exT1.dirtyChunks = [0, 1] ∧ exT2.dirtyChunks = [0, 1] := by decide +kernel
example : (∃ o ∈ allFor exT1.updates "b", o.typ = opMerge) ∧ (∃ o ∈ allFor exT2.updates "a", o.typ = opMerge) := by
  decide +kernel
example : exPrimary.logger = .log ∧ exPrimary.emitted = [] := by decide
-- the model evaluated: two transactions over two chunks each — four entries in the stream, most recent first
example : ([exT1, exT2].foldl Store.commit exPrimary).emitted.map (fun e => (e.id, e.chunk)) = [(4, 1), (3, 0), (2, 1), (1, 0)] := by
  decide +kernel

/-- the history theorem applied: after the two commits and the replay of the four entries, the columns `a`, `b` (and `expire`)
    read the same at every offset on both sides, and the fill lists agree — although the replica's merge functions differ -/
theorem ex_converges :
    let p' := [exT1, exT2].foldl Store.commit exPrimary
    let r' := replayAll .log exReplica p'.emitted.reverse
    (∀ x cp, x ≠ rowColumn → p'.findCol x = some cp → ∃ cq, r'.findCol x = some cq ∧ ∀ i, cq.read i = cp.read i) ∧
    (∀ j, Bits.get r'.fill j = Bits.get p'.fill j) :=
  replica_converges_fresh 1024 512 .none (fun _ => 0) (fun _ => 7) exColsP exColsR rfl [exT1, exT2] exT_wf

/-- the hypotheses of the one-chunk and one-commit theorems hold on the example too -/
example : SameStart exPrimary exReplica := same_schema_same_start _ _ _ _ _ _ exColsP exColsR rfl
example : TxnOK "b" exT1 := (exT_wf exT1 (by simp)).ok "b"
example : ("a" : String) ≠ rowColumn ∧ ("b" : String) ≠ rowColumn := by decide
example : NumSync "b" exPrimary exReplica :=
  (same_schema_same_start 1024 512 .log .none (fun _ => 0) (fun _ => 7) exColsP exColsR rfl).cols "b"
    (by show exPrimary.findCol "b" ≠ none; decide +kernel)

/-- the one-chunk theorem `replay_log_col` instantiated: the primary as `commitCapacity` leaves it for `exT1`, the latch
    section of chunk 0, column `b` (two merges on one offset, non-additive merge) -/
example : ∃ cp cq cp' cq', (capStore exPrimary exT1).findCol "b" = some cp ∧ exReplica.findCol "b" = some cq ∧
    ((capStore exPrimary exT1).commitChunk 0 (exT1.updates.find? isMarkerBuf).isSome exT1.updates).1.findCol "b" = some cp' ∧
    (exReplica.replay 0 ((⟨1, 0, ((capStore exPrimary exT1).commitChunk 0 (exT1.updates.find? isMarkerBuf).isSome
      exT1.updates).2⟩ : Emitted).received .log)).findCol "b" = some cq' ∧
    ∀ i, slot cq' i = slot cp' i := by
  have hst := same_schema_same_start 1024 512 .log .none (fun _ => 0) (fun _ => 7) exColsP exColsR rfl
  obtain ⟨cp, cq, k, k2, hfp, hfr, hkp, hkr, hwp, hwr, hcovp, hcovr, hs⟩ :=
    hst.cols "b" (by show exPrimary.findCol "b" ≠ none; decide +kernel)
  obtain ⟨c0, f0, k0, _, w0, n0, s0⟩ := capStore_num exPrimary exT1 "b" k cp hfp hkp hwp hcovp
  have hok := (exT_wf exT1 (by simp)).ok "b"
  obtain ⟨cp', cq', g1, g2, g3, _⟩ := replay_log_col (capStore exPrimary exT1) exReplica 0 exT1.updates 1 "b" c0 cq k k2
    (by decide +kernel) f0 hfr k0 hkr w0 hwr (n0 0 (by decide +kernel)) hcovr
    (capStore_computedKinds _ _ (computedKinds_of_noComputed _ hst.ncp)) (computedKinds_of_noComputed _ hst.ncr)
    hok.distinct (hok.chunkOps 0) (hok.noMerge 0)
  exact ⟨c0, cq, cp', cq', f0, hfr, g1, g2, fun i => g3 i ((hs i).trans (s0 i).symm)⟩

/-- a transaction built the way `Txn.Insert` builds it: reserve an offset in the SHARED fill list (`Store.next`), then write
    the row at that offset -/
def exIns : Store × Txn × Nat := ({} : Txn).reserve exPrimary
/-- the step: the store as the reservation leaves it, the transaction with a value for column `a` -/
def exInsStep : ResStep := ⟨exIns.1.fill, exIns.1.count, exIns.2.1.putOp "a" ⟨opPut, exIns.2.2, v64 42⟩⟩

example : exIns.2.2 = 0 ∧ Bits.get exIns.1.fill 0 = true ∧ Bits.get exPrimary.fill 0 = false := by decide +kernel

theorem exIns_resRun : ResRun exPrimary [exInsStep] := by
  refine ⟨?_, trivial⟩
  intro j hj
  -- `simp only` reduces the projection on the spot; left to unification, the elaborator first runs `reserve` on `exPrimary`
  simp only [exInsStep, exIns] at hj
  rw [(reserve_is_reservation exPrimary {}).2 j hj]
  exact (by decide +kernel : ∃ o ∈ markerAll exInsStep.txn.updates, o.idx = exIns.2.2)

theorem exIns_wf : ∀ st ∈ [exInsStep], TxnWF st.txn ∧ ∀ o ∈ markerAll st.txn.updates, isMarkerOp o := by
  decide +kernel

/-- the history theorem with reservations applied: the primary's fill list already holds the new row when the commit starts,
    the replica's does not — after the replay they agree, and so do the columns -/
theorem exIns_converges :
    let p' := [exInsStep].foldl ResStep.run exPrimary
    let r' := replayAll .log exReplica p'.emitted.reverse
    (∃ cp cq, p'.findCol "a" = some cp ∧ r'.findCol "a" = some cq ∧ ∀ i, cq.read i = cp.read i) ∧
    (∀ j, Bits.get r'.fill j = Bits.get p'.fill j) := by
  have hst := same_schema_same_start 1024 512 .log .none (fun _ => 0) (fun _ => 7) exColsP exColsR rfl
  obtain ⟨h1, h2⟩ := replica_converges_store_reserved exPrimary exReplica [exInsStep] (by decide) (by decide)
    (computedKinds_of_noComputed _ hst.ncp) (computedKinds_of_noComputed _ hst.ncr) exIns_wf exIns_resRun hst.fill
  exact ⟨(h1 "a" (by decide) (hst.cols "a" (by show exPrimary.findCol "a" ≠ none; decide +kernel))).2, h2⟩

/-- a single-chunk transaction for the `.channel` theorems -/
def exT3 : Txn :=
  ([(rowColumn, ⟨opInsert, 16390, .fixed 0 []⟩), ("a", ⟨opMerge, 16390, v64 2⟩), ("b", ⟨opMerge, 16390, v32 6⟩),
    ("a", ⟨opMerge, 16390, v64 3⟩)] : List (String × Op)).foldl (fun t p => t.putOp p.1 p.2) {}

example : TxnWF exT3 ∧ ∃ ch, exT3.dirtyChunks = [ch] := ⟨by decide, 1, by decide⟩

def exPrimaryCh : Store := mkStore 1024 .channel (fun _ => 0) exColsP

/-- the first entry `exT1` emits (chunk 0) -/
def exE0 : Emitted := (emittedBy exPrimaryCh exT1).headD default

/-- **D16, the mechanism** (the model evaluated by the kernel). `exT1` touches chunks 0 and 1. Its first entry is the one of
    chunk 0. Delivered by `.channel`, its replay walks chunks 0 AND 1, and what it applies to column `a` in chunk 1 is the
    transaction's `Merge`, not yet rewritten (the primary has not reached chunk 1 when it clones the buffers) — so the delivery
    is not a `Delivers`. Delivered by `.log`, the replay walks chunk 0 only and holds nothing for chunk 1. -/
theorem channel_multichunk_not_delivered :
    (emittedBy exPrimaryCh exT1).map (·.chunk) = [0, 1] ∧ exE0.chunk = 0 ∧
    (replayTxn exE0.chunk (exE0.received .channel)).dirtyChunks = [0, 1] ∧
    (∃ o ∈ opsFor (exE0.received .channel) "a" 1, o.typ = opMerge) ∧
    ¬ Delivers exE0.updates exE0.chunk (exE0.received .channel) ∧
    (replayTxn exE0.chunk (exE0.received .log)).dirtyChunks = [0] ∧ opsFor (exE0.received .log) "a" 1 = [] := by
  -- one evaluation for the six computed facts, so that the kernel commits the first chunk once
  have ⟨h1, h2, h3, h4, h5, h6⟩ : (emittedBy exPrimaryCh exT1).map (·.chunk) = [0, 1] ∧ exE0.chunk = 0 ∧
      (replayTxn exE0.chunk (exE0.received .channel)).dirtyChunks = [0, 1] ∧
      (∃ o ∈ opsFor (exE0.received .channel) "a" 1, o.typ = opMerge) ∧
      (replayTxn exE0.chunk (exE0.received .log)).dirtyChunks = [0] ∧ opsFor (exE0.received .log) "a" 1 = [] := by
    decide +kernel
  refine ⟨h1, h2, h3, h4, ?_, h5, h6⟩
  intro hd
  have := replayTxn_dirtyChunks exE0.chunk _ hd.chunks
  rw [h3, h2] at this
  cases this

/-! ### D16 as a concurrent history, built by hand from latch sections

`Store.commit` is atomic over its chunks, but the latch section `commitChunk` is the unit of interleaving. The history below
runs T1's latch section of chunk 0, then ALL of T3 (which overwrites row 5, chunk 0), then T1's latch section of chunk 1 —
what two concurrent writers can produce. The stream is `[T1/chunk 0, T3/chunk 0, T1/chunk 1]`. -/

def dCols : List (String × NumKind × (Bytes → Bytes → Bytes)) := [("a", .i64, addMerge64)]
def dP : Store := mkStore 1024 .channel (fun _ => 0) dCols
def dR : Store := mkStore 1024 .none (fun _ => 0) dCols
/-- T1 inserts rows 5 (chunk 0) and 16389 (chunk 1) with values 1 and 2 -/
def dT1 : Txn :=
  ([(rowColumn, ⟨opInsert, 5, .fixed 0 []⟩), ("a", ⟨opPut, 5, v64 1⟩),
    (rowColumn, ⟨opInsert, 16389, .fixed 0 []⟩), ("a", ⟨opPut, 16389, v64 2⟩)] : List (String × Op)).foldl
      (fun t p => t.putOp p.1 p.2) {}
/-- T3 overwrites row 5 with 3 -/
def dT3 : Txn := ([("a", ⟨opPut, 5, v64 3⟩)] : List (String × Op)).foldl (fun t p => t.putOp p.1 p.2) {}

/-- `commitCapacity` for T1 (last dirty chunk 1) -/
def d0 : Store := capStore dP dT1
/-- T1's latch section of chunk 0 -/
def d1 : Store × List Buf := d0.commitChunk 0 dT1.markers.isSome dT1.updates
/-- all of T3 -/
def d2 : Store := d1.1.commit dT3
/-- T1's latch section of chunk 1, over the buffers its first latch section left -/
def d3 : Store × List Buf := d2.commitChunk 1 dT1.markers.isSome d1.2
/-- the replica after replaying the whole stream as the logger kind `kd` delivers it -/
def dRf (kd : LoggerKind) : Store := replayAll kd dR d3.1.emitted.reverse
def dTxns (kd : LoggerKind) : List Txn := d3.1.emitted.reverse.map (fun e => replayTxn e.chunk (e.received kd))

theorem dStart : SameStart dP dR := mkStore_sameStart 1024 1024 .channel .none _ _ dCols dCols rfl

/-- the primary at the end of the history: row 5 holds T3's value -/
theorem d_primary : ∃ cp, d3.1.findCol "a" = some cp ∧ cp.read 5 = some (natToBE 8 3) := by
  have hxr : ("a" : String) ≠ rowColumn := by decide
  obtain ⟨cp, _, k, _, hfp, _, hkp, _, hwp, _, hcovp, _, _⟩ := dStart.cols "a" (by decide +kernel)
  obtain ⟨c0, f0, k0, _, w0, n0, _⟩ := capStore_num dP dT1 "a" k cp hfp hkp hwp hcovp
  -- T1, chunk 0: only the shape of the column matters, T3 overwrites row 5
  have sh1 := applyData_sameShape d0.hash c0 0 (chunkOps dT1.updates "a" 0)
  obtain ⟨f1, hck1, _⟩ := commitChunk_data d0 0 dT1.updates "a" c0 hxr f0 (by rw [k0]; rfl)
    (capStore_computedKinds dP dT1 (computedKinds_of_noComputed _ dStart.ncp))
    (appended_nil_num _ _ k ((applyData_sameShape d0.hash c0 0 _).kind.trans k0) _ _)
  have hsz1 : d1.1.commits.size = 2 := by
    show (d0.commitChunk 0 dT1.markers.isSome dT1.updates).1.commits.size = 2
    rw [(commitChunk_gen d0 0 _ _).2.2.1]
    decide +kernel
  -- all of T3: a `Put` on row 5
  obtain ⟨c2, f2, k2, _, w2, _, _, s2⟩ := commit_readback d1.1 dT3 "a" k _ hxr f1 (sh1.kind.trans k0)
    (ColWF.of_shape sh1 w0) (by rw [hsz1, sh1.nchunks]; exact n0 1 (by decide))
    (notComputed_of_computedKinds d1.1 hck1 "a" _ f1 (by rw [sh1.kind, k0]; rfl) _)
    (fun v hv _ => (by decide : ∀ v ∈ dT3.updates, ChunkOK v) v hv)
  have hs2 : slot c2 5 = (true, natToBE 8 3) := by
    rw [s2 5, (by decide : (markerAll dT3.updates ++ allFor dT3.updates "a").filter (fun o => o.idx = 5) =
      [⟨opPut, 5, v64 3⟩])]
    rfl
  -- T1, chunk 1: row 5 is not in that chunk
  have hfm : (d1.2.find? isMarkerBuf).isSome = dT1.markers.isSome := by
    show ((d0.commitChunk 0 dT1.markers.isSome dT1.updates).2.find? isMarkerBuf).isSome = _
    rw [commitChunk_find_marker]; rfl
  have sh3 := applyData_sameShape d2.hash c2 1 (chunkOps d1.2 "a" 1)
  obtain ⟨f3, _⟩ := commitChunk_data d2 1 d1.2 "a" c2 hxr f2 (by rw [k2]; rfl) (commit_computedKinds d1.1 dT3 hck1)
    (appended_nil_num _ _ k ((applyData_sameShape d2.hash c2 1 _).kind.trans k2) _ _)
  rw [hfm] at f3
  refine ⟨_, f3, ?_⟩
  rw [read_num_wf _ k (sh3.kind.trans k2) (ColWF.of_shape sh3 w2),
    applyData_chunk_frame d2.hash c2 1 _ 5 (by decide +kernel) (by decide), hs2]
  rfl

/-- the replica after the replay: row 5 holds what the ops addressed to it, in stream order, leave -/
theorem d_replica (kd : LoggerKind) (v : Bytes)
    (hinv : ∀ t ∈ dTxns kd, ∀ b ∈ t.updates, ∀ s ∈ b.rsecs, ∀ o ∈ s.rops, chunkOf o.idx = s.chunk)
    (hL : ∀ (m : Bytes → Bytes → Bytes) (w : Nat) (st : Bool × Bytes),
      (((dTxns kd).flatMap (fun t => issued t "a")).filter (fun o => o.idx = 5)).foldl (slotEffect m w) st = (true, v)) :
    ∃ cq, (dRf kd).findCol "a" = some cq ∧ cq.read 5 = some v := by
  have hxr : ("a" : String) ≠ rowColumn := by decide
  obtain ⟨_, cq, _, k2, _, hfr, _, hkr, _, hwr, _, hcovr, _⟩ := dStart.cols "a" (by decide +kernel)
  have hck : ComputedKinds dR := computedKinds_of_noComputed _ dStart.ncr
  obtain ⟨c', f, k', _, w', _, _, sl⟩ := commits_readback "a" k2 hxr (dTxns kd) dR cq hfr hkr hwr hcovr
    (fun t _ => notComputed_of_computedKinds dR hck "a" cq hfr (by rw [hkr]; rfl) t.updates)
    (fun t ht b hb _ => hinv t ht b hb)
  refine ⟨c', ?_, ?_⟩
  · show (replayAll kd dR d3.1.emitted.reverse).findCol "a" = some c'
    rw [replayAll_eq_commits]
    exact f
  · rw [read_num_wf c' k2 k' w', sl 5, hL]
    rfl

/-- **`channel_multichunk_counterexample`** (finding D16; kernel-checked). T1 touches chunks 0 and 1, T3 overwrites row 5
    (chunk 0) between T1's two latch sections. The primary ends with T3's value `3` in row 5. The replica replays the complete
    stream in emission order. Fed by the `.channel` logger it ends with T1's value `1` in row 5: the entry of T1's chunk 1 is
    a clone of ALL of T1's buffers, and its replay re-applies T1's put to row 5 after T3's. Fed by the `.log` logger (every
    entry restricted to its chunk) it ends equal to the primary. -/
theorem channel_multichunk_counterexample :
    d3.1.emitted.map (fun e => (e.id, e.chunk)) = [(3, 1), (2, 0), (1, 0)] ∧
    (∃ cp cq, d3.1.findCol "a" = some cp ∧ (dRf .channel).findCol "a" = some cq ∧
      cp.read 5 = some (natToBE 8 3) ∧ cq.read 5 = some (natToBE 8 1) ∧ cq.read 5 ≠ cp.read 5) ∧
    (∃ cp cq, d3.1.findCol "a" = some cp ∧ (dRf .log).findCol "a" = some cq ∧ cq.read 5 = cp.read 5) := by
  obtain ⟨cp, hp, hpr⟩ := d_primary
  -- what is computed from the history `d3`, in one evaluation
  have ⟨hid, hch, hLc, hlg, hLl⟩ : d3.1.emitted.map (fun e => (e.id, e.chunk)) = [(3, 1), (2, 0), (1, 0)] ∧
      (∀ t ∈ dTxns .channel, ∀ b ∈ t.updates, ∀ s ∈ b.rsecs, ∀ o ∈ s.rops, chunkOf o.idx = s.chunk) ∧
      ((dTxns .channel).flatMap (fun t => issued t "a")).filter (fun o => o.idx = 5) =
        [⟨opInsert, 5, .fixed 0 []⟩, ⟨opPut, 5, v64 1⟩, ⟨opPut, 5, v64 3⟩, ⟨opInsert, 5, .fixed 0 []⟩, ⟨opPut, 5, v64 1⟩] ∧
      (∀ t ∈ dTxns .log, ∀ b ∈ t.updates, ∀ s ∈ b.rsecs, ∀ o ∈ s.rops, chunkOf o.idx = s.chunk) ∧
      ((dTxns .log).flatMap (fun t => issued t "a")).filter (fun o => o.idx = 5) =
        [⟨opInsert, 5, .fixed 0 []⟩, ⟨opPut, 5, v64 1⟩, ⟨opPut, 5, v64 3⟩] := by
    decide +kernel
  obtain ⟨cq, hq, hqr⟩ := d_replica .channel (natToBE 8 1) hch (fun m w st => by rw [hLc]; rfl)
  obtain ⟨cq2, hq2, hqr2⟩ := d_replica .log (natToBE 8 3) hlg (fun m w st => by rw [hLl]; rfl)
  refine ⟨hid, ⟨cp, cq, hp, hq, hpr, hqr, ?_⟩, ⟨cp, cq2, hp, hq2, hqr2.trans hpr.symm⟩⟩
  rw [hpr, hqr]
  decide

/-! ## 6 — string / record columns, under the guard "no resizing merge takes effect"

A string merge whose result has another length than its delta is marked `Skip` and its result appended through the parent
buffer (`stepStr`); replaying that needs the per-offset D12 guard and the general buffer guard `ChunksOK` of `Lemmas/StoreCol`.
Here the theorems of section 3 are carried over to string / record columns (`.str` / `.record` on either side; the one-chunk
theorem of section 2, `replay_log_col_data`, covers them already) under
the simpler guard `NoAppend` — no buffer pass of the primary appends anything, each in the state in which it runs (decidable;
`Lemmas/StoreCol`) — which holds when the column's merge function keeps the delta's length (`LenMerge`) or the transactions
hold no `Merge` for the column (`StrGuard`). Not covered: resizing merges (guards `ChunksOK` + D12). -/

/-- **`replay_log_commit_data`**: a whole commit, guard `NoAppend` on the primary -/
theorem replay_log_commit_data (p r : Store) (t : Txn) (x : String) (hxr : x ≠ rowColumn)
    (hckp : ComputedKinds p) (hckr : ComputedKinds r) (hok : TxnOK x t) (hs : DataSync x p r)
    (hna : ∀ cp, p.findCol x = some cp → NoAppend p.hash t.updates x t.dirtyChunks (capCol p t cp)) :
    DataSync x (p.commit t) (replayAll .log r (emittedBy p t)) ∧ ComputedKinds (replayAll .log r (emittedBy p t)) :=
  commit_replay_data x hxr .log p r t hckp hckr hok (emittedBy_delivers_log p t hok.distinct) hs hna

/-- **`replica_converges_store_data`**: the history theorem for a string / record (or numeric) column under `StrGuard`: the
    column's merge function keeps the delta's length, or no transaction holds a `Merge` for the column -/
theorem replica_converges_store_data (p r : Store) (ts : List Txn) (x : String) (hxr : x ≠ rowColumn)
    (hl : p.logger = .log) (hem : p.emitted = [])
    (hckp : ComputedKinds p) (hckr : ComputedKinds r) (hts : ∀ t ∈ ts, TxnWF t) (hs : DataSync x p r)
    (hg : ∀ cp, p.findCol x = some cp → StrGuard x cp.merge ts) :
    let p' := ts.foldl Store.commit p
    let r' := replayAll .log r p'.emitted.reverse
    DataSync x p' r' ∧ ∃ cp cq, p'.findCol x = some cp ∧ r'.findCol x = some cq ∧ ∀ i, cq.read i = cp.read i := by
  have h := commits_replay_data x hxr .log ts p r hckp hckr (fun t ht => (hts t ht).ok x)
    (emittedByAll_delivers_log ts p (fun t ht => (hts t ht).distinct)) hs hg
  rw [← commits_stream ts p (by rw [hl]; decide) hem] at h
  exact ⟨h, h.read⟩

/-! ### non-vacuity for strings -/

/-- a length-preserving, non-trivial merge on strings: the delta with every byte incremented by the length of the old value -/
def bumpMerge : Bytes → Bytes → Bytes := fun v d => d.map (fun b => b + UInt8.ofNat v.length)

theorem bumpMerge_len : LenMerge bumpMerge := by intro v d; simp [bumpMerge]

/-- primary: string column `s` merging with `bumpMerge`; replica: a RECORD column `s` that overwrites on merge -/
def exStrP : Store := ((Store.new 1024 .log (fun _ => 0)).createColumn "s" .str bumpMerge).1
def exStrR : Store := ((Store.new 64 .none (fun _ => 1)).createColumn "s" .record (fun _ d => d)).1

/-- insert rows 3 and 16400, puts and merges on `s` in both chunks, two sections of chunk 0 -/
def exStrT : Txn :=
  ([(rowColumn, ⟨opInsert, 3, .fixed 0 []⟩), ("s", ⟨opPut, 3, .str [104, 105]⟩), ("s", ⟨opMerge, 16400, .str [1, 2, 3]⟩),
    (rowColumn, ⟨opInsert, 16400, .fixed 0 []⟩), ("s", ⟨opMerge, 3, .str [7, 7]⟩), ("s", ⟨opMerge, 3, .str [9]⟩)] :
      List (String × Op)).foldl (fun t p => t.putOp p.1 p.2) {}

theorem exStrT_wf : ∀ t ∈ [exStrT], TxnWF t := by decide

theorem exStr_start : DataSync "s" exStrP exStrR ∧ FillSync exStrP exStrR ∧ NoComputed exStrP ∧ NoComputed exStrR := by
  have hst := sameStart_new 1024 64 .log .none (fun _ => 0) (fun _ => 1)
  have hp : (Store.new 1024 .log (fun _ => 0)).findCol "s" = none := by decide +kernel
  refine ⟨dataSync_createColumn _ _ "s" .str .record bumpMerge (fun _ d => d)
      (Or.inr (Or.inl ⟨Or.inl rfl, Or.inr rfl⟩)) hp ((hst.names "s").1 hp),
    fillSync_createColumn _ _ "s" "s" _ _ _ _ hst.fill, noComputed_createColumn _ _ _ _ hst.ncp,
    noComputed_createColumn _ _ _ _ hst.ncr⟩

example : exStrT.dirtyChunks = [0, 1] ∧ ∃ o ∈ allFor exStrT.updates "s", o.typ = opMerge := by decide +kernel

/-- the history theorem applied to the string column: the replica (a record column that would overwrite on merge) reads the same
    as the primary at every offset after replaying the stream -/
theorem exStr_converges :
    let p' := [exStrT].foldl Store.commit exStrP
    let r' := replayAll .log exStrR p'.emitted.reverse
    ∃ cp cq, p'.findCol "s" = some cp ∧ r'.findCol "s" = some cq ∧ ∀ i, cq.read i = cp.read i := by
  obtain ⟨h1, _, h3, h4⟩ := exStr_start
  have hmerge : ∀ cp, exStrP.findCol "s" = some cp → cp.merge = bumpMerge := by
    intro cp hcp
    obtain ⟨c0, f0, _, m0, _⟩ := createColumn_fresh (Store.new 1024 .log (fun _ => 0)) "s" .str bumpMerge rfl
      (by decide +kernel)
    rw [Option.some.inj (f0.symm.trans hcp)] at m0
    exact m0
  exact (replica_converges_store_data exStrP exStrR [exStrT] "s" (by decide) (by decide) (by decide)
    (computedKinds_of_noComputed _ h3) (computedKinds_of_noComputed _ h4) exStrT_wf h1
    (fun cp hcp => Or.inl (by rw [hmerge cp hcp]; exact bumpMerge_len))).2

/-! ## 7 — key columns: slots, key table, `offsetOf`

A key column has no merge: what it hands to the logger is what the transaction issued (`applyData_ops_key`), and the replica
applies the same ops. Its state is the slots plus the key table `seek` (key → offset), and what `stepKey` does to the key table
is determined by the op, the slot of its offset and the key table (`colOf_key_seek_congr`) — so equal slots and equal key tables
stay equal (`KeySync`), and every key resolves to the same offset on both sides. No side condition on the ops. -/

/-- **`replay_log_commit_key`**: a whole commit -/
theorem replay_log_commit_key (p r : Store) (t : Txn) (x : String) (hxr : x ≠ rowColumn)
    (hckp : ComputedKinds p) (hckr : ComputedKinds r) (hok : TxnOK x t) (hs : KeySync x p r) :
    KeySync x (p.commit t) (replayAll .log r (emittedBy p t)) ∧ ComputedKinds (replayAll .log r (emittedBy p t)) :=
  commit_replay_key x hxr .log p r t hckp hckr hok (emittedBy_delivers_log p t hok.distinct) hs

/-- **`replica_converges_store_key`**: the history theorem for the key column `x`, the primary key on both sides: after the
    replay the slots and the key tables are equal (`KeySync`), the typed reads agree at every offset, and every key resolves
    to the same offset (`OffsetOf`, what `QueryKey` / `UpsertKey` / `DeleteKey` consult) -/
theorem replica_converges_store_key (p r : Store) (ts : List Txn) (x : String) (hxr : x ≠ rowColumn)
    (hl : p.logger = .log) (hem : p.emitted = [])
    (hckp : ComputedKinds p) (hckr : ComputedKinds r) (hts : ∀ t ∈ ts, TxnWF t) (hs : KeySync x p r)
    (hpk : p.pk = some x) (hrk : r.pk = some x) :
    let p' := ts.foldl Store.commit p
    let r' := replayAll .log r p'.emitted.reverse
    KeySync x p' r' ∧ (∃ cp cq, p'.findCol x = some cp ∧ r'.findCol x = some cq ∧ ∀ i, cq.read i = cp.read i) ∧
    ∀ key, r'.offsetOf key = p'.offsetOf key := by
  have h := commits_replay_key x hxr .log ts p r hckp hckr (fun t ht => (hts t ht).ok x)
    (emittedByAll_delivers_log ts p (fun t ht => (hts t ht).distinct)) hs
  rw [← commits_stream ts p (by rw [hl]; decide) hem] at h
  exact ⟨h, h.data.read, fun key => h.offsetOf ((commits_pk ts p).trans hpk) ((replayAll_pk .log _ r).trans hrk) key⟩

/-! ### non-vacuity for keys -/

def exKeyP : Store := ((Store.new 1024 .log (fun _ => 0)).createColumn "id" .key (fun _ d => d)).1
def exKeyR : Store := ((Store.new 2048 .channel (fun _ => 3)).createColumn "id" .key (fun v _ => v)).1

/-- insert rows 3 and 16400 with keys, re-key row 3, delete row 16400 in the same transaction -/
def exKeyT : Txn :=
  ([(rowColumn, ⟨opInsert, 3, .fixed 0 []⟩), ("id", ⟨opPut, 3, .str [7]⟩), (rowColumn, ⟨opInsert, 16400, .fixed 0 []⟩),
    ("id", ⟨opPut, 16400, .str [8, 8]⟩), ("id", ⟨opPut, 3, .str [9]⟩), (rowColumn, ⟨opDelete, 16400, .fixed 0 []⟩)] :
      List (String × Op)).foldl (fun t p => t.putOp p.1 p.2) {}

theorem exKeyT_wf : ∀ t ∈ [exKeyT], TxnWF t := by decide

theorem exKey_converges :
    let p' := [exKeyT].foldl Store.commit exKeyP
    let r' := replayAll .log exKeyR p'.emitted.reverse
    ∀ key, r'.offsetOf key = p'.offsetOf key := by
  have hst := sameStart_new 1024 2048 .log .channel (fun _ => 0) (fun _ => 3)
  have hp : (Store.new 1024 .log (fun _ => 0)).findCol "id" = none := by decide +kernel
  have hr := (hst.names "id").1 hp
  exact (replica_converges_store_key exKeyP exKeyR [exKeyT] "id" (by decide) (by decide) (by decide)
    (computedKinds_of_noComputed _ (noComputed_createColumn _ _ _ _ hst.ncp))
    (computedKinds_of_noComputed _ (noComputed_createColumn _ _ _ _ hst.ncr)) exKeyT_wf
    (keySync_createColumn _ _ "id" _ _ hp hr)
    (createColumn_key_pk _ "id" _ hp rfl) (createColumn_key_pk _ "id" _ hr rfl)).2.2

#print axioms emitted_of_commit
#print axioms emitted_chunk_ops_num
#print axioms replay_log_col
#print axioms replay_log_fill
#print axioms replay_log_commit
#print axioms replay_log_commit_slots
#print axioms replica_converges_store
#print axioms replica_converges_fresh
#print axioms replica_converges_store_reserved
#print axioms replica_converges_store_from
#print axioms replay_channel_commit
#print axioms replica_converges_store_channel
#print axioms ex_converges
#print axioms exIns_converges
#print axioms emitted_stream_num
#print axioms channel_multichunk_not_delivered
#print axioms channel_multichunk_counterexample
#print axioms replay_log_col_data
#print axioms replay_log_commit_data
#print axioms replica_converges_store_data
#print axioms exStr_converges
#print axioms replay_log_commit_key
#print axioms replica_converges_store_key
#print axioms exKey_converges

end ColumnVerif.Props.C06store
