import ColumnVerif.Lemmas.StateWire
import ColumnVerif.Props.C05
/-!
# C07 (wire level) — the snapshot state section round-trips byte for byte and no truncated state
section is ever accepted

`encState` is Go's `writeState` (version · column count · chunk count · per chunk: last commit id
and `column count` buffers as `Buffer.WriteTo` writes them); `readStateRaw` is the parsing half of
`readState`. Statements use the definitions of `Model/StateWire`, `Model/Wire`, `Model/Snapshot`
plus the spec-level names of `Lemmas/StateWire` and `Lemmas/Wire`:

* `Snap.WireWF snap` — `snap.columns < 2^64`, `snap.chunks.length < 2^64`, and every chunk `c`
  satisfies `c.WireWF snap.columns`: `c.lastCommit < 2^64`, `c.buffers.length = snap.columns`,
  every buffer `(Buf.toRaw b).WF` (`RawBuf.WF` of `Lemmas/Wire`: the field widths of
  `Buffer.WriteTo`). Both are decidable (`instance`s in `Lemmas/StateWire`); `wireWF_iff` below
  spells the predicate out.
* `RawChunkState` = `⟨lastCommit, buffers : List RawBuf⟩` (of `Model/StateWire`).

As in `Props/C13`, a source `⟨bytes, e⟩` carries the end flag `e`: `e = true` means the stream was
cut inside a compressed (s2) frame, so running off the end must never look like a clean `io.EOF`.
-/
namespace ColumnVerif.Props.C07wire
open ColumnVerif.Codec ColumnVerif.Store ColumnVerif.Wire

/-! ## 1 — well-formedness -/

theorem wireWF_iff (snap : Snap) : snap.WireWF ↔
    snap.columns < 2 ^ 64 ∧ snap.chunks.length < 2 ^ 64 ∧
    ∀ c ∈ snap.chunks, c.lastCommit < 2 ^ 64 ∧ c.buffers.length = snap.columns ∧
      ∀ b ∈ c.buffers, (Buf.toRaw b).WF :=
  Snap.wireWF_iff snap

/-- the buffer part of `WireWF` follows from the buffer invariant and four plain size bounds
    (`buffer_fits` of `Props/C05`) -/
theorem wireWF_of_inv (snap : Snap) (hcols : snap.columns < 2 ^ 64)
    (hchunks : snap.chunks.length < 2 ^ 64)
    (hc : ∀ c ∈ snap.chunks, c.lastCommit < 2 ^ 64 ∧ c.buffers.length = snap.columns)
    (hb : ∀ c ∈ snap.chunks, ∀ b ∈ c.buffers, b.Inv ∧ b.column.toUTF8.toList.length < 2 ^ 64 ∧
      b.secs.length < 2 ^ 64 ∧ b.bytes.length < 2 ^ 32 ∧ ∀ s ∈ b.secs, s.chunk < 2 ^ 32) :
    snap.WireWF :=
  ⟨hcols, hchunks, fun c hcm => ⟨(hc c hcm).1, (hc c hcm).2, fun b hbm =>
    let ⟨h1, h2, h3, h4, h5⟩ := hb c hcm b hbm
    C05.buffer_fits b h1 h2 h3 h4 h5⟩⟩

/-! ## 2 — round trip -/

/-- `writeState` then `readState`'s parser: the column count and, per chunk, the last commit id
    and the raw form of every buffer written — exactly the bytes of the section are consumed, the
    end flag is untouched. -/
theorem state_roundtrip (snap : Snap) (h : snap.WireWF) (rest : Bytes) (e : Bool) :
    readStateRaw ⟨encState snap ++ rest, e⟩ =
      .ok ((snap.columns, snap.chunks.map (fun c => ⟨c.lastCommit, c.buffers.map Buf.toRaw⟩)),
        ⟨rest, e⟩) :=
  (state_decodes snap h).reads rest e

/-- one chunk of the section on its own (the reader reads exactly `columns` buffers) -/
theorem chunk_roundtrip (columns : Nat) (c : ChunkState) (h : c.WireWF columns) (rest : Bytes)
    (e : Bool) :
    readChunkState columns ⟨encChunkState c ++ rest, e⟩ =
      .ok (⟨c.lastCommit, c.buffers.map Buf.toRaw⟩, ⟨rest, e⟩) :=
  (chunk_decodes columns c h).reads rest e

/-! ## 3 — truncation -/

/-- Every strict prefix of the state section is rejected; when the stream was cut inside a
    compressed frame (`e = true`) the error is `.bad`. -/
theorem state_prefix_fails (snap : Snap) (h : snap.WireWF) (p : Bytes) (hp : p <+: encState snap)
    (hne : p ≠ encState snap) (e : Bool) :
    ∃ err, readStateRaw ⟨p, e⟩ = .error err ∧ (e = true → err = .bad) :=
  (state_decodes snap h).cuts.of_prefix p hp hne e

theorem state_prefix_never_ok (snap : Snap) (h : snap.WireWF) (p : Bytes) (hp : p <+: encState snap)
    (hne : p ≠ encState snap) (e : Bool) : ∃ err, readStateRaw ⟨p, e⟩ = .error err :=
  let ⟨err, h1, _⟩ := state_prefix_fails snap h p hp hne e
  ⟨err, h1⟩

theorem state_prefix_not_ok (snap : Snap) (h : snap.WireWF) (p : Bytes) (hp : p <+: encState snap)
    (hne : p ≠ encState snap) (e : Bool) (r : (Nat × List RawChunkState) × Src) :
    readStateRaw ⟨p, e⟩ ≠ .ok r := by
  obtain ⟨err, h1⟩ := state_prefix_never_ok snap h p hp hne e
  rw [h1]; intro h2; cases h2

/-- … and a cut inside a compressed frame is never taken for a clean end. -/
theorem state_prefix_corrupt_bad (snap : Snap) (h : snap.WireWF) (p : Bytes)
    (hp : p <+: encState snap) (hne : p ≠ encState snap) : readStateRaw ⟨p, true⟩ = .error .bad := by
  obtain ⟨err, h1, h2⟩ := state_prefix_fails snap h p hp hne true
  rw [h1, h2 rfl]

/-- The empty section (a file that ends before the version number) is a non-EOF error even with a
    clean end: `readState` does not pass the `io.EOF` of the version read on. -/
theorem state_empty_bad (e : Bool) : readStateRaw ⟨[], e⟩ = .error .bad := readStateRaw_nil e

/-- A version number other than 1 is rejected. -/
theorem state_version_rejected (v : Nat) (hv : v < 2 ^ 64) (hne : v ≠ 1) (rest : Bytes) (e : Bool) :
    readStateRaw ⟨encUvarint v ++ rest, e⟩ = .error .bad :=
  readStateRaw_version v hv hne rest e

/-- One chunk: every strict prefix is rejected … -/
theorem chunk_prefix_fails (columns : Nat) (c : ChunkState) (h : c.WireWF columns) (p : Bytes)
    (hp : p <+: encChunkState c) (hne : p ≠ encChunkState c) (e : Bool) :
    ∃ err, readChunkState columns ⟨p, e⟩ = .error err ∧ (e = true → err = .bad) :=
  (chunk_decodes columns c h).cuts.of_prefix p hp hne e

/-- … and once the chunk's commit id has been read, a missing or cut buffer is a non-EOF error
    even on a clean end (Go: `err == io.EOF && i < columns ⇒ io.ErrUnexpectedEOF`). -/
theorem chunk_cut_in_buffers_bad (columns : Nat) (c : ChunkState) (h : c.WireWF columns) (n : Nat)
    (e : Bool) (hlo : (encUvarint c.lastCommit).length ≤ n) (hn : n < (encChunkState c).length) :
    readChunkState columns ⟨(encChunkState c).take n, e⟩ = .error .bad :=
  chunk_cut_in_buffers columns c h n e hlo hn

/-! ## 4 — the decoded buffers are the buffers written -/

/-- Every decoded raw buffer converts back (`RawBuf.toBuf`) to a buffer with the column name,
    `last`, sections and — for every chunk — operations (`rangeOps`) of the buffer written. -/
theorem state_roundtrip_ops (snap : Snap) (h : snap.WireWF)
    (hinv : ∀ c ∈ snap.chunks, ∀ b ∈ c.buffers, b.Inv) (rest : Bytes) (e : Bool) :
    ∃ raw, readStateRaw ⟨encState snap ++ rest, e⟩ = .ok ((snap.columns, raw), ⟨rest, e⟩) ∧
      raw.length = snap.chunks.length ∧
      ∀ i (hi : i < snap.chunks.length) (hi' : i < raw.length),
        raw[i].lastCommit = snap.chunks[i].lastCommit ∧
        raw[i].buffers.length = snap.chunks[i].buffers.length ∧
        ∀ j (hj : j < snap.chunks[i].buffers.length) (hj' : j < raw[i].buffers.length),
          ∃ b', raw[i].buffers[j].toBuf = some b' ∧
            b'.column = snap.chunks[i].buffers[j].column ∧
            b'.last = snap.chunks[i].buffers[j].last ∧
            b'.secs = snap.chunks[i].buffers[j].secs ∧
            ∀ ch, b'.rangeOps ch = snap.chunks[i].buffers[j].rangeOps ch := by
  refine ⟨snap.chunks.map chunkRaw, (state_decodes snap h).reads rest e, by simp, ?_⟩
  intro i hi hi'
  simp only [List.getElem_map, chunkRaw, List.length_map]
  refine ⟨trivial, trivial, ?_⟩
  intro j hj _
  have hb := hinv _ (List.getElem_mem hi) _ (List.getElem_mem hj)
  exact ⟨_, C05.buffer_toBuf_roundtrip _ hb, rfl, rfl, rfl, fun _ => rfl⟩

/-- … which is the written buffer itself unless it was reset while holding sections. -/
theorem state_roundtrip_bufs (snap : Snap) (h : snap.WireWF)
    (hinv : ∀ c ∈ snap.chunks, ∀ b ∈ c.buffers, b.Inv ∧ (b.cur = none → b.rsecs = []))
    (rest : Bytes) (e : Bool) :
    ∃ raw, readStateRaw ⟨encState snap ++ rest, e⟩ = .ok ((snap.columns, raw), ⟨rest, e⟩) ∧
      raw.map (fun r => (r.lastCommit, r.buffers.map RawBuf.toBuf)) =
        snap.chunks.map (fun c => (c.lastCommit, c.buffers.map some)) := by
  refine ⟨snap.chunks.map chunkRaw, (state_decodes snap h).reads rest e, ?_⟩
  rw [List.map_map]
  apply List.map_congr_left
  intro c hc
  simp only [Function.comp, chunkRaw, List.map_map, Prod.mk.injEq, true_and]
  apply List.map_congr_left
  intro b hb
  exact C05.buffer_toBuf_roundtrip_eq b (hinv c hc b hb).1 (hinv c hc b hb).2

/-! ## 5 — `Store.snapshot` meets the structural precondition -/

/-- every chunk of a snapshot carries exactly the number of buffers the header announces
    (`readChunkState` reads exactly `columns` buffers per chunk) -/
theorem snapshot_buffers_count (s : Store) :
    ∀ c ∈ (s.snapshot).1.chunks, c.buffers.length = (s.snapshot).1.columns := by
  intro c hc
  rw [snapshot_chunks, List.mem_map] at hc
  obtain ⟨ch, _, rfl⟩ := hc
  rw [snapshot_columns, chunkState_buffers_length]

theorem snapshot_chunks_count (s : Store) : (s.snapshot).1.chunks.length = s.nChunks := by
  rw [snapshot_chunks]; simp

/-- the stored commit id of chunk `i` is the collection's last commit id of that chunk -/
theorem snapshot_chunk_lastCommit (s : Store) (i : Nat) (hi : i < (s.snapshot).1.chunks.length) :
    (s.snapshot).1.chunks[i].lastCommit = s.commits.getD i 0 := by
  simp only [snapshot_chunks, List.getElem_map, List.getElem_range]
  rfl

/-! ## 6 — non-vacuity: two chunks, two buffers each, built through the writer API -/

def ops0 : List Op :=
  [⟨opInsert, 3, .fixed 0 []⟩, ⟨opInsert, 7, .fixed 0 []⟩]
def ops0v : List Op :=
  [⟨opPut, 3, .fixed 1 [1, 2]⟩, ⟨opPut, 7, .fixed 3 [0,0,0,0,0,0,0,9]⟩, ⟨opMerge, 3, .str [104, 105]⟩]
def ops1 : List Op :=
  [⟨opInsert, 16384, .fixed 0 []⟩, ⟨opInsert, 20000, .fixed 0 []⟩]
def ops1v : List Op :=
  [⟨opPut, 16384, .fixed 2 [1,2,3,4]⟩, ⟨opPut, 20000, .fixed 2 [5,6,7,8]⟩]

def bufA0 : Buf := (Buf.empty "row").putAll ops0
def bufB0 : Buf := (Buf.empty "c").putAll ops0v
def bufA1 : Buf := (Buf.empty "row").putAll ops1
def bufB1 : Buf := (Buf.empty "c").putAll ops1v

def sampleSnap : Snap := ⟨2, [⟨5, [bufA0, bufB0]⟩, ⟨9, [bufA1, bufB1]⟩], []⟩

theorem bufA0_inv : bufA0.Inv := Buf.putAll_inv _ _ (Buf.empty_inv _) (by decide +kernel)
theorem bufB0_inv : bufB0.Inv := Buf.putAll_inv _ _ (Buf.empty_inv _) (by decide +kernel)
theorem bufA1_inv : bufA1.Inv := Buf.putAll_inv _ _ (Buf.empty_inv _) (by decide +kernel)
theorem bufB1_inv : bufB1.Inv := Buf.putAll_inv _ _ (Buf.empty_inv _) (by decide +kernel)

theorem sampleSnap_inv : ∀ c ∈ sampleSnap.chunks, ∀ b ∈ c.buffers, b.Inv := by
  intro c hc b hb
  simp only [sampleSnap, List.mem_cons, List.not_mem_nil, or_false] at hc
  rcases hc with rfl | rfl <;>
    simp only [List.mem_cons, List.not_mem_nil, or_false] at hb <;> rcases hb with rfl | rfl
  · exact bufA0_inv
  · exact bufB0_inv
  · exact bufA1_inv
  · exact bufB1_inv

/-- `WireWF` is satisfiable; its `Decidable` instance evaluates on the sample -/
theorem sampleSnap_wf : sampleSnap.WireWF := by decide +kernel

example : sampleSnap.WireWF := sampleSnap_wf
example : sampleSnap.WireWF := sampleSnap_wf
example : ∀ c ∈ sampleSnap.chunks, ∀ b ∈ c.buffers, b.Inv := sampleSnap_inv

/-- the sample is not about empty data -/
example : (encState sampleSnap).length = 139 := by decide +kernel
example : bufB0.rangeOps 0 = ops0v := by decide +kernel
example : bufB1.rangeOps 1 = ops1v := by decide +kernel

/-- the empty snapshot (no chunks) also meets `WireWF`; its section is the three header varints -/
example : (⟨1, [], []⟩ : Snap).WireWF := by decide
example : encState ⟨1, [], []⟩ = [1, 1, 0] := by decide +kernel

example : (match readStateRaw ⟨encState sampleSnap, false⟩ with | .ok _ => true | _ => false) = true := by
  rw [← List.append_nil (encState sampleSnap), state_roundtrip _ sampleSnap_wf]

/-- A clean cut exactly between two chunks (byte 74 = header + first chunk) makes the parser fail
    with `.eof` (the commit id of the next chunk hits `io.EOF`) — which `state_prefix_fails` allows
    for `e = false` — so Go's `readState` returns a bare `io.EOF` there; a cut one byte later, inside
    the chunk, is `.bad`; with `e = true` every cut is `.bad` (`state_prefix_corrupt_bad`). -/
example : (encUvarint 1 ++ encUvarint 2 ++ encUvarint 2 ++ encChunkState ⟨5, [bufA0, bufB0]⟩).length = 74 := by
  decide +kernel
example : (match readStateRaw ⟨(encState sampleSnap).take 74, false⟩ with
    | .error .eof => true | _ => false) = true := by decide +kernel
example : (match readStateRaw ⟨(encState sampleSnap).take 75, false⟩ with
    | .error .bad => true | _ => false) = true := by decide +kernel
example : (match readStateRaw ⟨(encState sampleSnap).take 74, true⟩ with
    | .error .bad => true | _ => false) = true := by decide +kernel

#print axioms state_roundtrip
#print axioms state_prefix_never_ok
#print axioms state_prefix_fails
#print axioms state_prefix_corrupt_bad
#print axioms state_roundtrip_ops
#print axioms state_roundtrip_bufs
#print axioms snapshot_buffers_count
#print axioms snapshot_chunks_count
#print axioms chunk_cut_in_buffers_bad
#print axioms sampleSnap_wf

end ColumnVerif.Props.C07wire
