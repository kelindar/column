import ColumnVerif.Lemmas.StoreComputed
import ColumnVerif.Props.C16
import ColumnVerif.Props.C03store
/-!
# C16 at store level — a sorted index through the real `Store.commit`

`Props/C16.lean` proves, for one pass, that `applyOther` keeps the invariant of a sorted index (`sorted_apply_inv`) and
that the index fed the rewritten section of a string column agrees with the column again (`sorted_sync_apply`, guard: no
resizing merge). Here the index `ix` attached to a data column `x` is followed through `Store.commit` (plumbing:
`C03store.commit_computed`):

* `commit_sortInv` (any data kind of the target, any ops): `SortInv` — strictly sorted entries, one per offset, each
  recorded in `back` — holds after the commit.
* `commit_inSync` (string / record target, guard `NoAppend`: no buffer pass appends, i.e. no resizing merge): index and
  column agree on every offset after the commit (`InSync`), row deletes through markers included; `commits_inSync` for
  any list of transactions (guard: the merge function keeps the length of the delta, or no `Merge` is issued for `x`);
  `commits_sorted_reads`: the key the index holds for an offset is what the typed reader returns.
* non-vacuity.
-/
namespace ColumnVerif.Props.C16store
open ColumnVerif.Codec ColumnVerif.Store ColumnVerif.Bits

/-- **the invariant of a sorted index survives every commit** — any data kind of the target, any ops, resizing merges
    included (guard `ChunksOK` only so that what the index receives is known, `C03store.commit_computed`) -/
theorem commit_sortInv (s : Store) (t : Txn) (x ix tg : String) (col ic : Col)
    (hxr : x ≠ rowColumn) (hf : s.findCol x = some col) (hd : col.kind.isData = true)
    (hfi : s.findCol ix = some ic) (hik : ic.kind = .sorted tg) (hcount : col.computed.count ix = 1)
    (hcomp : ∀ v ∈ t.updates, ∀ c, s.findCol v.column = some c → x ∉ c.computed)
    (hatt : ∀ v ∈ t.updates, v.column ≠ x → v.column ≠ ix ∧ ∀ c, s.findCol v.column = some c → ix ∉ c.computed)
    (hok : ChunksOK s.hash t.updates x t.dirtyChunks (capCol s t col)) (hinv : SortInv ic) :
    ∃ ic', (s.commit t).findCol ix = some ic' ∧ ic'.kind = .sorted tg ∧ SortInv ic' ∧
      ic' = compChunks s.hash t.updates x t.dirtyChunks (capCol s t col) ic := by
  have g1 := Store.commit_computed s t x ix col ic hxr hf hd hfi (isComputed_sorted hik) hcount hcomp hatt hok
  rw [capCol_sorted s t ic tg hik] at g1
  exact ⟨_, g1, (compChunks_sig _ _ _ _ _ _).kind.trans hik, compChunks_sortInv _ _ _ _ _ _ hinv, rfl⟩

/-- **C16 at store level, one transaction**: `x` a string / record column (`StrCol`), `ix` a sorted index attached to
    it (`Attached`), well-formed buffers, `Insert` / `Delete` markers only, no buffer written to `ix` directly, and no
    buffer pass of `x` appending a put (`NoAppend`: no resizing merge — finding D12 is what happens otherwise). If the
    index satisfies its invariant and agrees with the column on every offset before `s.commit t`, it does afterwards.
    Every hypothesis on the store is re-established. -/
theorem commit_inSync (s : Store) (t : Txn) (x ix tg : String) (col ic : Col)
    (hxr : x ≠ rowColumn) (hc : StrCol s x col) (hfi : s.findCol ix = some ic) (hik : ic.kind = .sorted tg)
    (hatt : Attached s x ix) (hinv : ∀ v ∈ t.updates, (v.column = x ∨ isMarkerBuf v = true) → ChunkOK v)
    (hmk : ∀ o ∈ markerAll t.updates, isMarkerOp o) (hnb : ∀ v ∈ t.updates, v.column ≠ ix)
    (hna : NoAppend s.hash t.updates x t.dirtyChunks (capCol s t col))
    (hsi : SortInv ic) (hs : InSync col ic) :
    ∃ col' ic', StrCol (s.commit t) x col' ∧ col'.merge = col.merge ∧ (s.commit t).findCol ix = some ic' ∧
      ic'.kind = .sorted tg ∧ Attached (s.commit t) x ix ∧ SortInv ic' ∧ InSync col' ic' := by
  have hd : col.kind.isData = true := by rcases hc.kind with h | h <;> (rw [h]; rfl)
  obtain ⟨hcomp, hatt'⟩ := hatt.hyps t.updates hnb
  obtain ⟨_, m2, _, _⟩ := capCol_meta s t col
  have hok := ChunksOK_of_noAppend s.hash t.updates x t.dirtyChunks (capCol s t col) hna
  obtain ⟨col', f1, f2, f3, f4, f5, f6, f7, _⟩ := commit_slot_ok s t x col (slotEffect col.merge 0) hxr hc.find hd
    hc.wf hc.cov hcomp hok (slotLaw_str s.hash col.kind hc.kind col.merge) hinv
  obtain ⟨ic', g1, g2, g3, g4⟩ := commit_sortInv s t x ix tg col ic hxr hc.find hd hfi hik (hatt.once col hc.find)
    hcomp hatt' hok hsi
  obtain ⟨_, _, _, _, c5, c6⟩ := capCol_data s t col hd
  have hk' : (capCol s t col).kind = .str ∨ (capCol s t col).kind = .record := by rw [m2]; exact hc.kind
  refine ⟨col', ic', ⟨f1, by rw [f2]; exact hc.kind, f4, commit_cov s t col col' hc.cov f5 f6⟩, f3, g1, g2,
    hatt.commit t, g3, ?_⟩
  rw [f7, g4]
  have := inSync_chunks s.hash t.updates x tg t.dirtyChunks (capCol s t col) (capCol s t ic) hk'
    ((capCol_meta s t ic).2.1.trans hik) (c5 hc.wf) (c6 hc.cov) (chunkOps_chunk t x hinv)
    (fun c _ o ho => isMarkerOp_ne_merge (hmk o (markerOps_sub_markerAll t.updates c o ho)))
    (by rw [capCol_sorted s t ic tg hik]; exact hsi) (inSync_capCol s t col ic tg hd hik hs) hna
  rw [capCol_sorted s t ic tg hik] at this
  exact this

/-- the guard from the transaction alone: no `Merge` issued for `x`, or a merge function that keeps the delta's length -/
theorem noAppend_of_guard (s : Store) (t : Txn) (x : String) (col : Col)
    (h : (∀ v d, (col.merge v d).length = d.length) ∨ ∀ o ∈ allFor t.updates x, o.typ ≠ opMerge) :
    NoAppend s.hash t.updates x t.dirtyChunks (capCol s t col) := by
  rcases h with h | h
  · exact NoAppend_of_len _ _ _ _ _ (by rw [(capCol_meta s t col).2.2.2]; exact h)
  · exact NoAppend_of_no_merge _ _ _ _ _ (fun c _ o ho => h o (opsFor_sub_allFor t.updates x c o ho))

/-- **C16 at store level, any list of transactions** -/
theorem commits_inSync (x ix tg : String) (hxr : x ≠ rowColumn) (ts : List Txn) :
    ∀ (s : Store) (col ic : Col), StrCol s x col → s.findCol ix = some ic → ic.kind = .sorted tg → Attached s x ix →
      (∀ t ∈ ts, (∀ v ∈ t.updates, (v.column = x ∨ isMarkerBuf v = true) → ChunkOK v) ∧
        (∀ o ∈ markerAll t.updates, isMarkerOp o) ∧ ∀ v ∈ t.updates, v.column ≠ ix) →
      ((∀ v d, (col.merge v d).length = d.length) ∨ ∀ t ∈ ts, ∀ o ∈ allFor t.updates x, o.typ ≠ opMerge) →
      SortInv ic → InSync col ic →
      ∃ col' ic', StrCol (ts.foldl Store.commit s) x col' ∧ (ts.foldl Store.commit s).findCol ix = some ic' ∧
        ic'.kind = .sorted tg ∧ SortInv ic' ∧ InSync col' ic' := by
  induction ts with
  | nil => intro s col ic hc hfi hik _ _ _ hsi hs; exact ⟨col, ic, hc, hfi, hik, hsi, hs⟩
  | cons t ts ih =>
    intro s col ic hc hfi hik hatt hts hg hsi hs
    have hg1 : (∀ v d, (col.merge v d).length = d.length) ∨ ∀ o ∈ allFor t.updates x, o.typ ≠ opMerge := by
      rcases hg with h | h
      · exact Or.inl h
      · exact Or.inr (h t (by simp))
    obtain ⟨col1, ic1, a1, a2, a3, a4, a5, a6, a7⟩ := commit_inSync s t x ix tg col ic hxr hc hfi hik hatt
      (hts t (by simp)).1 (hts t (by simp)).2.1 (hts t (by simp)).2.2 (noAppend_of_guard s t x col hg1) hsi hs
    simp only [List.foldl_cons]
    refine ih _ col1 ic1 a1 a3 a4 a5 (fun t' ht' => hts t' (by simp [ht'])) ?_ a6 a7
    rcases hg with h | h
    · exact Or.inl (by rw [a2]; exact h)
    · exact Or.inr (fun t' ht' => h t' (by simp [ht']))

/-- read through the typed reader: after any list of commits, the key the index holds for offset `o` is the string the
    column returns for `o` (none iff the row has no value); with `SortInv`, `C16.ascend_*` then give the iteration order -/
theorem commits_sorted_reads (x ix tg : String) (hxr : x ≠ rowColumn) (ts : List Txn) (s : Store) (col ic : Col)
    (hc : StrCol s x col) (hfi : s.findCol ix = some ic) (hik : ic.kind = .sorted tg) (hatt : Attached s x ix)
    (hts : ∀ t ∈ ts, (∀ v ∈ t.updates, (v.column = x ∨ isMarkerBuf v = true) → ChunkOK v) ∧
      (∀ o ∈ markerAll t.updates, isMarkerOp o) ∧ ∀ v ∈ t.updates, v.column ≠ ix)
    (hg : (∀ v d, (col.merge v d).length = d.length) ∨ ∀ t ∈ ts, ∀ o ∈ allFor t.updates x, o.typ ≠ opMerge)
    (hsi : SortInv ic) (hs : InSync col ic) :
    ∃ col' ic', (ts.foldl Store.commit s).findCol x = some col' ∧ (ts.foldl Store.commit s).findCol ix = some ic' ∧
      SortInv ic' ∧ ∀ o, entryOf ic' o = col'.read o := by
  obtain ⟨col', ic', a1, a2, _, a4, a5⟩ := commits_inSync x ix tg hxr ts s col ic hc hfi hik hatt hts hg hsi hs
  refine ⟨col', ic', a1.find, a2, a4, fun o => ?_⟩
  rw [a5 o, read_eq_strVal col' a1.kind (by rw [a1.wf.bsize]; exact Nat.le_refl _) o]

/-! ## non-vacuity: a string column with a sorted index, a transaction over two chunks with an in-place merge -/

/-- merge = "last wins" (the default): keeps the length of the delta -/
def sCol : Col :=
  { name := "s", kind := .str, nchunks := 1, bits := Array.replicate 16384 false, data := Array.replicate 16384 [],
    computed := ["by_s"] }

def bySIdx : Col := { name := "by_s", kind := .sorted "s" }

def exStore : Store := { cols := #[sCol, bySIdx], commits := #[0] }

/-- insert rows 3 and 4, write "hi" to row 3, merge "yo" onto it (same length: swapped in place), write "zz" to row 20000
    (second chunk), then "aa" to row 4 (a second section of chunk 0) -/
def exTxn : Txn :=
  ([(rowColumn, ⟨opInsert, 3, .fixed 0 []⟩), (rowColumn, ⟨opInsert, 4, .fixed 0 []⟩),
    ("s", ⟨opPut, 3, .str [104, 105]⟩), ("s", ⟨opMerge, 3, .str [121, 111]⟩),
    ("s", ⟨opPut, 20000, .str [122, 122]⟩), ("s", ⟨opPut, 4, .str [97, 97]⟩)] : List (String × Op)).foldl
      (fun t p => t.putOp p.1 p.2) {}

/-- delete row 3 through a marker -/
def delTxn : Txn := ({} : Txn).putOp rowColumn ⟨opDelete, 3, .fixed 0 []⟩

theorem exStore_find_s : exStore.findCol "s" = some sCol := by simp [exStore, Store.findCol, sCol]
theorem exStore_find_ix : exStore.findCol "by_s" = some bySIdx := by simp [exStore, Store.findCol, sCol, bySIdx]

theorem ex_strCol : StrCol exStore "s" sCol :=
  ⟨exStore_find_s, Or.inl rfl, ⟨by simp [sCol], by simp [sCol]⟩, by decide⟩

theorem ex_attached : Attached exStore "s" "by_s" :=
  Attached.of_cols exStore "s" "by_s" (by decide) (by decide) (by decide)

theorem sCol_slot (o : Nat) : slot sCol o = (false, []) := by
  have hd : (sCol.data[o]?).getD [] = [] := by
    show ((Array.replicate 16384 ([] : Bytes))[o]?).getD [] = []
    rw [Array.getElem?_replicate]
    split <;> rfl
  unfold slot
  rw [show Bits.get sCol.bits o = false from get_replicate_false _ _, hd]

theorem ex_inSync : InSync sCol bySIdx := by
  intro o
  have h1 : entryOf bySIdx o = none := rfl
  have h2 : strVal sCol o = none := by
    unfold strVal
    rw [show Bits.get sCol.bits o = false from get_replicate_false _ _]
    rfl
  rw [h1, h2]

theorem ex_sortInv : SortInv bySIdx := C16.sorted_empty_inv "by_s" "s"

theorem ex_txns : ∀ t ∈ [exTxn, delTxn], (∀ v ∈ t.updates, (v.column = "s" ∨ isMarkerBuf v = true) → ChunkOK v) ∧
    (∀ o ∈ markerAll t.updates, isMarkerOp o) ∧ ∀ v ∈ t.updates, v.column ≠ "by_s" := by
  intro t ht
  simp only [List.mem_cons, List.not_mem_nil, or_false] at ht
  rcases ht with rfl | rfl
  · exact ⟨by decide, by decide, by decide⟩
  · exact ⟨by decide, by decide, by decide⟩

theorem ex_commit : ∃ col' ic', StrCol (exStore.commit exTxn) "s" col' ∧ col'.merge = sCol.merge ∧
    (exStore.commit exTxn).findCol "by_s" = some ic' ∧ ic'.kind = .sorted "s" ∧
    Attached (exStore.commit exTxn) "s" "by_s" ∧ SortInv ic' ∧ InSync col' ic' :=
  commit_inSync exStore exTxn "s" "by_s" "s" sCol bySIdx (by decide) ex_strCol exStore_find_ix rfl ex_attached
    (ex_txns exTxn (by simp)).1 (ex_txns exTxn (by simp)).2.1 (ex_txns exTxn (by simp)).2.2
    (noAppend_of_guard _ _ _ _ (Or.inl (fun _ _ => rfl))) ex_sortInv ex_inSync

/-- the concrete entries: row 3 is indexed under the merged value "yo", row 4 under "aa", row 20000 (second chunk) under
    "zz", row 5 not at all -/
theorem ex_entries : ∃ ic', (exStore.commit exTxn).findCol "by_s" = some ic' ∧ SortInv ic' ∧
    entryOf ic' 3 = some [121, 111] ∧ entryOf ic' 4 = some [97, 97] ∧ entryOf ic' 20000 = some [122, 122] ∧
    entryOf ic' 5 = none := by
  obtain ⟨col', ic', h1, _, h3, _, _, h6, h7⟩ := ex_commit
  obtain ⟨c2, f1, _, _, _, _, _, _, f8⟩ := commit_slot_ok exStore exTxn "s" sCol (slotEffect sCol.merge 0)
    (by decide) exStore_find_s rfl ex_strCol.wf ex_strCol.cov (ex_attached.hyps exTxn.updates (by decide)).1
    (ChunksOK_of_noAppend _ _ _ _ _ (noAppend_of_guard _ _ _ _ (Or.inl (fun _ _ => rfl))))
    (slotLaw_str _ _ (Or.inl rfl) _) (ex_txns exTxn (by simp)).1
  rw [h1.find] at f1
  cases f1
  have hget : ∀ o, entryOf ic' o = if (slot col' o).1 = true then some (slot col' o).2 else none := fun o => h7 o
  refine ⟨ic', h3, h6, ?_, ?_, ?_, ?_⟩
  · rw [hget, f8, sCol_slot]; decide
  · rw [hget, f8, sCol_slot]; decide
  · rw [hget, f8, sCol_slot]; decide
  · rw [hget, f8, sCol_slot]; decide

/-- … and after a later row delete, through the typed reader -/
example : ∃ col' ic', ([exTxn, delTxn].foldl Store.commit exStore).findCol "s" = some col' ∧
    ([exTxn, delTxn].foldl Store.commit exStore).findCol "by_s" = some ic' ∧ SortInv ic' ∧
    ∀ o, entryOf ic' o = col'.read o :=
  commits_sorted_reads "s" "by_s" "s" (by decide) [exTxn, delTxn] exStore sCol bySIdx ex_strCol exStore_find_ix rfl
    ex_attached ex_txns (Or.inl (fun _ _ => rfl)) ex_sortInv ex_inSync

/-! ### a RESIZING merge (finding D12's territory): the plumbing and `commit_sortInv` still apply

merge = concatenation; "hi" is written to row 3, then "!" merged onto it: "hi!" has another length than the delta, the op is
marked `Skip` and the result appended through the buffer. Every chunk has one section in the buffer of "s", so the guard
`ChunksOK` holds (`ChunksOK_of_nodup`). -/

def cCol : Col := { sCol with merge := fun a d => a ++ d }
def cStore : Store := { cols := #[cCol, bySIdx], commits := #[0] }

def mTxn : Txn :=
  ([(rowColumn, ⟨opInsert, 3, .fixed 0 []⟩), ("s", ⟨opPut, 3, .str [104, 105]⟩), ("s", ⟨opMerge, 3, .str [33]⟩),
    ("s", ⟨opPut, 20000, .str [121, 111]⟩)] : List (String × Op)).foldl (fun t p => t.putOp p.1 p.2) {}

theorem cStore_find_s : cStore.findCol "s" = some cCol := by simp [cStore, Store.findCol, cCol, sCol]
theorem cStore_find_ix : cStore.findCol "by_s" = some bySIdx := by
  simp [cStore, Store.findCol, cCol, sCol, bySIdx]

theorem c_attached : Attached cStore "s" "by_s" :=
  Attached.of_cols cStore "s" "by_s" (by decide) (by decide) (by decide)

theorem mTxn_ok (col : Col) : ChunksOK cStore.hash mTxn.updates "s" mTxn.dirtyChunks col := by
  apply ChunksOK_of_nodup
  have : ∀ v ∈ mTxn.updates, v.column = "s" → bufOKb v = true ∧ v.chunks.Nodup := by decide
  intro v hv hx
  exact ⟨bufOK_of_check v (this v hv hx).1, (this v hv hx).2⟩

/-- the passes of chunk 0 of `mTxn` in any string column that concatenates and has slot 3: the 16384 slots of `cCol` play
    no part (and measuring them is what the kernel would spend its time on) -/
theorem m_pass (hash : Bytes → Nat) (c : Col) (hk : c.kind = .str) (hm : c.merge = fun a d => a ++ d)
    (hn : 0 < c.nchunks) (h3 : 3 < c.data.size) :
    seenChunk hash mTxn.updates "s" 0 c =
      [⟨opInsert, 3, .fixed 0 []⟩, ⟨opPut, 3, .str [104, 105]⟩, ⟨opSkip, 3, .str [33]⟩,
       ⟨opPut, 3, .str [104, 105, 33]⟩] ∧
    ¬ NoAppend hash mTxn.updates "s" [0] c := by
  have hn' : ¬ 0 ≥ c.nchunks := by omega
  have hmk : markerOps mTxn.updates 0 = [⟨opInsert, 3, .fixed 0 []⟩] := by decide +kernel
  have hops : opsFor mTxn.updates "s" 0 = [⟨opPut, 3, .str [104, 105]⟩, ⟨opMerge, 3, .str [33]⟩] := by
    decide +kernel
  have hc : (applyData hash c 0 [⟨opInsert, 3, .fixed 0 []⟩]).col = c := by
    simp [applyData, hn', hk, stepOf, stepStr, opPut, opMerge, opInsert, opDelete]
  have hp : seenOps (applyData hash c 0 [⟨opPut, 3, .str [104, 105]⟩, ⟨opMerge, 3, .str [33]⟩]) =
        [⟨opPut, 3, .str [104, 105]⟩, ⟨opSkip, 3, .str [33]⟩, ⟨opPut, 3, .str [104, 105, 33]⟩] ∧
      (applyData hash c 0 [⟨opPut, 3, .str [104, 105]⟩, ⟨opMerge, 3, .str [33]⟩]).appended ≠ [] := by
    simp [seenOps, applyData, hn', hk, stepOf, stepStr, hm, h3, opPut, opMerge, valRaw, markSkip, opSkip]
  constructor
  · unfold seenChunk
    rw [hmk, hc]
    -- `seenFor` over the two buffers: "row" is skipped, the ops of "s" in chunk 0 are one section
    show [_] ++ (seenOps (applyData hash c 0 [⟨opPut, 3, .str [104, 105]⟩, ⟨opMerge, 3, .str [33]⟩]) ++ []) = _
    rw [hp.1]; rfl
  · intro h
    have := h.1
    rw [hmk, hc, hops] at this
    exact hp.2 this

theorem cCol_slot3 : 3 < cCol.data.size := by simp [cCol, sCol]

/-- the guard of `commit_inSync` does NOT hold for this transaction -/
example : ¬ NoAppend cStore.hash mTxn.updates "s" [0] cCol := (m_pass _ cCol rfl rfl (by decide) cCol_slot3).2

/-- what the index receives in the pass of chunk 0: the marker, the put, the merge marked `Skip` (its bytes stay), and —
    last — the appended put of the merged value -/
theorem m_seen0 : seenChunk cStore.hash mTxn.updates "s" 0 cCol =
    [⟨opInsert, 3, .fixed 0 []⟩, ⟨opPut, 3, .str [104, 105]⟩, ⟨opSkip, 3, .str [33]⟩,
     ⟨opPut, 3, .str [104, 105, 33]⟩] := (m_pass _ cCol rfl rfl (by decide) cCol_slot3).1

example : ∃ ic', (cStore.commitChunk 0 true mTxn.updates).1.findCol "by_s" = some ic' ∧
    entryOf ic' 3 = some [104, 105, 33] := by
  have h := C03store.commitChunk_computed cStore 0 true mTxn.updates "s" "by_s" cCol bySIdx (by decide) cStore_find_s rfl
    cStore_find_ix rfl (by decide) (c_attached.hyps mTxn.updates (by decide)).1
    (c_attached.hyps mTxn.updates (by decide)).2
    (BufsOK_of_one _ _ _ _ (by
      have : ∀ v ∈ mTxn.updates, v.column = "s" → bufOKb v = true ∧ v.chunks.Nodup := by decide
      intro v hv hx
      exact ⟨bufOK_of_check v (this v hv hx).1, OneSec_of_nodup v (this v hv hx).2 0⟩) _)
  have e : markerOpsCr true mTxn.updates 0 = markerOps mTxn.updates 0 := rfl
  rw [e] at h
  have e2 : markerOps mTxn.updates 0 ++ seenFor cStore.hash "s" 0 mTxn.updates
      (applyData cStore.hash cCol 0 (markerOps mTxn.updates 0)).col = seenChunk cStore.hash mTxn.updates "s" 0 cCol := rfl
  rw [e2, m_seen0] at h
  refine ⟨_, h, ?_⟩
  rw [C16.sorted_apply_sem bySIdx "s" rfl ex_sortInv]
  decide

example : ∃ ic', (cStore.commit mTxn).findCol "by_s" = some ic' ∧ ic'.kind = .sorted "s" ∧ SortInv ic' ∧
    ic' = compChunks cStore.hash mTxn.updates "s" mTxn.dirtyChunks (capCol cStore mTxn cCol) bySIdx :=
  commit_sortInv cStore mTxn "s" "by_s" "s" cCol bySIdx (by decide) cStore_find_s rfl cStore_find_ix rfl
    (by decide) (c_attached.hyps mTxn.updates (by decide)).1 (c_attached.hyps mTxn.updates (by decide)).2
    (mTxn_ok _) ex_sortInv

section Axioms
#print axioms commit_sortInv
#print axioms commit_inSync
#print axioms commits_inSync
#print axioms commits_sorted_reads
#print axioms ex_entries
end Axioms

end ColumnVerif.Props.C16store
