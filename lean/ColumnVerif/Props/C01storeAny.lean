import ColumnVerif.Lemmas.StoreCol
import ColumnVerif.Props.C01store
import ColumnVerif.Props.C01str
import ColumnVerif.Props.C12store
/-!
# C01 at store level for EVERY data column — what `Store.commit` leaves under a data column's name

`Props/C01store.lean` carries the column-level read-back through the real `Store.commit` for numeric columns, slot by slot.
Here the plumbing (registry `findCol` / `setCol`, marker pass, main pass over the sections of a buffer, computed pass,
emission, the chunk loop, `commitCapacity`) is made precise once, for every data kind (numeric, string, record, enum, key —
`Kind.isData`), as an **equality of `Col` records**:

  after `s.commit t` the name `x` resolves to
  `colChunks s.hash t.updates x t.dirtyChunks (capCol s t col)`
    = the fold over the dirty chunks, ascending, of
      `fun c ch => (applyData s.hash c ch (markerOps t.updates ch ++ opsFor t.updates x ch)).col`
      starting from the column as `commitCapacity` leaves it (`capCol`: `col`, or `col.grow …` when the last dirty chunk is new)

— the column-level function `applyData` alone, applied to the markers of the chunk (`Delete` markers clear presence /
release keys through `commitMarkers`) followed by the ops the buffer(s) of `x` hold for the chunk, in section order.
Every column-level theorem about `applyData` (`C01`, `C01str`, `C12`, …) therefore lifts to the store by a fold.

**The one guard** (`ChunksOK`; per chunk `BufsOK`, per buffer pass `PassOK`). A *resizing string merge* (`stepStr`: result of
another length than the delta) appends `Put result` to the very buffer `mainPass` is iterating over; when the chunk has
several sections in that buffer the put can land in a section the loop has not reached yet and is then applied a second
time, after ops the transaction issued later — finding D12 on the primary itself (`d12_on_primary` below: without a guard
the equation is false). `PassOK hash c ch u` asks, for the pass of chunk `ch` over buffer `u` in column state `c`:

  nothing is appended (`(applyData hash c ch (u.rangeOps ch)).appended = []`)   **or**
  the buffer is well-formed (`BufOK`, part of `Buf.Inv`) and holds at most one section of chunk `ch` (`OneSec`).

It holds automatically for numeric, enum and key columns (`chunksOK_of_kind`), for transactions without `Merge` ops on `x`
(`chunksOK_of_no_merge`), for merge functions that keep the delta's length (`chunksOK_of_len`), for `NoAppend` in general
(`chunksOK_of_noAppend`, decidable), and — resizing merges allowed, no condition on the ops — for buffers written through the
API whose chunks appear once each (`chunksOK_of_nodup`). Not covered: a resizing merge in a chunk that has several
sections in the buffer (there the per-offset D12 guard would be needed, and `d12_on_primary` shows the effect is real).
Not needed (so not assumed): `NamesDistinct s`, `BufsDistinct ups` (several buffers of one name are applied in buffer order,
`opsFor`), `ChunkOK`, "chunk allocated" (a missing chunk leaves the column alone on both sides of the equation).

Contents: P1 `commitChunk_col` (+ frame), P2 `commit_col` (+ frame, invariants kept, sequences of commits), P3 slot-level
read-back for every kind with a slot law (`commit_slot`) and the string / record lift `commit_read_str_last_put` …,
P4 key columns (`commit_key_inv`, `commits_key_inv`, `offsetOf_after_commit`, from `Props/C12store.lean`; here also
`commit_key_put_resolves` — a key written last to a row resolves to it — and `commit_key_delete_releases` — a deleted row
releases its key, which can be inserted again), P5 non-vacuity (a string and a key column, two chunks with growth, a
resizing merge, two chained commits) and the D12-on-the-primary witness.
-/
namespace ColumnVerif.Props.C01storeAny
open ColumnVerif.Codec ColumnVerif.Store ColumnVerif.Bits

/-! ## P1 — one dirty chunk -/

/-- **`commitChunk_col`** (the plumbing lemma, any data kind): markers first (when `changedRows`), then the column's
    buffer(s). An equality of `Col` records in terms of `applyData` alone. -/
theorem commitChunk_col (s : Store) (ch : Nat) (cr : Bool) (ups : List Buf) (x : String) (col : Col)
    (hxr : x ≠ rowColumn) (hf : s.findCol x = some col) (hd : col.kind.isData = true)
    (hcomp : ∀ v ∈ ups, ∀ c, s.findCol v.column = some c → x ∉ c.computed)
    (hok : BufsOK s.hash x ch ups (applyData s.hash col ch (markerOpsCr cr ups ch)).col) :
    (s.commitChunk ch cr ups).1.findCol x =
      some (applyData s.hash (applyData s.hash col ch (markerOpsCr cr ups ch)).col ch (opsFor ups x ch)).col := by
  rw [(commitChunk_ok_full s ch cr ups x col hxr hf hd hcomp hok).1, applyData_col_append]

theorem bufsOK_of_noAppend (hash : Bytes → Nat) (x : String) (ch : Nat) (ups : List Buf) (col : Col)
    (h : (applyData hash col ch (opsFor ups x ch)).appended = []) : BufsOK hash x ch ups col :=
  BufsOK_of_noAppend hash x ch ups col h

theorem bufsOK_of_kind (hash : Bytes → Nat) (x : String) (ch : Nat) (ups : List Buf) (col : Col)
    (hk : col.kind ≠ .str ∧ col.kind ≠ .record) : BufsOK hash x ch ups col :=
  BufsOK_of_noAppend hash x ch ups col (applyData_appended_nil_of_kind hash col ch _ hk)

theorem bufsOK_of_no_merge (hash : Bytes → Nat) (x : String) (ch : Nat) (ups : List Buf) (col : Col)
    (hm : ∀ o ∈ opsFor ups x ch, o.typ ≠ opMerge) : BufsOK hash x ch ups col :=
  BufsOK_of_noAppend hash x ch ups col (applyData_appended_nil_of_no_merge hash col ch _ hm)

theorem bufsOK_of_one (hash : Bytes → Nat) (x : String) (ch : Nat) (ups : List Buf) (col : Col)
    (h : ∀ v ∈ ups, v.column = x → BufOK v ∧ OneSec v ch) : BufsOK hash x ch ups col :=
  BufsOK_of_one hash x ch ups h col

/-- buffers written through the writer API (`Buf.Inv`, kept by `Buf.put`) are well-formed -/
theorem bufOK_of_inv (b : Buf) (h : b.Inv) : BufOK b := BufOK.of_inv h

/-- as `Txn.commit` calls it (`changedRows` = a marker buffer exists), with distinct buffer names: the markers of the chunk,
    then the chunk's ops of the one buffer `u` of the column -/
theorem commitChunk_col_distinct (s : Store) (ch : Nat) (ups : List Buf) (u : Buf) (col : Col)
    (hu : u ∈ ups) (hdist : BufsDistinct ups)
    (hxr : u.column ≠ rowColumn) (hf : s.findCol u.column = some col) (hd : col.kind.isData = true)
    (hcomp : ∀ v ∈ ups, ∀ c, s.findCol v.column = some c → u.column ∉ c.computed)
    (hok : PassOK s.hash (applyData s.hash col ch (markerOps ups ch)).col ch u) :
    (s.commitChunk ch (ups.find? isMarkerBuf).isSome ups).1.findCol u.column =
      some (applyData s.hash (applyData s.hash col ch (markerOps ups ch)).col ch (u.rangeOps ch)).col := by
  have h := commitChunk_col s ch (ups.find? isMarkerBuf).isSome ups u.column col hxr hf hd hcomp
  rw [markerOpsCr_isSome, C01store.opsFor_single ups hdist u hu ch] at h
  exact h (BufsOK_of_distinct s.hash ch ups hdist u hu _ hok)

theorem commitChunk_col_no_buffer (s : Store) (ch : Nat) (cr : Bool) (ups : List Buf) (x : String) (col : Col)
    (hxr : x ≠ rowColumn) (hf : s.findCol x = some col) (hd : col.kind.isData = true)
    (hcomp : ∀ v ∈ ups, ∀ c, s.findCol v.column = some c → x ∉ c.computed) (hnone : ∀ v ∈ ups, v.column ≠ x) :
    (s.commitChunk ch cr ups).1.findCol x = some (applyData s.hash col ch (markerOpsCr cr ups ch)).col := by
  have h := commitChunk_col s ch cr ups x col hxr hf hd hcomp (BufsOK_of_none s.hash x ch ups hnone _)
  rw [opsFor_none ups x ch hnone, applyData_col_nil] at h
  exact h

/-- the hypothesis on computed columns follows from the store invariant `ComputedKinds` (kept by every commit) -/
theorem notComputed (s : Store) (hck : ComputedKinds s) (x : String) (col : Col)
    (hf : s.findCol x = some col) (hd : col.kind.isData = true) (ups : List Buf) :
    ∀ v ∈ ups, ∀ c, s.findCol v.column = some c → x ∉ c.computed :=
  notComputed_of_computedKinds s hck x col hf hd ups

/-- frame: the pass of chunk `ch` applies only ops with `chunkOf idx = ch`, so the slots of the other chunks are left
    alone (any data kind; the buffers of `x` and the marker buffer keep ops in sections of their own chunk) -/
theorem commitChunk_col_frame (s : Store) (ch : Nat) (ups : List Buf) (x : String) (col : Col)
    (hxr : x ≠ rowColumn) (hf : s.findCol x = some col) (hd : col.kind.isData = true)
    (hcomp : ∀ v ∈ ups, ∀ c, s.findCol v.column = some c → x ∉ c.computed)
    (hok : BufsOK s.hash x ch ups (applyData s.hash col ch (markerOps ups ch)).col)
    (hco : ChunkOps x ups [ch]) (i : Nat) (hi : chunkOf i ≠ ch) :
    ∃ col', (s.commitChunk ch (ups.find? isMarkerBuf).isSome ups).1.findCol x = some col' ∧ slot col' i = slot col i := by
  have h := (commitChunk_ok_full s ch (ups.find? isMarkerBuf).isSome ups x col hxr hf hd hcomp
    (by rw [markerOpsCr_isSome]; exact hok)).1
  rw [markerOpsCr_isSome] at h
  refine ⟨_, h, applyData_chunk_frame s.hash col ch _ i ?_ hi⟩
  intro o ho
  rcases List.mem_append.1 ho with ho | ho
  · exact markerOps_chunk x ups [ch] hco ch (by simp) o ho
  · exact opsFor_chunk x ups [ch] hco ch (by simp) o ho

/-! ## P2 — `Store.commit` -/

/-- **`commit_col`** (any data kind, any number of dirty chunks, any other buffers): see the header -/
theorem commit_col (s : Store) (t : Txn) (x : String) (col : Col)
    (hxr : x ≠ rowColumn) (hf : s.findCol x = some col) (hd : col.kind.isData = true)
    (hcomp : ∀ v ∈ t.updates, ∀ c, s.findCol v.column = some c → x ∉ c.computed)
    (hok : ChunksOK s.hash t.updates x t.dirtyChunks (capCol s t col)) :
    (s.commit t).findCol x = some (colChunks s.hash t.updates x t.dirtyChunks (capCol s t col)) :=
  commit_col_ok s t x col hxr hf hd hcomp hok

theorem capCol_eq (s : Store) (t : Txn) (c : Col) :
    capCol s t c =
      match t.dirtyChunks.getLast? with
      | some last => if s.commits.size ≥ last + 1 then c else c.grow (16384 * last + 16383)
      | none => c := rfl

theorem chunksOK_eq (hash : Bytes → Nat) (ups : List Buf) (x : String) (ch : Nat) (cs : List Nat) (c : Col) :
    ChunksOK hash ups x (ch :: cs) c =
      (BufsOK hash x ch ups (applyData hash c ch (markerOps ups ch)).col ∧
       ChunksOK hash ups x cs (applyData hash c ch (markerOps ups ch ++ opsFor ups x ch)).col) := rfl

theorem passOK_eq (hash : Bytes → Nat) (c : Col) (ch : Nat) (u : Buf) :
    PassOK hash c ch u = ((applyData hash c ch (u.rangeOps ch)).appended = [] ∨ (BufOK u ∧ OneSec u ch)) := rfl

theorem chunksOK_of_noAppend (s : Store) (t : Txn) (x : String) (col : Col)
    (h : NoAppend s.hash t.updates x t.dirtyChunks (capCol s t col)) :
    ChunksOK s.hash t.updates x t.dirtyChunks (capCol s t col) :=
  ChunksOK_of_noAppend _ _ _ _ _ h

theorem chunksOK_of_kind (s : Store) (t : Txn) (x : String) (col : Col) (hk : col.kind ≠ .str ∧ col.kind ≠ .record) :
    ChunksOK s.hash t.updates x t.dirtyChunks (capCol s t col) :=
  ChunksOK_of_noAppend _ _ _ _ _ (NoAppend_of_kind _ _ _ _ _ (by rw [(capCol_meta s t col).2.1]; exact hk))

theorem chunksOK_of_no_merge (s : Store) (t : Txn) (x : String) (col : Col)
    (hm : ∀ o ∈ allFor t.updates x, o.typ ≠ opMerge) :
    ChunksOK s.hash t.updates x t.dirtyChunks (capCol s t col) :=
  ChunksOK_of_noAppend _ _ _ _ _
    (NoAppend_of_no_merge _ _ _ _ _ (fun c _ o ho => hm o (opsFor_sub_allFor t.updates x c o ho)))

theorem chunksOK_of_len (s : Store) (t : Txn) (x : String) (col : Col)
    (hm : ∀ v d, (col.merge v d).length = d.length) :
    ChunksOK s.hash t.updates x t.dirtyChunks (capCol s t col) :=
  ChunksOK_of_noAppend _ _ _ _ _ (NoAppend_of_len _ _ _ _ _ (by rw [(capCol_meta s t col).2.2.2]; exact hm))

theorem chunksOK_of_nodup (s : Store) (t : Txn) (x : String) (col : Col)
    (h : ∀ v ∈ t.updates, v.column = x → BufOK v ∧ v.chunks.Nodup) :
    ChunksOK s.hash t.updates x t.dirtyChunks (capCol s t col) :=
  ChunksOK_of_nodup _ _ _ _ h _

theorem commit_col_of_kind (s : Store) (t : Txn) (x : String) (col : Col)
    (hxr : x ≠ rowColumn) (hf : s.findCol x = some col) (hd : col.kind.isData = true)
    (hk : col.kind ≠ .str ∧ col.kind ≠ .record)
    (hcomp : ∀ v ∈ t.updates, ∀ c, s.findCol v.column = some c → x ∉ c.computed) :
    (s.commit t).findCol x = some (colChunks s.hash t.updates x t.dirtyChunks (capCol s t col)) :=
  commit_col s t x col hxr hf hd hcomp (chunksOK_of_kind s t x col hk)

theorem colChunks_distinct (hash : Bytes → Nat) (ups : List Buf) (hdist : BufsDistinct ups) (u : Buf) (hu : u ∈ ups)
    (cs : List Nat) (col : Col) :
    colChunks hash ups u.column cs col =
      cs.foldl (fun c ch => (applyData hash c ch (markerOps ups ch ++ u.rangeOps ch)).col) col := by
  unfold colChunks chunkOps
  congr 1
  funext c ch
  rw [C01store.opsFor_single ups hdist u hu ch]

/-- what the column keeps: signature, merge function, well-formed arrays, coverage — so the theorem chains over commits -/
theorem commit_col_keeps (s : Store) (t : Txn) (x : String) (col : Col) (hd : col.kind.isData = true) :
    let col' := colChunks s.hash t.updates x t.dirtyChunks (capCol s t col)
    col'.name = col.name ∧ col'.kind = col.kind ∧ col'.merge = col.merge ∧ col'.computed = col.computed ∧
    col.nchunks ≤ col'.nchunks ∧ (ColWF col → ColWF col') ∧
    (s.commits.size ≤ col.nchunks → ∀ c ∈ t.dirtyChunks, c < col'.nchunks) := by
  intro col'
  have hsh := colChunks_shape s.hash t.updates x t.dirtyChunks (capCol s t col)
  obtain ⟨m1, m2, m3, m4⟩ := capCol_meta s t col
  obtain ⟨_, _, g3, _, g5, g6⟩ := capCol_data s t col hd
  exact ⟨hsh.name.trans m1, hsh.kind.trans m2, hsh.merge.trans m4, hsh.computed.trans m3,
    by show col.nchunks ≤ (colChunks _ _ _ _ _).nchunks; rw [hsh.nchunks]; exact g3,
    fun hw => ColWF.of_shape hsh (g5 hw),
    fun hcov c hc => by show c < (colChunks _ _ _ _ _).nchunks; rw [hsh.nchunks]; exact g6 hcov c hc⟩

theorem commit_col_untouched (s : Store) (t : Txn) (x : String) (col : Col)
    (hxr : x ≠ rowColumn) (hf : s.findCol x = some col) (hd : col.kind.isData = true)
    (hcomp : ∀ v ∈ t.updates, ∀ c, s.findCol v.column = some c → x ∉ c.computed)
    (hok : ChunksOK s.hash t.updates x t.dirtyChunks (capCol s t col))
    (i : Nat) (hnone : ∀ o ∈ markerAll t.updates ++ allFor t.updates x, o.idx ≠ i) :
    ∃ col', (s.commit t).findCol x = some col' ∧ slot col' i = slot col i := by
  refine ⟨_, commit_col s t x col hxr hf hd hcomp hok, ?_⟩
  rw [colChunks_slot_frame s.hash t.updates x t.dirtyChunks _ i
    (fun ch _ o ho => hnone o (chunkOps_sub_issued t.updates x ch o ho)), (capCol_data s t col hd).2.2.2.1 i]

/-- the column after a sequence of commits -/
def colTxns (x : String) : List Txn → Store → Col → Col
  | [], _, c => c
  | t :: ts, s, c => colTxns x ts (s.commit t) (colChunks s.hash t.updates x t.dirtyChunks (capCol s t c))

/-- the guard for a sequence of transactions, each in the state the previous commits leave -/
def ChunksOKTxns (x : String) : List Txn → Store → Col → Prop
  | [], _, _ => True
  | t :: ts, s, c =>
    ChunksOK s.hash t.updates x t.dirtyChunks (capCol s t c) ∧
    ChunksOKTxns x ts (s.commit t) (colChunks s.hash t.updates x t.dirtyChunks (capCol s t c))

/-- **any sequence of committed transactions** (fixed schema), any data kind -/
theorem commits_col (x : String) (hxr : x ≠ rowColumn) (ts : List Txn) :
    ∀ (s : Store) (col : Col), s.findCol x = some col → col.kind.isData = true →
      (∀ t ∈ ts, ∀ v ∈ t.updates, ∀ c, s.findCol v.column = some c → x ∉ c.computed) → ChunksOKTxns x ts s col →
      (ts.foldl Store.commit s).findCol x = some (colTxns x ts s col) := by
  induction ts with
  | nil => intro s col hf _ _ _; exact hf
  | cons t ts ih =>
    intro s col hf hd hcomp hok
    simp only [List.foldl_cons]
    have f1 := commit_col s t x col hxr hf hd (hcomp t (by simp)) hok.1
    exact ih (s.commit t) _ f1 (by rw [(commit_col_keeps s t x col hd).2.1]; exact hd) (by
      intro t' ht' v hv c hc
      obtain ⟨c0, hc0, e, _⟩ := commit_back s t v.column c hc
      rw [e]
      exact hcomp t' (by simp [ht']) v hv c0 hc0) hok.2

theorem chunksOKTxns_of_kind (x : String) (ts : List Txn) :
    ∀ (s : Store) (col : Col), col.kind.isData = true → col.kind ≠ .str ∧ col.kind ≠ .record → ChunksOKTxns x ts s col := by
  induction ts with
  | nil => intro s col _ _; trivial
  | cons t ts ih =>
    intro s col hd hk
    have hk' := (commit_col_keeps s t x col hd).2.1
    exact ⟨chunksOK_of_kind s t x col hk, ih _ _ (by rw [hk']; exact hd) (by rw [hk']; exact hk)⟩

/-! ## P3 — slot-level read-back for every kind with a slot law; strings and records -/

/-- **`commit_slot`** (generalises `C01store.commit_readback` to every data kind with a per-section slot law `E`):
    laws available: `slotLaw_num` (`slotEffect merge width`), `slotLaw_str` (`slotEffect merge 0`), `slotLaw_enum`
    (`enumEffect hash`), `slotLaw_key` (`keyEffect`) -/
theorem commit_slot (s : Store) (t : Txn) (x : String) (col : Col) (E : Bool × Bytes → Op → Bool × Bytes)
    (hxr : x ≠ rowColumn) (hf : s.findCol x = some col) (hd : col.kind.isData = true) (hw : ColWF col)
    (hcov : s.commits.size ≤ col.nchunks)
    (hcomp : ∀ v ∈ t.updates, ∀ c, s.findCol v.column = some c → x ∉ c.computed)
    (hok : ChunksOK s.hash t.updates x t.dirtyChunks (capCol s t col))
    (hlaw : SlotLaw s.hash col.kind col.merge E)
    (hinv : ∀ v ∈ t.updates, (v.column = x ∨ isMarkerBuf v = true) → ChunkOK v) :
    ∃ col', (s.commit t).findCol x = some col' ∧ col'.kind = col.kind ∧ col'.merge = col.merge ∧ ColWF col' ∧
      col.nchunks ≤ col'.nchunks ∧ (∀ c ∈ t.dirtyChunks, c < col'.nchunks) ∧
      col' = colChunks s.hash t.updates x t.dirtyChunks (capCol s t col) ∧
      ∀ i, slot col' i =
        ((markerAll t.updates ++ allFor t.updates x).filter (fun o => o.idx = i)).foldl E (slot col i) :=
  commit_slot_ok s t x col E hxr hf hd hw hcov hcomp hok hlaw hinv

/-- raw-storing kinds (numeric, string, record, key): the last store decides. When the last op (marker or column op) the
    transaction addresses to `i` is a `Put`, a reader of `x` at `i` gets exactly its bytes. -/
theorem commit_read_last_put_raw (s : Store) (t : Txn) (x : String) (col : Col) (E : Bool × Bytes → Op → Bool × Bytes)
    (hxr : x ≠ rowColumn) (hf : s.findCol x = some col) (hraw : col.kind.storesRaw = true) (hw : ColWF col)
    (hcov : s.commits.size ≤ col.nchunks)
    (hcomp : ∀ v ∈ t.updates, ∀ c, s.findCol v.column = some c → x ∉ c.computed)
    (hok : ChunksOK s.hash t.updates x t.dirtyChunks (capCol s t col))
    (hlaw : SlotLaw s.hash col.kind col.merge E)
    (hE : ∀ st p, p.typ = opPut → E st p = (true, valRaw p.val))
    (hinv : ∀ v ∈ t.updates, (v.column = x ∨ isMarkerBuf v = true) → ChunkOK v)
    (i : Nat) (pre : List Op) (p : Op) (hp : p.typ = opPut)
    (hlast : (markerAll t.updates ++ allFor t.updates x).filter (fun o => o.idx = i) = pre ++ [p]) :
    ∃ col', (s.commit t).findCol x = some col' ∧ col'.read i = some (valRaw p.val) := by
  obtain ⟨col', f, k', _, _, _, d', _, sl⟩ :=
    commit_slot s t x col E hxr hf (Kind.storesRaw_data hraw).1 hw hcov hcomp hok hlaw hinv
  refine ⟨col', f, ?_⟩
  have hmem : p ∈ (markerAll t.updates ++ allFor t.updates x).filter (fun o => o.idx = i) := by rw [hlast]; simp
  have hpi : p.idx = i := by simpa using (List.mem_filter.1 hmem).2
  have hdirty := issued_chunk_dirty t x hinv p (List.mem_filter.1 hmem).1
  have hlt := d' _ hdirty
  rw [hpi] at hlt
  unfold chunkOf chunkSize at hlt
  have hslot : slot col' i = (true, valRaw p.val) := by
    rw [sl i, hlast, List.foldl_append]
    exact hE _ p hp
  rw [read_raw col' (by rw [k']; exact hraw) i, hslot, if_pos ⟨hlt, rfl⟩]

/-- … when it is a `Delete` (row deleted through the marker, or a column delete) the reader finds nothing -/
theorem commit_read_last_delete_raw (s : Store) (t : Txn) (x : String) (col : Col) (E : Bool × Bytes → Op → Bool × Bytes)
    (hxr : x ≠ rowColumn) (hf : s.findCol x = some col) (hraw : col.kind.storesRaw = true) (hw : ColWF col)
    (hcov : s.commits.size ≤ col.nchunks)
    (hcomp : ∀ v ∈ t.updates, ∀ c, s.findCol v.column = some c → x ∉ c.computed)
    (hok : ChunksOK s.hash t.updates x t.dirtyChunks (capCol s t col))
    (hlaw : SlotLaw s.hash col.kind col.merge E)
    (hE : ∀ st p, p.typ = opDelete → (E st p).1 = false)
    (hinv : ∀ v ∈ t.updates, (v.column = x ∨ isMarkerBuf v = true) → ChunkOK v)
    (i : Nat) (pre : List Op) (p : Op) (hp : p.typ = opDelete)
    (hlast : (markerAll t.updates ++ allFor t.updates x).filter (fun o => o.idx = i) = pre ++ [p]) :
    ∃ col', (s.commit t).findCol x = some col' ∧ col'.read i = none := by
  obtain ⟨col', f, k', _, _, _, _, _, sl⟩ :=
    commit_slot s t x col E hxr hf (Kind.storesRaw_data hraw).1 hw hcov hcomp hok hlaw hinv
  refine ⟨col', f, ?_⟩
  have hslot : (slot col' i).1 = false := by
    rw [sl i, hlast, List.foldl_append]
    exact hE _ p hp
  rw [read_raw col' (by rw [k']; exact hraw) i, if_neg]
  intro h
  rw [hslot] at h
  exact absurd h.2 (by decide)

/-- rows the transaction does not address read exactly as before (raw-storing kinds; no slot law needed) -/
theorem commit_read_untouched_raw (s : Store) (t : Txn) (x : String) (col : Col)
    (hxr : x ≠ rowColumn) (hf : s.findCol x = some col) (hraw : col.kind.storesRaw = true) (hw : ColWF col)
    (hcomp : ∀ v ∈ t.updates, ∀ c, s.findCol v.column = some c → x ∉ c.computed)
    (hok : ChunksOK s.hash t.updates x t.dirtyChunks (capCol s t col))
    (i : Nat) (hnone : ∀ o ∈ markerAll t.updates ++ allFor t.updates x, o.idx ≠ i) :
    ∃ col', (s.commit t).findCol x = some col' ∧ slot col' i = slot col i ∧ col'.read i = col.read i := by
  have hd := (Kind.storesRaw_data hraw).1
  obtain ⟨col', f, hs⟩ := commit_col_untouched s t x col hxr hf hd hcomp hok i hnone
  have hcol' : col' = colChunks s.hash t.updates x t.dirtyChunks (capCol s t col) := by
    rw [commit_col s t x col hxr hf hd hcomp hok] at f
    exact (Option.some.inj f).symm
  obtain ⟨_, k', _, _, n', _, _⟩ := commit_col_keeps s t x col hd
  rw [← hcol'] at k' n'
  refine ⟨col', f, hs, ?_⟩
  rw [read_raw col' (by rw [k']; exact hraw) i, read_raw col hraw i, hs]
  by_cases h1 : i / 16384 < col.nchunks
  · have h2 : i / 16384 < col'.nchunks := by omega
    simp only [h1, h2, true_and]
  · have hb : (slot col i).1 = false := by
      unfold slot
      simp only
      apply get_of_ge
      rw [hw.bsize]
      have : 16384 * col.nchunks ≤ 16384 * (i / 16384) := Nat.mul_le_mul_left _ (by omega)
      omega
    have hA : ¬ (i / 16384 < col'.nchunks ∧ (slot col i).1 = true) := by
      intro h; rw [hb] at h; exact absurd h.2 (by decide)
    have hB : ¬ (i / 16384 < col.nchunks ∧ (slot col i).1 = true) := fun h => h1 h.1
    rw [if_neg hA, if_neg hB]

/-! ### strings and records -/

/-- every slot of a string / record column after the commit (the analogue of `C01store.commit_readback`;
    `slotEffect merge 0`: strings are not padded, a `Merge` reads the raw old slot even when the row is absent) -/
theorem commit_readback_str (s : Store) (t : Txn) (x : String) (col : Col)
    (hxr : x ≠ rowColumn) (hf : s.findCol x = some col) (hk : col.kind = .str ∨ col.kind = .record) (hw : ColWF col)
    (hcov : s.commits.size ≤ col.nchunks)
    (hcomp : ∀ v ∈ t.updates, ∀ c, s.findCol v.column = some c → x ∉ c.computed)
    (hok : ChunksOK s.hash t.updates x t.dirtyChunks (capCol s t col))
    (hinv : ∀ v ∈ t.updates, (v.column = x ∨ isMarkerBuf v = true) → ChunkOK v) :
    ∃ col', (s.commit t).findCol x = some col' ∧ col'.kind = col.kind ∧ col'.merge = col.merge ∧ ColWF col' ∧
      col.nchunks ≤ col'.nchunks ∧ (∀ c ∈ t.dirtyChunks, c < col'.nchunks) ∧
      ∀ i, slot col' i =
        ((markerAll t.updates ++ allFor t.updates x).filter (fun o => o.idx = i)).foldl
          (slotEffect col.merge 0) (slot col i) := by
  have hd : col.kind.isData = true := by rcases hk with hk | hk <;> rw [hk] <;> rfl
  obtain ⟨col', f, k', m', w', n', d', _, sl⟩ := commit_slot s t x col (slotEffect col.merge 0) hxr hf hd hw hcov hcomp hok
    (slotLaw_str s.hash col.kind hk col.merge) hinv
  exact ⟨col', f, k', m', w', n', d', sl⟩

theorem commit_read_str (s : Store) (t : Txn) (x : String) (col : Col)
    (hxr : x ≠ rowColumn) (hf : s.findCol x = some col) (hk : col.kind = .str ∨ col.kind = .record) (hw : ColWF col)
    (hcov : s.commits.size ≤ col.nchunks)
    (hcomp : ∀ v ∈ t.updates, ∀ c, s.findCol v.column = some c → x ∉ c.computed)
    (hok : ChunksOK s.hash t.updates x t.dirtyChunks (capCol s t col))
    (hinv : ∀ v ∈ t.updates, (v.column = x ∨ isMarkerBuf v = true) → ChunkOK v) :
    ∃ col', (s.commit t).findCol x = some col' ∧
      ∀ i, col'.read i =
        if i / 16384 < col'.nchunks ∧
            (((markerAll t.updates ++ allFor t.updates x).filter (fun o => o.idx = i)).foldl
              (slotEffect col.merge 0) (slot col i)).1 = true then
          some (((markerAll t.updates ++ allFor t.updates x).filter (fun o => o.idx = i)).foldl
              (slotEffect col.merge 0) (slot col i)).2
        else none := by
  obtain ⟨col', f, k', _, _, _, _, sl⟩ := commit_readback_str s t x col hxr hf hk hw hcov hcomp hok hinv
  refine ⟨col', f, fun i => ?_⟩
  rw [read_raw col' (by rw [k']; rcases hk with hk | hk <;> rw [hk] <;> rfl) i, sl i]

/-- **`commit_read_str_last_put`** (string / record columns): the last committed `Put` to (row, column) reads back
    byte-for-byte — whatever the slot held before, whatever else the transaction did (markers, merges — resizing ones
    included —, deletes before it, other columns, other chunks). Guard: `ChunksOK` (see the header). -/
theorem commit_read_str_last_put (s : Store) (t : Txn) (x : String) (col : Col)
    (hxr : x ≠ rowColumn) (hf : s.findCol x = some col) (hk : col.kind = .str ∨ col.kind = .record) (hw : ColWF col)
    (hcov : s.commits.size ≤ col.nchunks)
    (hcomp : ∀ v ∈ t.updates, ∀ c, s.findCol v.column = some c → x ∉ c.computed)
    (hok : ChunksOK s.hash t.updates x t.dirtyChunks (capCol s t col))
    (hinv : ∀ v ∈ t.updates, (v.column = x ∨ isMarkerBuf v = true) → ChunkOK v)
    (i : Nat) (pre : List Op) (p : Op) (hp : p.typ = opPut)
    (hlast : (markerAll t.updates ++ allFor t.updates x).filter (fun o => o.idx = i) = pre ++ [p]) :
    ∃ col', (s.commit t).findCol x = some col' ∧ col'.read i = some (valRaw p.val) :=
  commit_read_last_put_raw s t x col (slotEffect col.merge 0) hxr hf
    (by rcases hk with hk | hk <;> rw [hk] <;> rfl) hw hcov hcomp hok (slotLaw_str s.hash col.kind hk col.merge)
    (fun st p hp => by unfold slotEffect; rw [if_pos hp]) hinv i pre p hp hlast

/-- … a `Delete` last (row deleted, or column delete): nothing is read -/
theorem commit_read_str_last_delete (s : Store) (t : Txn) (x : String) (col : Col)
    (hxr : x ≠ rowColumn) (hf : s.findCol x = some col) (hk : col.kind = .str ∨ col.kind = .record) (hw : ColWF col)
    (hcov : s.commits.size ≤ col.nchunks)
    (hcomp : ∀ v ∈ t.updates, ∀ c, s.findCol v.column = some c → x ∉ c.computed)
    (hok : ChunksOK s.hash t.updates x t.dirtyChunks (capCol s t col))
    (hinv : ∀ v ∈ t.updates, (v.column = x ∨ isMarkerBuf v = true) → ChunkOK v)
    (i : Nat) (pre : List Op) (p : Op) (hp : p.typ = opDelete)
    (hlast : (markerAll t.updates ++ allFor t.updates x).filter (fun o => o.idx = i) = pre ++ [p]) :
    ∃ col', (s.commit t).findCol x = some col' ∧ col'.read i = none :=
  commit_read_last_delete_raw s t x col (slotEffect col.merge 0) hxr hf
    (by rcases hk with hk | hk <;> rw [hk] <;> rfl) hw hcov hcomp hok (slotLaw_str s.hash col.kind hk col.merge)
    (fun st p hp => by
      unfold slotEffect
      rw [if_neg (by rw [hp]; decide), if_neg (by rw [hp]; decide), if_pos hp]) hinv i pre p hp hlast

theorem commit_read_str_untouched (s : Store) (t : Txn) (x : String) (col : Col)
    (hxr : x ≠ rowColumn) (hf : s.findCol x = some col) (hk : col.kind = .str ∨ col.kind = .record) (hw : ColWF col)
    (hcomp : ∀ v ∈ t.updates, ∀ c, s.findCol v.column = some c → x ∉ c.computed)
    (hok : ChunksOK s.hash t.updates x t.dirtyChunks (capCol s t col))
    (i : Nat) (hnone : ∀ o ∈ markerAll t.updates ++ allFor t.updates x, o.idx ≠ i) :
    ∃ col', (s.commit t).findCol x = some col' ∧ slot col' i = slot col i ∧ col'.read i = col.read i :=
  commit_read_untouched_raw s t x col hxr hf (by rcases hk with hk | hk <;> rw [hk] <;> rfl) hw hcomp hok i hnone

/-! ## P4 — key columns (proved in `Props/C12store.lean`) -/

theorem commit_key_inv (s : Store) (t : Txn) (pk : String) (kc : Col)
    (hxr : pk ≠ rowColumn) (hf : s.findCol pk = some kc) (hk : kc.kind = .key) (hw : ColWF kc)
    (hcomp : ∀ v ∈ t.updates, ∀ c, s.findCol v.column = some c → pk ∉ c.computed)
    (hinv : KeyInv kc)
    (hwf : C12store.WFKeyChunks s.hash t.updates pk t.dirtyChunks (capCol s t kc)) :
    ∃ kc', (s.commit t).findCol pk = some kc' ∧ kc'.kind = .key ∧ ColWF kc' ∧ kc.nchunks ≤ kc'.nchunks ∧
      KeyInv kc' ∧ kc' = colChunks s.hash t.updates pk t.dirtyChunks (capCol s t kc) :=
  C12store.commit_key_inv s t pk kc hxr hf hk hw hcomp hinv hwf

/-- the last committed `Put` of a key reads back from the key column (`keyEffect`: a `Merge` does nothing to a key column) -/
theorem commit_read_key_last_put (s : Store) (t : Txn) (pk : String) (kc : Col)
    (hxr : pk ≠ rowColumn) (hf : s.findCol pk = some kc) (hk : kc.kind = .key) (hw : ColWF kc)
    (hcov : s.commits.size ≤ kc.nchunks)
    (hcomp : ∀ v ∈ t.updates, ∀ c, s.findCol v.column = some c → pk ∉ c.computed)
    (hinv : ∀ v ∈ t.updates, (v.column = pk ∨ isMarkerBuf v = true) → ChunkOK v)
    (i : Nat) (pre : List Op) (p : Op) (hp : p.typ = opPut)
    (hlast : (markerAll t.updates ++ allFor t.updates pk).filter (fun o => o.idx = i) = pre ++ [p]) :
    ∃ kc', (s.commit t).findCol pk = some kc' ∧ kc'.read i = some (valRaw p.val) :=
  commit_read_last_put_raw s t pk kc keyEffect hxr hf (by rw [hk]; rfl) hw hcov hcomp
    (chunksOK_of_kind s t pk kc (by rw [hk]; exact ⟨fun h => (by cases h), fun h => (by cases h)⟩))
    (by rw [hk]; exact slotLaw_key s.hash kc.merge)
    (fun st p hp => by unfold keyEffect; rw [if_pos hp]) hinv i pre p hp hlast

theorem commits_key_inv (pk : String) (hxr : pk ≠ rowColumn) (ts : List Txn) (s : Store) (kc : Col)
    (hf : s.findCol pk = some kc) (hk : kc.kind = .key) (hw : ColWF kc) (hinv : KeyInv kc)
    (hcomp : ∀ t ∈ ts, ∀ v ∈ t.updates, ∀ c, s.findCol v.column = some c → pk ∉ c.computed)
    (hwf : C12store.WFKeyTxns pk ts s) :
    ∃ kc', (ts.foldl Store.commit s).findCol pk = some kc' ∧ kc'.kind = .key ∧ ColWF kc' ∧ kc.nchunks ≤ kc'.nchunks ∧
      KeyInv kc' :=
  C12store.commits_key_inv pk hxr ts s kc hf hk hw hinv hcomp hwf

theorem offsetOf_after_commit (s : Store) (t : Txn) (pk : String) (kc : Col) (hpk : s.pk = some pk)
    (hxr : pk ≠ rowColumn) (hf : s.findCol pk = some kc) (hk : kc.kind = .key) (hw : ColWF kc)
    (hcomp : ∀ v ∈ t.updates, ∀ c, s.findCol v.column = some c → pk ∉ c.computed)
    (hinv : KeyInv kc)
    (hwf : C12store.WFKeyChunks s.hash t.updates pk t.dirtyChunks (capCol s t kc)) :
    ∃ kc', (s.commit t).findCol pk = some kc' ∧ KeyInv kc' ∧
      (∀ key i, (s.commit t).offsetOf key = some i ↔
        (Bits.get kc'.bits i = true ∧ keyAt kc' i = key ∧ i < kc'.bits.size ∧ i < kc'.data.size)) ∧
      (∀ key i, (s.commit t).offsetOf key = some i ↔ kc'.read i = some key) ∧
      (∀ key i j, kc'.read i = some key → kc'.read j = some key → i = j) :=
  C12store.offsetOf_after_commit s t pk kc hpk hxr hf hk hw hcomp hinv hwf

/-- a key written last to a row resolves to that row after the commit (what `InsertKey` / `UpsertKey` / `rwKey.Set` buffer) -/
theorem commit_key_put_resolves (s : Store) (t : Txn) (pk : String) (kc : Col) (hpk : s.pk = some pk)
    (hxr : pk ≠ rowColumn) (hf : s.findCol pk = some kc) (hk : kc.kind = .key) (hw : ColWF kc)
    (hcov : s.commits.size ≤ kc.nchunks)
    (hcomp : ∀ v ∈ t.updates, ∀ c, s.findCol v.column = some c → pk ∉ c.computed)
    (hinv : KeyInv kc)
    (hwf : C12store.WFKeyChunks s.hash t.updates pk t.dirtyChunks (capCol s t kc))
    (hok : ∀ v ∈ t.updates, (v.column = pk ∨ isMarkerBuf v = true) → ChunkOK v)
    (i : Nat) (pre : List Op) (p : Op) (hp : p.typ = opPut)
    (hlast : (markerAll t.updates ++ allFor t.updates pk).filter (fun o => o.idx = i) = pre ++ [p]) :
    (s.commit t).offsetOf (valRaw p.val) = some i := by
  obtain ⟨kc', f, _, _, hread, _⟩ := offsetOf_after_commit s t pk kc hpk hxr hf hk hw hcomp hinv hwf
  obtain ⟨kc2, f2, r2⟩ := commit_read_key_last_put s t pk kc hxr hf hk hw hcov hcomp hok i pre p hp hlast
  rw [f] at f2
  have e : kc2 = kc' := (Option.some.inj f2).symm
  subst e
  exact (hread _ i).2 r2

theorem foldl_keyEffect_final (k : Bytes) (ops : List Op) :
    ∀ st : Bool × Bytes, ops.foldl keyEffect st = (true, k) → (∀ o ∈ ops, o.typ = opPut → valRaw o.val ≠ k) →
      st = (true, k) ∧ ∀ o ∈ ops, o.typ ≠ opDelete := by
  induction ops with
  | nil => intro st h _; exact ⟨h, fun o ho => by cases ho⟩
  | cons o os ih =>
    intro st h hnp
    simp only [List.foldl_cons] at h
    obtain ⟨h1, h2⟩ := ih _ h (fun x hx => hnp x (by simp [hx]))
    unfold keyEffect at h1
    by_cases hput : o.typ = opPut
    · rw [if_pos hput] at h1
      exact absurd (congrArg Prod.snd h1) (hnp o (by simp) hput)
    · rw [if_neg hput] at h1
      by_cases hdel : o.typ = opDelete
      · rw [if_pos hdel] at h1
        exact absurd (congrArg Prod.fst h1) (by simp)
      · rw [if_neg hdel] at h1
        refine ⟨h1, ?_⟩
        intro x hx
        rcases List.mem_cons.1 hx with rfl | hx
        · exact hdel
        · exact h2 x hx

/-- **a deleted row releases its key** (what `DeleteKey` / `DeleteAt` buffer: the `Delete` marker of the row): when the
    last op the transaction addresses to the row holding `k` is a `Delete` and the transaction writes `k` nowhere, `k` no
    longer resolves after the commit — and can be inserted again, at any row (`WFKeyOp`) -/
theorem commit_key_delete_releases (s : Store) (t : Txn) (pk : String) (kc : Col) (hpk : s.pk = some pk)
    (hxr : pk ≠ rowColumn) (hf : s.findCol pk = some kc) (hk : kc.kind = .key) (hw : ColWF kc)
    (hcov : s.commits.size ≤ kc.nchunks)
    (hcomp : ∀ v ∈ t.updates, ∀ c, s.findCol v.column = some c → pk ∉ c.computed)
    (hinv : KeyInv kc)
    (hwf : C12store.WFKeyChunks s.hash t.updates pk t.dirtyChunks (capCol s t kc))
    (hok : ∀ v ∈ t.updates, (v.column = pk ∨ isMarkerBuf v = true) → ChunkOK v)
    (k : Bytes) (i : Nat) (hki : s.offsetOf k = some i)
    (pre : List Op) (p : Op) (hp : p.typ = opDelete)
    (hlast : (markerAll t.updates ++ allFor t.updates pk).filter (fun o => o.idx = i) = pre ++ [p])
    (hnoput : ∀ o ∈ markerAll t.updates ++ allFor t.updates pk, o.typ = opPut → valRaw o.val ≠ k) :
    (s.commit t).offsetOf k = none ∧
    ∃ kc', (s.commit t).findCol pk = some kc' ∧ KeyInv kc' ∧
      ∀ j, j < kc'.bits.size → j < kc'.data.size → WFKeyOp kc' ⟨opPut, j, .str k⟩ := by
  obtain ⟨kc', f, hinv', hraw, _, _⟩ := offsetOf_after_commit s t pk kc hpk hxr hf hk hw hcomp hinv hwf
  obtain ⟨kc2, f2, _, _, _, _, _, _, sl⟩ := commit_slot s t pk kc keyEffect hxr hf (by rw [hk]; rfl) hw hcov hcomp
    (chunksOK_of_kind s t pk kc (by rw [hk]; exact ⟨fun h => (by cases h), fun h => (by cases h)⟩))
    (by rw [hk]; exact slotLaw_key s.hash kc.merge) hok
  rw [f] at f2
  have e : kc2 = kc' := (Option.some.inj f2).symm
  subst e
  have hnone : (s.commit t).offsetOf k = none := by
    cases hj : (s.commit t).offsetOf k with
    | none => rfl
    | some j =>
      exfalso
      obtain ⟨b1, b2, _, _⟩ := (hraw k j).1 hj
      have hslot : slot kc2 j = (true, k) := by
        unfold slot
        unfold keyAt at b2
        rw [b1, b2]
      rw [sl j] at hslot
      obtain ⟨h1, h2⟩ := foldl_keyEffect_final k _ _ hslot (fun o ho => hnoput o (List.mem_filter.1 ho).1)
      -- row `j` held `k` before the commit, so `j = i`
      have hb : Bits.get kc.bits j = true := congrArg Prod.fst h1
      have hd : (kc.data[j]?).getD [] = k := congrArg Prod.snd h1
      have hlt : j < kc.bits.size := by
        false_or_by_contra
        rw [get_of_ge _ _ (by omega)] at hb
        cases hb
      have hseek : kc.seek.get? k = some j := (hinv k j).2 ⟨hb, hd, hlt, by rw [hw.dsize, ← hw.bsize]; exact hlt⟩
      rw [C12.offsetOf_eq s k pk kc hpk hf, hseek] at hki
      have hji : j = i := Option.some.inj hki
      subst hji
      -- but the last op addressed to it is a `Delete`
      exact h2 p (by rw [hlast]; simp) hp
  refine ⟨hnone, kc2, f, hinv', ?_⟩
  intro j hjb hjd
  unfold WFKeyOp
  rw [if_pos rfl]
  refine ⟨hjb, hjd, Or.inl ?_⟩
  show kc2.seek.get? k = none
  rw [← C12.offsetOf_eq (s.commit t) k pk kc2 ((commit_pk s t).trans hpk) f]
  exact hnone

/-! ## P5 — non-vacuity: a store with a string column and a key column, a transaction writing both, over two chunks -/

/-- a string column whose merge is concatenation (a resizing merge function) -/
def sCol : Col :=
  { name := "s", kind := .str, nchunks := 1, bits := Array.replicate 16384 false, data := Array.replicate 16384 [],
    merge := fun a d => a ++ d }

def kCol : Col :=
  { name := "id", kind := .key, nchunks := 1, bits := Array.replicate 16384 false, data := Array.replicate 16384 [] }

def exStore : Store := { cols := #[sCol, kCol], commits := #[0], pk := some "id" }

/-- insert row 3 (marker), write "hi" to it, write its key `[7]`, write "yo" to row 20000 — the second chunk, not yet
    committed-to, so `commitCapacity` grows both columns -/
def exTxn : Txn :=
  ([(rowColumn, ⟨opInsert, 3, .fixed 0 []⟩), ("s", ⟨opPut, 3, .str [104, 105]⟩), ("id", ⟨opPut, 3, .str [7]⟩),
    ("s", ⟨opPut, 20000, .str [121, 111]⟩)] : List (String × Op)).foldl (fun t p => t.putOp p.1 p.2) {}

theorem exStore_find_s : exStore.findCol "s" = some sCol := by
  simp [exStore, Store.findCol, sCol]
theorem exStore_find_id : exStore.findCol "id" = some kCol := by
  simp [exStore, Store.findCol, sCol, kCol]
theorem sCol_wf : ColWF sCol := ⟨by simp [sCol], by simp [sCol]⟩
theorem kCol_wf : ColWF kCol := ⟨by simp [kCol], by simp [kCol]⟩
theorem exTxn_dirty : exTxn.dirtyChunks = [0, 1] := by decide
example : BufsDistinct exTxn.updates := by decide +kernel
example : NamesDistinct exStore := by decide

theorem exTxn_chunkOK : ∀ v ∈ exTxn.updates, ChunkOK v := by decide

theorem exStore_computed : NoComputed exStore := .of_cols _ (by decide)

theorem ex_hcomp (t : Txn) (x : String) : ∀ v ∈ t.updates, ∀ c, exStore.findCol v.column = some c → x ∉ c.computed :=
  exStore_computed.notComputed x t.updates

theorem ex_ok : ChunksOK exStore.hash exTxn.updates "s" exTxn.dirtyChunks (capCol exStore exTxn sCol) :=
  chunksOK_of_no_merge exStore exTxn "s" sCol (by decide)

example : (exStore.commit exTxn).findCol "s" =
    some (colChunks exStore.hash exTxn.updates "s" exTxn.dirtyChunks (capCol exStore exTxn sCol)) :=
  commit_col exStore exTxn "s" sCol (by decide) exStore_find_s rfl (ex_hcomp exTxn "s") ex_ok

example : (exStore.commitChunk 0 true exTxn.updates).1.findCol "s" =
    some (applyData exStore.hash (applyData exStore.hash sCol 0 (markerOpsCr true exTxn.updates 0)).col 0
      (opsFor exTxn.updates "s" 0)).col :=
  commitChunk_col exStore 0 true exTxn.updates "s" sCol (by decide) exStore_find_s rfl (ex_hcomp exTxn "s")
    (bufsOK_of_no_merge _ _ _ _ _ (by decide))

example : ∃ col', (exStore.commit exTxn).findCol "s" = some col' ∧ col'.read 3 = some [104, 105] :=
  commit_read_str_last_put exStore exTxn "s" sCol (by decide) exStore_find_s (Or.inl rfl) sCol_wf (by decide)
    (ex_hcomp exTxn "s") ex_ok (fun v hv _ => exTxn_chunkOK v hv) 3
    [⟨opInsert, 3, .fixed 0 []⟩] ⟨opPut, 3, .str [104, 105]⟩ rfl (by decide)

example : ∃ col', (exStore.commit exTxn).findCol "s" = some col' ∧ col'.read 20000 = some [121, 111] :=
  commit_read_str_last_put exStore exTxn "s" sCol (by decide) exStore_find_s (Or.inl rfl) sCol_wf (by decide)
    (ex_hcomp exTxn "s") ex_ok (fun v hv _ => exTxn_chunkOK v hv) 20000
    [] ⟨opPut, 20000, .str [121, 111]⟩ rfl (by decide)

example : ∃ col', (exStore.commit exTxn).findCol "s" = some col' ∧ slot col' 4 = slot sCol 4 ∧ col'.read 4 = sCol.read 4 :=
  commit_read_str_untouched exStore exTxn "s" sCol (by decide) exStore_find_s (Or.inl rfl) sCol_wf
    (ex_hcomp exTxn "s") ex_ok 4 (by decide)

/-! ### a transaction WITH a resizing merge: write "hi" to row 3, then merge "!" onto it ("hi" ++ "!" has another length
than "!": the result is appended through the buffer), and write to a second chunk. Every chunk has one section in the
buffer of "s", so the guard holds by `chunksOK_of_nodup` -/

def mTxn : Txn :=
  ([(rowColumn, ⟨opInsert, 3, .fixed 0 []⟩), ("s", ⟨opPut, 3, .str [104, 105]⟩), ("s", ⟨opMerge, 3, .str [33]⟩),
    ("s", ⟨opPut, 20000, .str [121, 111]⟩)] : List (String × Op)).foldl (fun t p => t.putOp p.1 p.2) {}

theorem mTxn_chunkOK : ∀ v ∈ mTxn.updates, ChunkOK v := by decide

theorem mTxn_ok : ChunksOK exStore.hash mTxn.updates "s" mTxn.dirtyChunks (capCol exStore mTxn sCol) := by
  apply chunksOK_of_nodup
  have : ∀ v ∈ mTxn.updates, v.column = "s" → bufOKb v = true ∧ v.chunks.Nodup := by decide
  intro v hv hx
  exact ⟨bufOK_of_check v (this v hv hx).1, (this v hv hx).2⟩

/-- the merge result reads back: "hi!" at row 3 (and the resizing merge does not disturb row 20000) -/
theorem ex_merge : ∃ col', (exStore.commit mTxn).findCol "s" = some col' ∧ col'.read 3 = some [104, 105, 33] ∧
    col'.read 20000 = some [121, 111] := by
  obtain ⟨col', f, hr⟩ := commit_read_str exStore mTxn "s" sCol (by decide) exStore_find_s (Or.inl rfl) sCol_wf
    (by decide) (ex_hcomp mTxn "s") mTxn_ok (fun v hv _ => mTxn_chunkOK v hv)
  obtain ⟨col2, f2, _, _, _, _, d2, _⟩ := commit_readback_str exStore mTxn "s" sCol (by decide) exStore_find_s (Or.inl rfl)
    sCol_wf (by decide) (ex_hcomp mTxn "s") mTxn_ok (fun v hv _ => mTxn_chunkOK v hv)
  rw [f] at f2
  have e : col2 = col' := (Option.some.inj f2).symm
  subst e
  have hdc : mTxn.dirtyChunks = [0, 1] := by decide
  have h0 := d2 0 (by rw [hdc]; simp)
  have h1 := d2 1 (by rw [hdc]; simp)
  have s3 : slot sCol 3 = (false, []) := by simp [slot, sCol, Bits.get]
  have s2 : slot sCol 20000 = (false, []) := by simp [slot, sCol, Bits.get]
  refine ⟨col2, f, ?_, ?_⟩
  · rw [hr 3, s3]
    have : (((markerAll mTxn.updates ++ allFor mTxn.updates "s").filter (fun o => o.idx = 3)).foldl
        (slotEffect sCol.merge 0) (false, [])) = (true, [104, 105, 33]) := by decide
    rw [this, if_pos ⟨by omega, rfl⟩]
  · rw [hr 20000, s2]
    have : (((markerAll mTxn.updates ++ allFor mTxn.updates "s").filter (fun o => o.idx = 20000)).foldl
        (slotEffect sCol.merge 0) (false, [])) = (true, [121, 111]) := by decide
    rw [this, if_pos ⟨by omega, rfl⟩]

/-! ### the key column -/

theorem kCol_inv : KeyInv kCol := keyInv_of_empty kCol rfl (get_replicate_false _)

theorem ex_wfKey :
    C12store.WFKeyChunks exStore.hash exTxn.updates "id" exTxn.dirtyChunks (capCol exStore exTxn kCol) := by
  have hd : kCol.kind.isData = true := rfl
  obtain ⟨g1, _, g3, _, g5, _⟩ := capCol_data exStore exTxn kCol hd
  have hw := g5 kCol_wf
  have hn : 1 ≤ (capCol exStore exTxn kCol).nchunks := g3
  have hmul : 16384 * 1 ≤ 16384 * (capCol exStore exTxn kCol).nchunks := Nat.mul_le_mul_left _ hn
  have h0 : chunkOps exTxn.updates "id" 0 = [⟨opInsert, 3, .fixed 0 []⟩, ⟨opPut, 3, .str [7]⟩] := by decide
  have h1 : chunkOps exTxn.updates "id" 1 = [] := by decide
  rw [exTxn_dirty]
  unfold C12store.WFKeyChunks C12store.WFKeyChunks C12store.WFKeyChunks
  rw [h0, h1]
  refine ⟨?_, trivial, trivial⟩
  generalize capCol exStore exTxn kCol = K at g1 hw hmul
  show WFKeyOps ((K, [], []) : ApplyAcc).1 _
  rw [WFKeyOps_cons, WFKeyOps_cons]
  refine ⟨?_, ?_, trivial⟩
  · unfold WFKeyOp
    rw [if_neg (by decide), if_neg (by decide)]
    trivial
  · rw [stepKey_other _ _ (by decide) (by decide)]
    unfold WFKeyOp
    rw [if_pos rfl]
    refine ⟨?_, ?_, Or.inl ?_⟩
    · show 3 < K.bits.size
      rw [hw.bsize]; omega
    · show 3 < K.data.size
      rw [hw.dsize]; omega
    · show K.seek.get? [7] = none
      rw [g1]; simp [kCol]

theorem ex_key :
    ∃ kc', (exStore.commit exTxn).findCol "id" = some kc' ∧ KeyInv kc' ∧
      (exStore.commit exTxn).offsetOf [7] = some 3 ∧
      ∀ key, (exStore.commit exTxn).offsetOf key = some 3 → key = [7] := by
  obtain ⟨kc', f, hinv, _, hread, _⟩ := offsetOf_after_commit exStore exTxn "id" kCol rfl (by decide) exStore_find_id rfl
    kCol_wf (ex_hcomp exTxn "id") kCol_inv ex_wfKey
  obtain ⟨kc2, f2, r2⟩ := commit_read_key_last_put exStore exTxn "id" kCol (by decide) exStore_find_id rfl kCol_wf
    (by decide) (ex_hcomp exTxn "id") (fun v hv _ => exTxn_chunkOK v hv) 3
    [⟨opInsert, 3, .fixed 0 []⟩] ⟨opPut, 3, .str [7]⟩ rfl (by decide)
  rw [f] at f2
  have e : kc2 = kc' := (Option.some.inj f2).symm
  subst e
  refine ⟨kc2, f, hinv, (hread [7] 3).2 r2, ?_⟩
  intro key hk
  have := (hread key 3).1 hk
  rw [r2] at this
  exact (Option.some.inj this).symm

example : (exStore.commit exTxn).offsetOf [7] = some 3 :=
  commit_key_put_resolves exStore exTxn "id" kCol rfl (by decide) exStore_find_id rfl kCol_wf (by decide)
    (ex_hcomp exTxn "id") kCol_inv ex_wfKey (fun v hv _ => exTxn_chunkOK v hv) 3
    [⟨opInsert, 3, .fixed 0 []⟩] ⟨opPut, 3, .str [7]⟩ rfl (by decide)

/-- a second transaction, on the committed store: delete row 3 through its marker (what `DeleteKey [7]` buffers) -/
def dTxn : Txn := ({} : Txn).putOp rowColumn ⟨opDelete, 3, .fixed 0 []⟩

/-- everything the second commit needs to know about the store the first one leaves -/
theorem ex_after :
    ∃ kc1, (exStore.commit exTxn).findCol "id" = some kc1 ∧ kc1.kind = .key ∧ ColWF kc1 ∧ KeyInv kc1 ∧
      (exStore.commit exTxn).commits.size ≤ kc1.nchunks ∧ 1 ≤ (exStore.commit exTxn).commits.size ∧
      (exStore.commit exTxn).offsetOf [7] = some 3 ∧ Bits.get kc1.bits 3 = true ∧ 3 < kc1.data.size := by
  obtain ⟨kc1, f1, k1, w1, n1, i1, e1⟩ := commit_key_inv exStore exTxn "id" kCol (by decide) exStore_find_id rfl kCol_wf
    (ex_hcomp exTxn "id") kCol_inv ex_wfKey
  obtain ⟨kc2, f2, _, hraw, _, _⟩ := offsetOf_after_commit exStore exTxn "id" kCol rfl (by decide) exStore_find_id rfl
    kCol_wf (ex_hcomp exTxn "id") kCol_inv ex_wfKey
  rw [f1] at f2
  have e : kc2 = kc1 := (Option.some.inj f2).symm
  subst e
  obtain ⟨_, _, _, h7, _⟩ := ex_key
  have hb := (hraw [7] 3).1 h7
  have hcover : ∀ c ∈ exTxn.dirtyChunks, c < kc2.nchunks := by
    rw [e1]
    exact (commit_col_keeps exStore exTxn "id" kCol rfl).2.2.2.2.2.2 (by decide)
  refine ⟨kc2, f1, k1, w1, i1, commit_cov exStore exTxn kCol kc2 (by decide) n1 hcover, ?_, h7, hb.1, hb.2.2.2⟩
  rcases commit_commits_size exStore exTxn with h | ⟨last, _, h1, h⟩
  · rw [h]; decide
  · rw [h]; omega

/-- **chained over two commits**: after the second commit the key `[7]` no longer resolves (`commit_key_delete_releases`) -/
theorem ex_delete_releases : ((exStore.commit exTxn).commit dTxn).offsetOf [7] = none := by
  obtain ⟨kc1, f1, k1, w1, i1, hcov1, hsz, h7, hbit, hdat⟩ := ex_after
  have hpk1 : (exStore.commit exTxn).pk = some "id" := (commit_pk exStore exTxn).trans rfl
  have hcomp1 : ∀ v ∈ dTxn.updates, ∀ c, (exStore.commit exTxn).findCol v.column = some c → "id" ∉ c.computed := by
    intro v _ c hc
    obtain ⟨c0, hc0, e, _⟩ := commit_back exStore exTxn v.column c hc
    rw [e, exStore_computed _ c0 hc0]; simp
  have hdirty : dTxn.dirtyChunks = [0] := by decide
  have hcap : capCol (exStore.commit exTxn) dTxn kc1 = kc1 := by
    unfold capCol
    rw [hdirty]
    simp only [List.getLast?_singleton]
    rw [if_pos (by omega)]
  have hops : chunkOps dTxn.updates "id" 0 = [⟨opDelete, 3, .fixed 0 []⟩] := by decide
  have hwf1 : C12store.WFKeyChunks (exStore.commit exTxn).hash dTxn.updates "id" dTxn.dirtyChunks
      (capCol (exStore.commit exTxn) dTxn kc1) := by
    rw [hcap, hdirty]
    unfold C12store.WFKeyChunks C12store.WFKeyChunks
    rw [hops]
    refine ⟨?_, trivial⟩
    show WFKeyOps ((kc1, [], []) : ApplyAcc).1 _
    rw [WFKeyOps_cons]
    refine ⟨?_, trivial⟩
    unfold WFKeyOp
    rw [if_neg (by decide), if_pos rfl]
    exact ⟨hbit, hdat⟩
  have hok1 : ∀ v ∈ dTxn.updates, (v.column = "id" ∨ isMarkerBuf v = true) → ChunkOK v := by decide
  exact (commit_key_delete_releases (exStore.commit exTxn) dTxn "id" kc1 hpk1 (by decide) f1 k1 w1 hcov1 hcomp1 i1 hwf1
    hok1 [7] 3 h7 [] ⟨opDelete, 3, .fixed 0 []⟩ rfl (by decide) (by decide)).1

/-- the guard of `commits_key_inv` (`WFKeyTxns`) is satisfiable -/
example : ∃ kc', ([exTxn].foldl Store.commit exStore).findCol "id" = some kc' ∧ kc'.kind = .key ∧ ColWF kc' ∧
    kCol.nchunks ≤ kc'.nchunks ∧ KeyInv kc' :=
  commits_key_inv "id" (by decide) [exTxn] exStore kCol exStore_find_id rfl kCol_wf kCol_inv
    (fun t ht => by simp only [List.mem_singleton] at ht; subst ht; exact ex_hcomp exTxn "id")
    ⟨fun kc hkc => by rw [exStore_find_id] at hkc; cases hkc; exact ex_wfKey, trivial⟩

example : ([exTxn, mTxn].foldl Store.commit exStore).findCol "id" = some (colTxns "id" [exTxn, mTxn] exStore kCol) :=
  commits_col "id" (by decide) [exTxn, mTxn] exStore kCol exStore_find_id rfl
    (fun t _ => exStore_computed.notComputed "id" t.updates)
    (chunksOKTxns_of_kind "id" _ exStore kCol rfl ⟨fun h => (by cases h), fun h => (by cases h)⟩)

theorem exStore_covered : CoveredAll exStore := by
  intro chunk hlt c hc
  simp only [exStore, List.mem_toArray, List.mem_cons, List.not_mem_nil, or_false] at hc
  have hch : chunk = 0 := by
    have : exStore.commits.size = 1 := rfl
    omega
  subst hch
  rcases hc with rfl | rfl
  · exact ⟨fun _ => by decide, fun h => by cases h⟩
  · exact ⟨fun _ => by decide, fun h => by cases h⟩

theorem exStore_computedKinds : ComputedKinds exStore := computedKinds_of_noComputed _ exStore_computed

example : (exStore.commit exTxn).panicked = false :=
  C01store.commit_no_panic exStore exTxn exStore_covered exStore_computedKinds exTxn_chunkOK

example : ∀ v ∈ exTxn.updates, ∀ c, exStore.findCol v.column = some c → "s" ∉ c.computed :=
  notComputed exStore exStore_computedKinds "s" sCol exStore_find_s rfl exTxn.updates

/-- `NoAppend` is decidable (small columns make it checkable by evaluation); a resizing merge violates it -/
def tinyCol : Col :=
  { name := "s", kind := .str, nchunks := 1, bits := #[false, false, false, false], data := #[[], [], [], []],
    merge := fun a d => a ++ d }

example : ¬ NoAppend (fun _ => 0) mTxn.updates "s" [0] tinyCol := by decide +kernel
example : NoAppend (fun _ => 0) exTxn.updates "s" [0] tinyCol := by decide +kernel

/-! ### why a guard is needed: finding D12 on the primary itself

A buffer that is "in" chunk 0 (`cur = some 0`) and holds two sections of chunk 0: `merge "c" @0` (first section), then an op
of chunk 1, then `put "Z" @0` (last section). The merge resizes ("ab" ++ "c" has another length than "c"), so `Put "abc" @0`
is appended through the parent buffer — into the last section, which `mainPass` has not reached yet. When the loop gets
there it applies `put "Z"` and then the appended `put "abc"`: the primary ends with "abc" although the last op the
transaction issued for the row is `Put "Z"`. `applyData` over the ops issued for the chunk gives "Z". The buffer is
well-formed (`BufOK`); what fails is `OneSec` for chunk 0 (and `NoAppend`). -/

def d12Col : Col :=
  { name := "s", kind := .str, nchunks := 1, bits := #[true, false, false, false], data := #[[97, 98], [], [], []],
    merge := fun a d => a ++ d }

def d12Buf : Buf :=
  (((Buf.empty "s").put ⟨opMerge, 0, .str [99]⟩).put ⟨opPut, 20000, .str [1]⟩).put ⟨opPut, 0, .str [90]⟩

theorem d12_on_primary :
    d12Buf.rangeOps 0 = [⟨opMerge, 0, .str [99]⟩, ⟨opPut, 0, .str [90]⟩] ∧
    (applyData (fun _ => 0) d12Col 0 (d12Buf.rangeOps 0)).col.read 0 = some [90] ∧
    (mainPass (fun _ => 0) d12Col 0 d12Buf).1.read 0 = some [97, 98, 99] ∧
    (applyData (fun _ => 0) d12Col 0 (d12Buf.rangeOps 0)).appended = [⟨opPut, 0, .str [97, 98, 99]⟩] ∧
    bufOKb d12Buf = true ∧ d12Buf.chunks = [0, 1, 0] := by
  decide

#print axioms commitChunk_col
#print axioms commit_col
#print axioms commits_col
#print axioms commit_slot
#print axioms commit_read_str_last_put
#print axioms commit_read_str_last_delete
#print axioms commit_read_str_untouched
#print axioms commit_key_inv
#print axioms commits_key_inv
#print axioms offsetOf_after_commit
#print axioms commit_read_key_last_put
#print axioms commit_key_put_resolves
#print axioms commit_key_delete_releases
#print axioms ex_key
#print axioms ex_delete_releases
#print axioms ex_merge
#print axioms d12_on_primary

end ColumnVerif.Props.C01storeAny
