import ColumnVerif.Lemmas.Chain
/-!
# C04 — filters, iteration and aggregates follow set semantics over live rows

`sel t i` is membership of offset `i` in the transaction's selection; `bitOf s n i` is membership of
`i` in the index / presence bitmap of the column named `n` (`false` when there is no such column).
All statements are for every store, every selection length, every number of chunks of the column
(missing chunks select nothing), every offset.
-/
namespace ColumnVerif.Props.C04
open ColumnVerif.Bits ColumnVerif.Store

def sel (t : Txn) (i : Nat) : Bool := Bits.get t.sel i

def bitOf (s : Store) (n : String) (i : Nat) : Bool :=
  match s.findCol n with
  | some c => c.indexBit i
  | none => false

/-- the first filter call starts from the live rows (the fill list) -/
theorem initialize_sem (s : Store) (t : Txn) (h : t.setup = false) (i : Nat) :
    sel (t.initialize s) i = Bits.get s.fill i := by
  unfold sel Txn.initialize; simp [h, get_growTo]

theorem initialize_size (s : Store) (t : Txn) (h : t.setup = false) :
    (t.initialize s).sel.size = max s.fill.size (64 * max (s.cap / 64 + 1) (Bits.words s.fill)) := by
  unfold Txn.initialize; simp [h, size_growTo]

theorem foldl_sel_and (g : Txn → String → Txn) (p : String → Nat → Bool) (i : Nat)
    (hg : ∀ t n, sel (g t n) i = (sel t i && p n i)) (t0 : Txn) (names : List String) :
    sel (names.foldl g t0) i = (sel t0 i && names.all (p · i)) := by
  induction names generalizing t0 with
  | nil => simp
  | cons n rest ih => rw [List.foldl_cons, ih, hg, List.all_cons, Bool.and_assoc]

/-- `With(names…)` = intersection with every named bitmap; a missing name selects nothing -/
theorem with_sem (s : Store) (t : Txn) (names : List String) (i : Nat) :
    sel (t.with_ s names) i = (sel (t.initialize s) i && names.all (fun n => bitOf s n i)) := by
  refine foldl_sel_and _ (bitOf s) i (fun t0 n => ?_) _ names
  cases hc : s.findCol n with
  | none => simp [sel, bitOf, hc, Bits.get]
  | some c => simp only [sel, bitOf, hc]; exact get_mapChunks_of_false _ _ (fun _ => rfl) i

/-- `Without(names…)` = difference; a missing name changes nothing -/
theorem without_sem (s : Store) (t : Txn) (names : List String) (i : Nat) :
    sel (t.without s names) i = (sel (t.initialize s) i && names.all (fun n => !bitOf s n i)) := by
  refine foldl_sel_and _ (fun n i => !bitOf s n i) i (fun t0 n => ?_) _ names
  cases hc : s.findCol n with
  | none => simp [bitOf, hc]
  | some c => simp only [sel, bitOf, hc]; exact get_mapChunks_of_false _ _ (fun _ => rfl) i

/-- the union loop once the "first call intersects" flag is off -/
theorem union_loop_sem (s : Store) (t0 : Txn) (names : List String) (i : Nat) :
    sel (names.foldl (unionStep s) (t0, false)).1 i
    = (decide (i < t0.sel.size) && (sel t0 i || names.any (fun n => bitOf s n i))) := by
  induction names generalizing t0 with
  | nil =>
    simp only [List.foldl_nil, List.any_nil, Bool.or_false]
    by_cases hi : i < t0.sel.size
    · simp [hi]
    · simp [hi, sel, get_of_ge t0.sel i (by omega)]
  | cons n rest ih =>
    rw [List.foldl_cons, List.any_cons]
    cases hc : s.findCol n <;> simp only [unionStep, hc, Bool.false_eq_true, if_false] <;> rw [ih]
    · simp [bitOf, hc]
    · simp only [sel, bitOf, hc, get_mapChunks, size_mapChunks]
      by_cases hi : i < t0.sel.size <;> simp [hi, Bool.or_assoc]

/-- `Union(names…)` on a transaction that was already filtered: union with every named bitmap
    (restricted to the selection's length); missing names contribute nothing -/
theorem union_sem (s : Store) (t : Txn) (h : t.setup = true) (names : List String) (i : Nat) :
    sel (t.union s names) i = (decide (i < t.sel.size) && (sel t i || names.any (fun n => bitOf s n i))) := by
  unfold Txn.union
  rw [initialize_of_setup s t h]
  simp only [h, Bool.not_true]
  exact union_loop_sem s t names i

/-- D22(a): with a missing first name the first-call union is *not* the union of the named
    bitmaps — every live row stays selected -/
theorem union_missing_first_counterexample :
    let s : Store := { fill := (Array.replicate 64 false).setIfInBounds 3 true, cap := 64 }
    sel (({} : Txn).union s ["missing"]) 3 = true ∧ bitOf s "missing" 3 = false := by
  intro s
  refine ⟨?_, by decide +kernel⟩
  -- the missing name only switches the "first" flag off: the selection is the initialized one
  show sel (({} : Txn).initialize s) 3 = true
  rw [initialize_sem s {} rfl]; decide +kernel

theorem any_filterMap_findCol (s : Store) (names : List String) (i : Nat) :
    (names.filterMap s.findCol).any (fun c => c.indexBit i) = names.any (fun n => bitOf s n i) := by
  rw [List.any_filterMap]
  congr 1; funext n; unfold bitOf; cases s.findCol n <;> rfl

/-- `WithUnion(names…)` on a filtered transaction, two or more names (or none): intersection with
    the union of the named bitmaps -/
theorem withUnion_sem (s : Store) (t : Txn) (h : t.setup = true) (names : List String)
    (hn : names.length ≠ 1) (i : Nat) :
    sel (t.withUnion s names) i = (sel t i && names.any (fun n => bitOf s n i)) := by
  unfold Txn.withUnion
  simp only [h, Bool.not_true, Bool.false_eq_true, if_false, hn, sel]
  rw [get_mapChunks_of_false _ _ (fun _ => rfl), any_filterMap_findCol]

/-- `WithUnion(n)` with a single name on a filtered transaction: intersection (after the repair) -/
theorem withUnion_single_sem (s : Store) (t : Txn) (h : t.setup = true) (n : String) (i : Nat) :
    sel (t.withUnion s [n]) i = (sel t i && bitOf s n i) := by
  unfold Txn.withUnion
  simp only [h, Bool.not_true, Bool.false_eq_true, if_false, List.length_singleton, if_true]
  rw [with_sem, initialize_of_setup s t h]; simp

/-- `WithValue`: rows holding a value that satisfies the predicate -/
theorem withValue_sem (s : Store) (t : Txn) (col : String) (pred : Codec.Bytes → Bool)
    (c : Col) (hc : s.findCol col = some c) (i : Nat) :
    sel (t.withValue s col pred) i =
      (sel (t.initialize s) i && (match c.read i with | some v => pred v | none => false)) := by
  unfold Txn.withValue
  simp only [hc, sel]
  rw [get_mapChunks_of_false _ _ (fun _ => rfl)]
  cases c.read i <;> rfl

theorem toList_eq_map_get (b : Bitmap) : b.toList = (List.range b.size).map (fun i => Bits.get b i) := by
  apply List.ext_getElem
  · simp
  · intro i h1 h2
    have hi : i < b.size := by simpa using h1
    simp [get_eq_getElem b i hi]

/-- `Count` = number of selected rows = length of what `Range` visits -/
theorem count_sem (b : Bitmap) : Bits.count b = (Bits.toIdxList b).length := by
  unfold Bits.count Bits.toIdxList
  rw [toList_eq_map_get, List.countP_map, List.countP_eq_length_filter]
  rfl

/-- `Range` visits exactly the selected offsets … -/
theorem range_mem (b : Bitmap) (i : Nat) : i ∈ Bits.toIdxList b ↔ Bits.get b i = true := by
  unfold Bits.toIdxList
  rw [List.mem_filter, List.mem_range, and_iff_right_iff_imp]
  exact fun h => Nat.lt_of_not_le fun hge => by rw [get_of_ge b i hge] at h; cases h

/-- … each once, in ascending order (the cursor takes these values in this order) -/
theorem range_sorted (b : Bitmap) : (Bits.toIdxList b).Pairwise (· < ·) := by
  unfold Bits.toIdxList
  exact List.Pairwise.filter _ List.pairwise_lt_range

/-- … and may be computed over any bound `n` on the bitmap's length -/
theorem toIdxList_eq_filter (b : Bitmap) (n : Nat) (h : b.size ≤ n) :
    Bits.toIdxList b = (List.range n).filter (Bits.get b) := by
  obtain ⟨k, rfl⟩ := Nat.exists_eq_add_of_le h
  have : ((List.range k).map (b.size + ·)).filter (Bits.get b) = [] :=
    List.filter_eq_nil_iff.2 fun x hx => by
      obtain ⟨y, _, rfl⟩ := List.mem_map.1 hx
      simp [get_of_ge b (b.size + y) (by omega)]
  rw [List.range_add, List.filter_append, this, List.append_nil]; rfl

theorem rangeList_sem (s : Store) (t : Txn) (i : Nat) :
    i ∈ (t.rangeList s).2 ↔ sel (t.initialize s) i = true := by
  unfold Txn.rangeList sel; exact range_mem _ i

theorem txn_count_sem (s : Store) (t : Txn) : (t.count s).2 = (t.rangeList s).2.length := by
  unfold Txn.count Txn.rangeList; exact count_sem _

theorem rangeList_eq_filter (s : Store) (t : Txn) (h : t.setup = true) (n : Nat) (hn : t.sel.size ≤ n) :
    (t.rangeList s).2 = (List.range n).filter (sel t) := by
  show Bits.toIdxList (t.initialize s).sel = _
  rw [initialize_of_setup s t h]; exact toIdxList_eq_filter _ n hn

theorem with_rangeList (s : Store) (t : Txn) (names : List String) :
    ((t.with_ s names).rangeList s).2 = (List.range (t.initialize s).sel.size).filter
      (fun i => sel (t.initialize s) i && names.all (fun n => bitOf s n i)) :=
  (rangeList_eq_filter s _ (with_spec s t names).1 _ (by rw [(with_spec s t names).2]; split <;> omega)).trans
    (List.filter_congr fun i _ => with_sem s t names i)

theorem without_rangeList (s : Store) (t : Txn) (names : List String) :
    ((t.without s names).rangeList s).2 = (List.range (t.initialize s).sel.size).filter
      (fun i => sel (t.initialize s) i && names.all (fun n => !bitOf s n i)) :=
  (rangeList_eq_filter s _ (without_spec s t names).1 _ (Nat.le_of_eq (without_spec s t names).2)).trans
    (List.filter_congr fun i _ => without_sem s t names i)

/-- the values folded by `Sum/Avg/Min/Max`: those of the selected rows that hold a value in the
    column (after the repair of D15), in ascending offset order -/
theorem aggValues_sem (s : Store) (t : Txn) (col : String) (c : Col) (hc : s.findCol col = some c) :
    (t.aggValues s col).2 =
      (((t.rangeList s).2.filter (fun i => i / 16384 < c.nchunks ∧ Bits.get c.bits i)).map
        (fun i => (c.read i).getD [])) := by
  unfold Txn.aggValues Txn.rangeList; simp [hc]

/-! non-vacuity -/
def sampleStore : Store :=
  { cap := 64, fill := Bits.set (Bits.set (Bits.growTo #[] 2) 3) 70,
    cols := #[{ name := "x", kind := .num .i16, nchunks := 1, bits := Bits.set #[] 70 }] }

theorem size_set (b : Bitmap) (i : Nat) : (Bits.set b i).size = max b.size (64 * (i / 64 + 1)) := by
  simp [Bits.set, Bits.grow, size_growTo]

theorem sample_sel_size : (({} : Txn).initialize sampleStore).sel.size = 128 := by
  have : sampleStore.fill.size = 128 := by simp only [sampleStore, size_set, size_growTo]; decide
  rw [initialize_size _ {} rfl, Bits.words, this]; rfl

/- Run by the kernel, the filters are quadratic in the 128 slots of the selection (every `Bits.get` walks the
   array, `mapChunks` rebuilds it push by push): the bits are read through `with_sem` / `get_set`, and only the
   predicate is evaluated. -/
theorem sample_fill (i : Nat) : Bits.get sampleStore.fill i = (decide (i = 70) || decide (i = 3)) := by
  simp [sampleStore, get_set, get_growTo, get_of_ge]

theorem sample_bitOf (i : Nat) : bitOf sampleStore "x" i = (decide (i < 16384) && decide (i = 70)) := by
  simp [sampleStore, get_set, bitOf, Store.findCol, Col.indexBit, get_of_ge]

example : (({} : Txn).with_ sampleStore ["x"] |>.rangeList sampleStore).2 = [70] := by
  rw [with_rangeList, sample_sel_size]
  simp only [initialize_sem _ {} rfl, sample_fill, sample_bitOf, List.all_cons, List.all_nil]
  decide +kernel
example : (({} : Txn).without sampleStore ["x"] |>.rangeList sampleStore).2 = [3] := by
  rw [without_rangeList, sample_sel_size]
  simp only [initialize_sem _ {} rfl, sample_fill, sample_bitOf, List.all_cons, List.all_nil]
  decide +kernel

end ColumnVerif.Props.C04
