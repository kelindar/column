import ColumnVerif.Model.Buffer
import ColumnVerif.Lemmas.Codec
/-! Helper lemmas for `Buf`: what `put` does to the op list, the derived bytes and the sections. -/
namespace ColumnVerif.Codec
structure Buf.Inv (b : Buf) : Prop where
  chunk_ok : ∀ s ∈ b.rsecs, ∀ o ∈ s.rops, chunkOf o.idx = s.chunk
  cur_ok : ∀ s rest, b.rsecs = s :: rest → ∀ c, b.cur = some c → s.chunk = c
  nil_ok : b.rsecs = [] → b.cur = none
  last_ok : ∀ s rest, b.rsecs = s :: rest → lastIdx s.value s.ops = b.last
  lt_ok : b.last < M32 ∧ ∀ s ∈ b.rsecs, s.value < M32 ∧ ∀ o ∈ s.rops, o.WF

theorem Buf.empty_inv (c : String) : (Buf.empty c).Inv :=
  ⟨nofun, nofun, fun _ => rfl, nofun, (by decide : 0 < M32), nofun⟩

theorem Buf.put_eq_same (b : Buf) (o : Op) (s : Sec) (rest : List Sec)
    (hr : b.rsecs = s :: rest) (hc : b.cur = some (chunkOf o.idx)) :
    b.put o = { b with last := o.idx, rsecs := { s with rops := o :: s.rops } :: rest } := by
  unfold Buf.put; simp only [hc, if_true, hr]

theorem Buf.put_eq_new (b : Buf) (o : Op) (hc : b.cur ≠ some (chunkOf o.idx)) :
    b.put o = { b with last := o.idx, cur := some (chunkOf o.idx),
                       rsecs := ⟨chunkOf o.idx, b.last, [o]⟩ :: b.rsecs } := by
  unfold Buf.put; simp only [hc, if_false]

theorem Buf.put_cases (b : Buf) (o : Op) (h : b.Inv) :
    (∃ s rest, b.rsecs = s :: rest ∧ b.cur = some (chunkOf o.idx) ∧ s.chunk = chunkOf o.idx ∧
      b.put o = { b with last := o.idx, rsecs := { s with rops := o :: s.rops } :: rest }) ∨
    (b.cur ≠ some (chunkOf o.idx) ∧
      b.put o = { b with last := o.idx, cur := some (chunkOf o.idx),
                         rsecs := ⟨chunkOf o.idx, b.last, [o]⟩ :: b.rsecs }) := by
  by_cases hc : b.cur = some (chunkOf o.idx)
  · left
    cases hr : b.rsecs with
    | nil => have := h.nil_ok hr; rw [this] at hc; simp at hc
    | cons s rest => exact ⟨s, rest, rfl, hc, h.cur_ok s rest hr _ hc, Buf.put_eq_same b o s rest hr hc⟩
  · right; exact ⟨hc, Buf.put_eq_new b o hc⟩

theorem Buf.put_inv (b : Buf) (o : Op) (h : b.Inv) (ho : o.WF) : (b.put o).Inv := by
  rcases Buf.put_cases b o h with ⟨s, rest, hr, hc, hsc, he⟩ | ⟨hc, he⟩ <;> rw [he] <;>
    obtain ⟨h1, h2, h3, h4, h5, h6⟩ := h
  · -- the op joins the last section `s`
    rw [hr, List.forall_mem_cons] at h1 h6
    refine ⟨List.forall_mem_cons.2 ⟨List.forall_mem_cons.2 ⟨hsc.symm, h1.1⟩, h1.2⟩, ?_, nofun, ?_,
      ho.2.1, List.forall_mem_cons.2 ⟨⟨h6.1.1, List.forall_mem_cons.2 ⟨ho, h6.1.2⟩⟩, h6.2⟩⟩
    · rintro _ _ ⟨rfl, rfl⟩ c hcc
      exact h2 s rest hr c hcc
    · rintro _ _ ⟨rfl, rfl⟩
      simp only [Sec.ops, List.reverse_cons, lastIdx_append, lastIdx]
  · -- the op opens a section of its own, whose `Value` is `b.last`
    refine ⟨List.forall_mem_cons.2 ⟨List.forall_mem_cons.2 ⟨rfl, nofun⟩, h1⟩, ?_, nofun, ?_,
      ho.2.1, List.forall_mem_cons.2 ⟨⟨h5, List.forall_mem_cons.2 ⟨ho, nofun⟩⟩, h6⟩⟩
    · rintro _ _ ⟨rfl, rfl⟩ c hcc
      exact Option.some.inj hcc
    · rintro _ _ ⟨rfl, rfl⟩
      rfl

theorem Buf.putAll_inv (b : Buf) (ops : List Op) (h : b.Inv) (ho : ∀ o ∈ ops, o.WF) :
    (b.putAll ops).Inv := by
  induction ops generalizing b with
  | nil => simpa [Buf.putAll]
  | cons o os ih =>
    simp only [Buf.putAll, List.foldl_cons]
    exact ih _ (Buf.put_inv b o h (ho o List.mem_cons_self)) (fun x hx => ho x (List.mem_cons_of_mem _ hx))

theorem Buf.allOps_put (b : Buf) (o : Op) : (b.put o).allOps = b.allOps ++ [o] := by
  unfold Buf.put Buf.allOps Buf.secs
  by_cases hc : b.cur = some (chunkOf o.idx)
  · rw [if_pos hc]; cases b.rsecs <;> simp [Sec.ops]
  · rw [if_neg hc]; simp [Sec.ops]

theorem Buf.putAll_cons (b : Buf) (o : Op) (os : List Op) :
    b.putAll (o :: os) = (b.put o).putAll os := by simp [Buf.putAll]

theorem Buf.allOps_putAll (b : Buf) (ops : List Op) : (b.putAll ops).allOps = b.allOps ++ ops := by
  induction ops generalizing b with
  | nil => simp [Buf.putAll]
  | cons o os ih => rw [Buf.putAll_cons, ih, Buf.allOps_put]; simp

theorem Buf.put_fields (b : Buf) (o : Op) :
    (b.put o).last = o.idx ∧ (b.put o).cur = some (chunkOf o.idx) ∧ (b.put o).column = b.column := by
  unfold Buf.put
  by_cases hc : b.cur = some (chunkOf o.idx)
  · rw [if_pos hc]; split <;> exact ⟨rfl, hc, rfl⟩
  · rw [if_neg hc]; exact ⟨rfl, rfl, rfl⟩

theorem Buf.last_put (b : Buf) (o : Op) : (b.put o).last = o.idx := (Buf.put_fields b o).1

theorem Buf.cur_put (b : Buf) (o : Op) : (b.put o).cur = some (chunkOf o.idx) := (Buf.put_fields b o).2.1

theorem Buf.column_put (b : Buf) (o : Op) : (b.put o).column = b.column := (Buf.put_fields b o).2.2

theorem Buf.bytes_put (b : Buf) (o : Op) (h : b.Inv) :
    (b.put o).bytes = b.bytes ++ encodeOp b.last o := by
  rcases Buf.put_cases b o h with ⟨s, rest, hr, hc, hsc, he⟩ | ⟨hc, he⟩
  · rw [he]
    have hl := h.last_ok s rest hr
    simp only [Buf.bytes, Buf.secs, hr, List.reverse_cons, List.map_append, List.map_cons,
      List.map_nil, List.flatten_append, List.flatten_cons, List.flatten_nil, List.append_nil,
      List.append_assoc]
    congr 1
    simp only [Sec.bytes, Sec.ops, List.reverse_cons, encodeAll_append, encodeAll, List.append_nil]
    simp only [Sec.ops] at hl
    rw [hl]
  · rw [he]
    simp [Buf.bytes, Buf.secs, Sec.bytes, Sec.ops, encodeAll]

theorem Buf.bytes_putAll (b : Buf) (ops : List Op) (h : b.Inv) (ho : ∀ o ∈ ops, o.WF) :
    (b.putAll ops).bytes = b.bytes ++ encodeAll b.last ops := by
  induction ops generalizing b with
  | nil => simp [Buf.putAll, encodeAll]
  | cons o os ih =>
    have hi := Buf.put_inv b o h (ho o List.mem_cons_self)
    rw [Buf.putAll_cons, ih (b.put o) hi (fun x hx => ho x (List.mem_cons_of_mem _ hx)), Buf.bytes_put b o h,
      Buf.last_put]
    simp [encodeAll]

/-- reading one chunk = filtering the op list by chunk (write order kept): within a section the
    filter keeps all ops or none -/
theorem Buf.rangeOps_eq_filter (b : Buf) (c : Nat) (h : b.Inv) :
    b.rangeOps c = b.allOps.filter (fun o => chunkOf o.idx = c) := by
  have hc : ∀ s ∈ b.secs, s.ops.filter (fun o => chunkOf o.idx = c) = if s.chunk = c then s.ops else [] := by
    intro s hs
    have hs' : ∀ o ∈ s.ops, chunkOf o.idx = s.chunk := fun o ho =>
      h.chunk_ok s (List.mem_reverse.1 hs) o (List.mem_reverse.1 ho)
    split
    · exact List.filter_eq_self.2 fun o ho => decide_eq_true ((hs' o ho).trans ‹_›)
    · exact List.filter_eq_nil_iff.2 fun o ho hd => ‹¬ _› ((hs' o ho).symm.trans (of_decide_eq_true hd))
  unfold Buf.rangeOps Buf.range Buf.allOps
  rw [List.filter_flatten, List.map_map]
  generalize b.secs = secs at hc
  induction secs with
  | nil => rfl
  | cons s rest ih =>
    rw [List.map_cons, List.flatten_cons, Function.comp, hc s List.mem_cons_self,
      ← ih fun s' hs' => hc s' (List.mem_cons_of_mem _ hs'), List.filter_cons]
    by_cases hsc : s.chunk = c <;> simp [hsc]

/-! ### big-endian bytes -/

theorem natToBE_length (n v : Nat) : (natToBE n v).length = n := by
  induction n with
  | zero => rfl
  | succ n ih => rw [natToBE, List.length_cons, ih]

theorem beNat_natToBE (n v : Nat) : beNat (natToBE n v) = v % 256 ^ n := by
  induction n with
  | zero => exact (Nat.mod_one v).symm
  | succ n ih =>
    rw [natToBE, beNat, natToBE_length, ih, UInt8.toNat_ofNat', Nat.mod_pow_succ (b := 256)]
    show v / 256 ^ n % 256 % 256 * 256 ^ n + v % 256 ^ n = v % 256 ^ n + 256 ^ n * (v / 256 ^ n % 256)
    rw [Nat.mod_mod, Nat.mul_comm, Nat.add_comm]

end ColumnVerif.Codec
