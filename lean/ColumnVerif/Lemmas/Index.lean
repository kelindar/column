import ColumnVerif.Lemmas.Step
import ColumnVerif.Model.Txn
/-!
What the computed pass (`applyOther`) does to a bitmap index and to a trigger; how the numeric main pass rewrites the
ops that the computed pass then sees (`stepCol`, `outOp`, `rwList`: the numeric case of `colOf`, `opOf`, `rwOps`); the loop
of `mainPass` over the sections of a buffer when the pass appends nothing (`mpLoop`, `mainPassG`).
-/
namespace ColumnVerif.Store
open ColumnVerif.Codec ColumnVerif.Bits

/-! ## I1 — bitmap index: one op, then the fold -/

/-- `columnIndex.Apply`, one op (the body of the fold in `applyOther`) -/
def idxStep (rule : RuleFn) (c : Col) (o : Op) : Col :=
  if o.typ = opPut then
    if rule o then { c with bits := Bits.set c.bits o.idx } else { c with bits := Bits.remove c.bits o.idx }
  else if o.typ = opDelete then { c with bits := Bits.remove c.bits o.idx }
  else c

/-- effect of one op on the index bit of its own offset -/
def bitEffect (rule : RuleFn) (b : Bool) (op : Op) : Bool :=
  if op.typ = opPut then rule op else if op.typ = opDelete then false else b

theorem applyOther_index (c : Col) (target : String) (rule : RuleFn) (hk : c.kind = .index target rule)
    (ops : List Op) : applyOther c ops = (ops.foldl (idxStep rule) c, false) := by
  unfold applyOther
  rw [hk]
  rfl

theorem idxStep_get (rule : RuleFn) (c : Col) (o : Op) (j : Nat) :
    Bits.get (idxStep rule c o).bits j =
      if j = o.idx then bitEffect rule (Bits.get c.bits j) o else Bits.get c.bits j := by
  unfold idxStep bitEffect
  by_cases h1 : o.typ = opPut
  · rw [if_pos h1, if_pos h1]
    by_cases hr : rule o = true
    · rw [if_pos hr]
      simp only [get_set]
      by_cases e : j = o.idx <;> simp [e, hr]
    · rw [if_neg hr]
      simp only [get_remove]
      by_cases e : j = o.idx <;> simp [e, hr]
  · rw [if_neg h1, if_neg h1]
    by_cases h3 : o.typ = opDelete
    · rw [if_pos h3, if_pos h3]
      simp only [get_remove]
      by_cases e : j = o.idx <;> simp [e]
    · rw [if_neg h3, if_neg h3]
      split <;> rfl

structure SameButBits (c c' : Col) : Prop where
  kind : c'.kind = c.kind
  name : c'.name = c.name
  merge : c'.merge = c.merge
  computed : c'.computed = c.computed
  nchunks : c'.nchunks = c.nchunks
  data : c'.data = c.data
  trig : c'.trig = c.trig
  entries : c'.entries = c.entries

theorem SameButBits.refl (c : Col) : SameButBits c c := ⟨rfl, rfl, rfl, rfl, rfl, rfl, rfl, rfl⟩

theorem SameButBits.trans {a b c : Col} (h1 : SameButBits a b) (h2 : SameButBits b c) : SameButBits a c :=
  ⟨h2.kind.trans h1.kind, h2.name.trans h1.name, h2.merge.trans h1.merge, h2.computed.trans h1.computed,
   h2.nchunks.trans h1.nchunks, h2.data.trans h1.data, h2.trig.trans h1.trig, h2.entries.trans h1.entries⟩

theorem idxStep_eq (rule : RuleFn) (c : Col) (o : Op) : idxStep rule c o = { c with bits := (idxStep rule c o).bits } := by
  unfold idxStep
  by_cases h1 : o.typ = opPut
  · by_cases hr : rule o = true
    · simp only [if_pos h1, if_pos hr]
    · simp only [if_pos h1, if_neg hr]
  · by_cases h3 : o.typ = opDelete
    · simp only [if_neg h1, if_pos h3]
    · simp only [if_neg h1, if_neg h3]

theorem foldIdx_eq (rule : RuleFn) (ops : List Op) (c : Col) :
    ops.foldl (idxStep rule) c = { c with bits := (ops.foldl (idxStep rule) c).bits } := by
  induction ops generalizing c with
  | nil => rfl
  | cons o os ih => rw [List.foldl_cons, ih, idxStep_eq]

theorem foldIdx_same (rule : RuleFn) (ops : List Op) (c : Col) : SameButBits c (ops.foldl (idxStep rule) c) := by
  rw [foldIdx_eq]; exact ⟨rfl, rfl, rfl, rfl, rfl, rfl, rfl, rfl⟩

theorem foldIdx_get (rule : RuleFn) (ops : List Op) (c : Col) (j : Nat) :
    Bits.get (ops.foldl (idxStep rule) c).bits j =
      (ops.filter (fun o => o.idx = j)).foldl (bitEffect rule) (Bits.get c.bits j) :=
  foldl_pointwise (idxStep rule) (fun a j => Bits.get a.bits j) (bitEffect rule) (fun _ _ => True)
    (fun _ _ _ _ _ => trivial) (fun a o j _ => idxStep_get rule a o j) ops c j (fun _ _ => trivial)

theorem foldIdx_get_frame (rule : RuleFn) (ops : List Op) (c : Col) (j : Nat) (h : ∀ o ∈ ops, o.idx ≠ j) :
    Bits.get (ops.foldl (idxStep rule) c).bits j = Bits.get c.bits j := by
  rw [foldIdx_get]
  have : ops.filter (fun o => o.idx = j) = [] := by
    rw [List.filter_eq_nil_iff]
    intro o ho
    simpa using h o ho
  rw [this]; rfl

/-! ## I2 — trigger -/

def isStoreOrDelete (o : Op) : Bool := decide (o.typ = opPut ∨ o.typ = opDelete)

def trigEvent (o : Op) : TrigEvent := ⟨o.idx, o.typ, valRaw o.val⟩

def trigStep (c : Col) (o : Op) : Col :=
  if o.typ = opPut ∨ o.typ = opDelete then { c with trig := ⟨o.idx, o.typ, valRaw o.val⟩ :: c.trig } else c

theorem applyOther_trigger (c : Col) (target : String) (hk : c.kind = .trigger target) (ops : List Op) :
    applyOther c ops = (ops.foldl trigStep c, false) := by
  unfold applyOther
  rw [hk]
  rfl

theorem foldTrig_eq (ops : List Op) (c : Col) :
    ops.foldl trigStep c = { c with trig := ((ops.filter isStoreOrDelete).map trigEvent).reverse ++ c.trig } := by
  induction ops generalizing c with
  | nil => rfl
  | cons o os ih =>
    rw [List.foldl_cons, ih, List.filter_cons]
    unfold trigStep isStoreOrDelete
    by_cases h : o.typ = opPut ∨ o.typ = opDelete
    · rw [if_pos h, if_pos (decide_eq_true h)]
      simp [trigEvent]
    · rw [if_neg h, if_neg (by simpa using h)]

/-- the log in call order -/
theorem foldTrig_log (ops : List Op) (c : Col) :
    (ops.foldl trigStep c).trig.reverse = c.trig.reverse ++ (ops.filter isStoreOrDelete).map trigEvent := by
  rw [foldTrig_eq]
  exact (List.reverse_append).trans (by rw [List.reverse_reverse])

/-! ## I3 — the numeric main pass as a column step plus an op rewriting -/

/-- the column part of `stepNum` -/
def stepCol (k : NumKind) (c : Col) (o : Op) : Col :=
  if o.typ = opPut then
    { c with bits := c.bits.setIfInBounds o.idx true, data := c.data.setIfInBounds o.idx (valRaw o.val) }
  else if o.typ = opMerge then
    { c with bits := c.bits.setIfInBounds o.idx true,
             data := c.data.setIfInBounds o.idx (c.merge (padTo k.width (c.data.getD o.idx [])) (valRaw o.val)) }
  else if o.typ = opDelete then { c with bits := c.bits.setIfInBounds o.idx false }
  else c

/-- the op `stepNum` leaves in the buffer for `o`, given the column *before* the op -/
def outOp (k : NumKind) (c : Col) (o : Op) : Op :=
  if o.typ = opMerge then
    swapInPlace o (.fixed k.code (c.merge (padTo k.width (c.data.getD o.idx [])) (valRaw o.val)))
  else o

/-- the rewritten section, in op order -/
def rwList (k : NumKind) : Col → List Op → List Op
  | _, [] => []
  | c, o :: os => outOp k c o :: rwList k (stepCol k c o) os

theorem rwList_eq_rwOps (hash : Bytes → Nat) (k : NumKind) (ops : List Op) (c : Col) :
    rwList k c ops = rwOps hash (.num k) c ops := by
  induction ops generalizing c with
  | nil => rfl
  | cons o os ih => rw [rwList, rwOps, ih]; rfl

theorem appOps_num (hash : Bytes → Nat) (k : NumKind) (ops : List Op) (c : Col) : appOps hash (.num k) c ops = [] :=
  appOps_eq_nil hash _ ops c (fun _ _ _ => rfl)

theorem foldNum_eq (k : NumKind) (ops : List Op) (acc : ApplyAcc) :
    ops.foldl (stepNum k) acc =
      (ops.foldl (stepCol k) acc.1, (rwList k acc.1 ops).reverse ++ acc.2.1, acc.2.2) := by
  have := foldl_stepOf (fun _ => 0) (.num k) ops acc
  rw [appOps_num, List.append_nil, ← rwList_eq_rwOps] at this
  exact this

theorem stepCol_shape (k : NumKind) (c : Col) (o : Op) : SameShape c (stepCol k c o) :=
  colOf_shape (fun _ => 0) (.num k) c o

theorem foldCol_shape (k : NumKind) (ops : List Op) (c : Col) : SameShape c (ops.foldl (stepCol k) c) :=
  foldl_colOf_shape (fun _ => 0) (.num k) ops c

theorem stepCol_slot (k : NumKind) (c : Col) (o : Op) (i : Nat) (hb : o.idx < c.bits.size) (hd : o.idx < c.data.size) :
    slot (stepCol k c o) i = if i = o.idx then slotEffect c.merge k.width (slot c i) o else slot c i :=
  colOf_slot (fun _ => 0) (.num k) c o i hb hd

theorem InBounds.tailK {c : Col} {o : Op} {os : List Op} (k : NumKind) (h : InBounds c (o :: os)) :
    InBounds (stepCol k c o) os := by
  intro x hx
  have hs := stepCol_shape k c o
  rw [hs.bsize, hs.dsize]
  exact h x (by simp [hx])

/-- the column right after op `j` of the section has been processed (the prefix state) -/
def colAfter (k : NumKind) (c : Col) (ops : List Op) (j : Nat) : Col :=
  ((ops.take (j + 1)).foldl (stepNum k) (c, [], [])).1

/-- what the buffer holds in place of `o` after the pass, given the column `c'` right after `o` was processed -/
def finalOp (k : NumKind) (c' : Col) (o : Op) : Op :=
  if o.typ = opMerge then ⟨opPut, o.idx, .fixed k.code ((c'.data[o.idx]?).getD [])⟩ else o

theorem colAfter_eq (k : NumKind) (c : Col) (ops : List Op) (j : Nat) :
    colAfter k c ops j = (ops.take (j + 1)).foldl (stepCol k) c := by
  unfold colAfter; rw [foldNum_eq]

theorem colAfter_zero (k : NumKind) (c : Col) (o : Op) (os : List Op) : colAfter k c (o :: os) 0 = stepCol k c o := by
  rw [colAfter_eq]; rfl

theorem colAfter_succ (k : NumKind) (c : Col) (o : Op) (os : List Op) (j : Nat) :
    colAfter k c (o :: os) (j + 1) = colAfter k (stepCol k c o) os j := by
  rw [colAfter_eq, colAfter_eq]; rfl

theorem stepCol_data_self (k : NumKind) (c : Col) (o : Op) (hb : o.idx < c.bits.size) (hd : o.idx < c.data.size) :
    ((stepCol k c o).data[o.idx]?).getD [] = (slotEffect c.merge k.width (slot c o.idx) o).2 := by
  have := stepCol_slot k c o o.idx hb hd
  rw [if_pos rfl] at this
  rw [← this]; rfl

theorem stepCol_data_put (k : NumKind) (c : Col) (o : Op) (hb : o.idx < c.bits.size) (hd : o.idx < c.data.size)
    (h : o.typ = opPut) : ((stepCol k c o).data[o.idx]?).getD [] = valRaw o.val := by
  rw [stepCol_data_self k c o hb hd]; unfold slotEffect; rw [if_pos h]

theorem stepCol_data_merge (k : NumKind) (c : Col) (o : Op) (hb : o.idx < c.bits.size) (hd : o.idx < c.data.size)
    (h : o.typ = opMerge) :
    ((stepCol k c o).data[o.idx]?).getD [] = c.merge (padTo k.width (c.data.getD o.idx [])) (valRaw o.val) := by
  rw [stepCol_data_self k c o hb hd]; unfold slotEffect slot
  have h1 : ¬ o.typ = opPut := by rw [h]; decide
  rw [if_neg h1, if_pos h, getD_eq]

theorem outOp_eq_finalOp (k : NumKind) (c : Col) (o : Op) (hb : o.idx < c.bits.size) (hd : o.idx < c.data.size) :
    outOp k c o = finalOp k (stepCol k c o) o := by
  unfold outOp finalOp
  by_cases h : o.typ = opMerge
  · rw [if_pos h, if_pos h, stepCol_data_merge k c o hb hd h]; rfl
  · rw [if_neg h, if_neg h]

/-- I3: the rewritten section is the original one with every `Merge` replaced, in place, by a `Put` of the
    value the column holds at that offset right after that op -/
theorem rwList_eq_mapIdx (k : NumKind) (ops : List Op) (c : Col) (hin : InBounds c ops) :
    rwList k c ops = ops.mapIdx (fun j o => finalOp k (colAfter k c ops j) o) := by
  induction ops generalizing c with
  | nil => simp [rwList]
  | cons o os ih =>
    have ho := hin o (by simp)
    rw [rwList, List.mapIdx_cons, colAfter_zero, outOp_eq_finalOp k c o ho.1 ho.2, ih _ (hin.tailK k)]
    simp only [colAfter_succ]

theorem outOp_idx (k : NumKind) (c : Col) (o : Op) : (outOp k c o).idx = o.idx := opOf_idx (.num k) c o

theorem outOp_typ_ne_merge (k : NumKind) (c : Col) (o : Op) : (outOp k c o).typ ≠ opMerge := by
  unfold outOp
  split
  · simp only [swapInPlace]; decide
  · assumption

theorem outOp_of_ne_merge (k : NumKind) (c : Col) (o : Op) (h : o.typ ≠ opMerge) : outOp k c o = o := if_neg h

theorem length_rwList (k : NumKind) (ops : List Op) (c : Col) : (rwList k c ops).length = ops.length := by
  rw [rwList_eq_rwOps (fun _ => 0), rwOps_length]

theorem map_idx_rwList (k : NumKind) (ops : List Op) (c : Col) :
    (rwList k c ops).map (·.idx) = ops.map (·.idx) := by
  induction ops generalizing c with
  | nil => rfl
  | cons o os ih => simp [rwList, ih, outOp_idx]

theorem rwList_no_merge (k : NumKind) (ops : List Op) (c : Col) : ∀ o ∈ rwList k c ops, o.typ ≠ opMerge := by
  rw [rwList_eq_rwOps (fun _ => 0)]
  exact rwOps_forall _ _ (fun o => o.typ ≠ opMerge) ops c (fun c o _ => outOp_typ_ne_merge k c o)

/-! ## what a trigger sees of a rewritten numeric section -/

/-- the call a trigger receives for op `o`, given the column `c'` right after `o` was processed -/
def eventAfter (c' : Col) (o : Op) : Option TrigEvent :=
  if o.typ = opPut ∨ o.typ = opMerge then some ⟨o.idx, opPut, (c'.data[o.idx]?).getD []⟩
  else if o.typ = opDelete then some ⟨o.idx, opDelete, valRaw o.val⟩
  else none

/-- the op the numeric main pass leaves for `o`, from the slot of `o.idx` before the op -/
def outOpS (merge : Bytes → Bytes → Bytes) (k : NumKind) (st : Bool × Bytes) (o : Op) : Op :=
  if o.typ = opMerge then swapInPlace o (.fixed k.code (merge (padTo k.width st.2) (valRaw o.val))) else o

theorem outOp_eq_outOpS (k : NumKind) (c : Col) (o : Op) : outOp k c o = outOpS c.merge k (slot c o.idx) o := by
  unfold outOp outOpS slot
  rw [getD_eq]

theorem trig_of_outOpS (merge : Bytes → Bytes → Bytes) (k : NumKind) (st : Bool × Bytes) (o : Op) :
    (if isStoreOrDelete (outOpS merge k st o) = true then some (trigEvent (outOpS merge k st o)) else none) =
      if o.typ = opPut ∨ o.typ = opMerge then some ⟨o.idx, opPut, (slotEffect merge k.width st o).2⟩
      else if o.typ = opDelete then some ⟨o.idx, opDelete, valRaw o.val⟩
      else none := by
  unfold outOpS slotEffect
  by_cases h1 : o.typ = opPut
  · rw [if_neg (put_ne_merge h1), if_pos (Or.inl h1), if_pos h1]
    simp [isStoreOrDelete, trigEvent, h1]
  · by_cases h2 : o.typ = opMerge
    · rw [if_pos h2, if_pos (Or.inr h2), if_neg h1, if_pos h2]
      simp [isStoreOrDelete, trigEvent, swapInPlace, valRaw]
    · rw [if_neg h2, if_neg (show ¬ (o.typ = opPut ∨ o.typ = opMerge) from fun h => h.elim h1 h2)]
      by_cases h3 : o.typ = opDelete
      · rw [if_pos h3]
        simp [isStoreOrDelete, trigEvent, h3]
      · rw [if_neg h3]
        simp [isStoreOrDelete, h1, h3]

theorem trig_of_outOp (k : NumKind) (c : Col) (o : Op) (hb : o.idx < c.bits.size) (hd : o.idx < c.data.size) :
    (if isStoreOrDelete (outOp k c o) = true then some (trigEvent (outOp k c o)) else none) =
      eventAfter (stepCol k c o) o := by
  rw [outOp_eq_outOpS, trig_of_outOpS]
  unfold eventAfter
  rw [stepCol_data_self k c o hb hd]

theorem trig_rwList (k : NumKind) (ops : List Op) (c : Col) (hin : InBounds c ops) :
    ((rwList k c ops).filter isStoreOrDelete).map trigEvent =
      (ops.mapIdx (fun j o => eventAfter (colAfter k c ops j) o)).filterMap id := by
  induction ops generalizing c with
  | nil => simp [rwList]
  | cons o os ih =>
    have ho := hin o (by simp)
    have h := trig_of_outOp k c o ho.1 ho.2
    rw [rwList, List.mapIdx_cons, colAfter_zero, List.filterMap_cons, ← h]
    simp only [colAfter_succ]
    rw [← ih _ (hin.tailK k), List.filter_cons]
    by_cases hs : isStoreOrDelete (outOp k c o) = true
    · rw [if_pos hs, if_pos hs]; simp
    · rw [if_neg hs, if_neg hs]; simp

/-! ## I4 — the index invariant is kept by main pass + computed pass -/

/-- "the index holds exactly the present rows whose current value satisfies the rule" — the value is shown to the
    rule the way a snapshot / a `Put` shows it (`Put` op, fixed-size value of the column's width) -/
def IndexInv (col idx : Col) (k : NumKind) (rule : RuleFn) : Prop :=
  ∀ o, Bits.get idx.bits o =
    (Bits.get col.bits o && rule ⟨opPut, o, .fixed k.code (padTo k.width ((col.data[o]?).getD []))⟩)

/-- every `Put` of the section carries a value of the column's size code and width -/
def CanonPuts (k : NumKind) (ops : List Op) : Prop :=
  ∀ o ∈ ops, o.typ = opPut → ∃ bs, o.val = .fixed k.code bs ∧ bs.length = k.width

theorem NumKind.width_pos (k : NumKind) : 0 < k.width := by cases k <;> decide

theorem padTo_of_ne_nil (w : Nat) (bs : Bytes) (h : bs ≠ []) : padTo w bs = bs := by
  unfold padTo
  have : ¬ bs.length = 0 := by
    intro h0; exact h (List.eq_nil_of_length_eq_zero h0)
  rw [if_neg this]

theorem indexInv_step (k : NumKind) (rule : RuleFn) (col idx : Col) (o : Op)
    (hb : o.idx < col.bits.size) (hd : o.idx < col.data.size)
    (hcan : o.typ = opPut → ∃ bs, o.val = .fixed k.code bs ∧ bs.length = k.width)
    (hm : o.typ = opMerge → ∀ a d, col.merge a d ≠ [])
    (hinv : IndexInv col idx k rule) :
    IndexInv (stepCol k col o) (idxStep rule idx (outOp k col o)) k rule := by
  intro j
  rw [idxStep_get, outOp_idx]
  have hs := stepCol_slot k col o j hb hd
  have hbit : Bits.get (stepCol k col o).bits j = (slot (stepCol k col o) j).1 := rfl
  have hdat : ((stepCol k col o).data[j]?).getD [] = (slot (stepCol k col o) j).2 := rfl
  rw [hbit, hdat, hs]
  by_cases e : j = o.idx
  · subst e
    rw [if_pos rfl, if_pos rfl]
    unfold slotEffect bitEffect
    by_cases h1 : o.typ = opPut
    · have h2 : o.typ ≠ opMerge := by rw [h1]; decide
      obtain ⟨bs, hv, hl⟩ := hcan h1
      rw [outOp_of_ne_merge k col o h2, if_pos h1, if_pos h1]
      have hne : bs ≠ [] := by
        intro h0; rw [h0] at hl; have := k.width_pos; simp at hl; omega
      simp only [hv, valRaw, padTo_of_ne_nil _ _ hne, Bool.true_and]
      rw [← hv, ← h1]
    · rw [if_neg h1]
      by_cases h2 : o.typ = opMerge
      · rw [if_pos h2]
        have hout : outOp k col o = ⟨opPut, o.idx,
            .fixed k.code (col.merge (padTo k.width (col.data.getD o.idx [])) (valRaw o.val))⟩ := by
          unfold outOp; rw [if_pos h2]; rfl
        rw [hout]
        simp only [if_pos, slot, getD_eq, padTo_of_ne_nil _ _ (hm h2 _ _), Bool.true_and]
      · rw [if_neg h2, outOp_of_ne_merge k col o h2, if_neg h1]
        by_cases h3 : o.typ = opDelete
        · rw [if_pos h3, if_pos h3]; simp
        · rw [if_neg h3, if_neg h3]
          exact hinv o.idx
  · rw [if_neg e, if_neg e]
    exact hinv j

theorem indexInv_fold (k : NumKind) (rule : RuleFn) (ops : List Op) (col idx : Col)
    (hin : InBounds col ops) (hcan : CanonPuts k ops)
    (hm : ∀ o ∈ ops, o.typ = opMerge → ∀ a d, col.merge a d ≠ [])
    (hinv : IndexInv col idx k rule) :
    IndexInv (ops.foldl (stepCol k) col) ((rwList k col ops).foldl (idxStep rule) idx) k rule := by
  induction ops generalizing col idx with
  | nil => exact hinv
  | cons o os ih =>
    have ho := hin o (by simp)
    simp only [List.foldl_cons, rwList]
    apply ih
    · exact hin.tailK k
    · intro x hx; exact hcan x (by simp [hx])
    · rw [(stepCol_shape k col o).merge]; intro x hx; exact hm x (by simp [hx])
    · exact indexInv_step k rule col idx o ho.1 ho.2 (hcan o (by simp)) (hm o (by simp)) hinv

/-! ## the passes as `applyData` / `Col.applyAny` perform them -/

theorem applyData_num (hash : Bytes → Nat) (c : Col) (k : NumKind) (hk : c.kind = .num k) (chunk : Nat)
    (hch : chunk < c.nchunks) (ops : List Op) :
    applyData hash c chunk ops =
      { col := ops.foldl (stepCol k) c, ops := rwList k c ops, appended := [], panic := false } := by
  rw [applyData_eq hash c chunk ops hch, hk, appOps_num, ← rwList_eq_rwOps]
  rfl

theorem applyAny_index (hash : Bytes → Nat) (c : Col) (target : String) (rule : RuleFn)
    (hk : c.kind = .index target rule) (chunk : Nat) (ops : List Op) :
    c.applyAny hash chunk ops = (ops.foldl (idxStep rule) c, false) := by
  have hd : c.kind.isData = false := by rw [hk]; rfl
  unfold Col.applyAny
  rw [if_neg (by rw [hd]; decide)]
  exact applyOther_index c target rule hk ops

theorem applyAny_trigger (hash : Bytes → Nat) (c : Col) (target : String)
    (hk : c.kind = .trigger target) (chunk : Nat) (ops : List Op) :
    c.applyAny hash chunk ops = (ops.foldl trigStep c, false) := by
  have hd : c.kind.isData = false := by rw [hk]; rfl
  unfold Col.applyAny
  rw [if_neg (by rw [hd]; decide)]
  exact applyOther_trigger c target hk ops

theorem numeric_take_succ (k : NumKind) (c : Col) (ops : List Op) (j : Nat) (hj : j < ops.length) :
    ((ops.take (j + 1)).foldl (stepNum k) (c, [], [])).1 = stepCol k ((ops.take j).foldl (stepCol k) c) ops[j] := by
  rw [foldNum_eq, List.take_succ_eq_append_getElem hj, List.foldl_append]
  rfl

theorem isStoreOrDelete_outOpS (merge : Bytes → Bytes → Bytes) (k : NumKind) (st : Bool × Bytes) (o : Op) :
    isStoreOrDelete (outOpS merge k st o) = decide (o.typ = opPut ∨ o.typ = opMerge ∨ o.typ = opDelete) := by
  unfold outOpS
  by_cases h2 : o.typ = opMerge
  · rw [if_pos h2]
    simp [isStoreOrDelete, swapInPlace, h2]
  · rw [if_neg h2]
    simp [isStoreOrDelete, h2]

theorem isStoreOrDelete_outOp (k : NumKind) (c : Col) (o : Op) :
    isStoreOrDelete (outOp k c o) = decide (o.typ = opPut ∨ o.typ = opMerge ∨ o.typ = opDelete) := by
  rw [outOp_eq_outOpS]; exact isStoreOrDelete_outOpS _ _ _ _

theorem count_rwList (k : NumKind) (ops : List Op) (c : Col) :
    ((rwList k c ops).filter isStoreOrDelete).length =
      (ops.filter (fun o => o.typ = opPut ∨ o.typ = opMerge ∨ o.typ = opDelete)).length := by
  induction ops generalizing c with
  | nil => rfl
  | cons o os ih =>
    rw [rwList, List.filter_cons, List.filter_cons, isStoreOrDelete_outOp]
    split <;> simp [ih]

/-! ## several sections: all main passes first, then all computed passes (the order `commitUpdates` uses) -/

theorem rwList_append (k : NumKind) (a b : List Op) (c : Col) :
    rwList k c (a ++ b) = rwList k c a ++ rwList k (a.foldl (stepCol k) c) b := by
  rw [rwList_eq_rwOps (fun _ => 0), rwOps_append, ← rwList_eq_rwOps, ← rwList_eq_rwOps]; rfl

theorem rwList_of_no_merge (k : NumKind) (ops : List Op) (c : Col) (h : ∀ o ∈ ops, o.typ ≠ opMerge) :
    rwList k c ops = ops := by
  rw [rwList_eq_rwOps (fun _ => 0)]
  exact rwOps_eq_self _ _ ops c (fun c o ho => opOf_of_ne_merge _ c o (h o ho))

/-- the rewritten sections, threading the column through -/
def rwSecs (k : NumKind) : Col → List (List Op) → List (List Op)
  | _, [] => []
  | c, ops :: rest => rwList k c ops :: rwSecs k (ops.foldl (stepCol k) c) rest

theorem rwSecs_flatten (k : NumKind) (secs : List (List Op)) (c : Col) :
    (rwSecs k c secs).flatten = rwList k c secs.flatten := by
  induction secs generalizing c with
  | nil => rfl
  | cons ops rest ih => simp [rwSecs, rwList_append, ih]

theorem length_rwSecs (k : NumKind) (secs : List (List Op)) (c : Col) : (rwSecs k c secs).length = secs.length := by
  induction secs generalizing c with
  | nil => rfl
  | cons ops rest ih => simp [rwSecs, ih]

/-- the main pass over the sections of a buffer, one `applyData` per section: column, rewritten sections, panic
    (for numeric columns `appended` is always empty, `applyData_num`, so the section list does not change) -/
def mainSecs (hash : Bytes → Nat) (chunk : Nat) (col : Col) (secs : List (List Op)) : Col × List (List Op) × Bool :=
  secs.foldl (fun (acc : Col × List (List Op) × Bool) ops =>
    let r := applyData hash acc.1 chunk ops
    (r.col, acc.2.1 ++ [r.ops], acc.2.2 || r.panic)) (col, [], false)

theorem mainSecs_num_aux (hash : Bytes → Nat) (chunk : Nat) (k : NumKind) (secs : List (List Op)) (c : Col)
    (hk : c.kind = .num k) (hch : chunk < c.nchunks) (acc : List (List Op)) :
    secs.foldl (fun (acc : Col × List (List Op) × Bool) ops =>
      ((applyData hash acc.1 chunk ops).col,
       acc.2.1 ++ [(applyData hash acc.1 chunk ops).ops],
       acc.2.2 || (applyData hash acc.1 chunk ops).panic)) (c, acc, false) =
      (secs.flatten.foldl (stepCol k) c, acc ++ rwSecs k c secs, false) := by
  induction secs generalizing c acc with
  | nil => simp [rwSecs]
  | cons ops rest ih =>
    simp only [List.foldl_cons]
    rw [applyData_num hash c k hk chunk hch]
    simp only [Bool.or_false]
    have hs := foldCol_shape k ops c
    rw [ih _ (by rw [hs.kind]; exact hk) (by rw [hs.nchunks]; exact hch)]
    simp [rwSecs]

theorem mainSecs_num (hash : Bytes → Nat) (chunk : Nat) (k : NumKind) (secs : List (List Op)) (c : Col)
    (hk : c.kind = .num k) (hch : chunk < c.nchunks) :
    mainSecs hash chunk c secs = (secs.flatten.foldl (stepCol k) c, rwSecs k c secs, false) := by
  unfold mainSecs
  have := mainSecs_num_aux hash chunk k secs c hk hch []
  simpa using this

/-- the computed pass over sections, one `applyOther` per section -/
def otherSecs (c : Col) (secs : List (List Op)) : Col × Bool :=
  secs.foldl (fun (acc : Col × Bool) ops => ((applyOther acc.1 ops).1, acc.2 || (applyOther acc.1 ops).2)) (c, false)

theorem otherSecs_index (c : Col) (target : String) (rule : RuleFn) (hk : c.kind = .index target rule)
    (secs : List (List Op)) : otherSecs c secs = (secs.flatten.foldl (idxStep rule) c, false) := by
  unfold otherSecs
  induction secs generalizing c with
  | nil => rfl
  | cons ops rest ih =>
    simp only [List.foldl_cons, List.flatten_cons, List.foldl_append]
    rw [applyOther_index c target rule hk]
    simp only [Bool.or_false]
    exact ih _ (by rw [(foldIdx_same rule ops c).kind]; exact hk)

theorem otherSecs_trigger (c : Col) (target : String) (hk : c.kind = .trigger target)
    (secs : List (List Op)) : otherSecs c secs = (secs.flatten.foldl trigStep c, false) := by
  unfold otherSecs
  induction secs generalizing c with
  | nil => rfl
  | cons ops rest ih =>
    simp only [List.foldl_cons, List.flatten_cons, List.foldl_append]
    rw [applyOther_trigger c target hk]
    simp only [Bool.or_false]
    exact ih _ (by rw [foldTrig_eq]; exact hk)

/-! ## `mainPass` on a numeric column, section list level -/

theorem mapIdx_eq_self {α : Type} (l : List α) (f : Nat → α → α) (h : ∀ j a, j < l.length → f j a = a) :
    l.mapIdx f = l := by
  induction l generalizing f with
  | nil => rfl
  | cons x xs ih =>
    rw [List.mapIdx_cons, h 0 x (by simp), ih]
    intro j a hj
    exact h (j + 1) a (by simp; omega)

theorem replaceSec_append (P : List Sec) (x : Sec) (T : List Sec) (ops : List Op) :
    replaceSec (P ++ x :: T) P.length ops = P ++ { x with rops := ops.reverse } :: T := by
  unfold replaceSec
  rw [List.mapIdx_append, List.mapIdx_cons]
  congr 1
  · apply mapIdx_eq_self
    intro j a hj
    rw [if_neg (by omega)]
  · congr 1
    · simp
    · apply mapIdx_eq_self
      intro j a _
      rw [if_neg (by omega)]

/-- one round of the loop of `mainPass` -/
def mpStep (hash : Bytes → Nat) (chunk : Nat) (acc : Col × Buf × Bool) (i : Nat) : Col × Buf × Bool :=
  match acc.2.1.secs[i]? with
  | none => acc
  | some sec =>
    if sec.chunk ≠ chunk then acc
    else
      ((applyData hash acc.1 chunk sec.ops).col,
       ({ acc.2.1 with rsecs := (replaceSec acc.2.1.secs i (applyData hash acc.1 chunk sec.ops).ops).reverse } : Buf).putAll
          (applyData hash acc.1 chunk sec.ops).appended,
       acc.2.2 || (applyData hash acc.1 chunk sec.ops).panic)

theorem mainPass_eq (hash : Bytes → Nat) (col : Col) (chunk : Nat) (u : Buf) :
    mainPass hash col chunk u = (List.range u.rsecs.length).foldl (mpStep hash chunk) (col, u, false) := by
  unfold mainPass
  rfl

theorem secs_set (u : Buf) (X : List Sec) : ({ u with rsecs := X.reverse } : Buf).secs = X := by
  simp [Buf.secs]

/-! ## `mainPass` of any data column over a buffer, when the pass appends nothing -/

/-- what the main pass makes of a list of sections when nothing is appended: the sections of `chunk` are rewritten in
    turn (the column threaded through `applyData`), the others are skipped. `G`: for a data column of any kind -/
def mpSpecG (hash : Bytes → Nat) (chunk : Nat) : Col → List Sec → Col × List Sec
  | c, [] => (c, [])
  | c, sec :: rest =>
    if sec.chunk = chunk then
      ((mpSpecG hash chunk (applyData hash c chunk sec.ops).col rest).1,
       { sec with rops := (applyData hash c chunk sec.ops).ops.reverse } ::
         (mpSpecG hash chunk (applyData hash c chunk sec.ops).col rest).2)
    else ((mpSpecG hash chunk c rest).1, sec :: (mpSpecG hash chunk c rest).2)

/-- no section of `chunk` appends a put, each in the state in which it is applied -/
def mpNoApp (hash : Bytes → Nat) (chunk : Nat) : Col → List Sec → Prop
  | _, [] => True
  | c, sec :: rest =>
    if sec.chunk = chunk then
      (applyData hash c chunk sec.ops).appended = [] ∧ mpNoApp hash chunk (applyData hash c chunk sec.ops).col rest
    else mpNoApp hash chunk c rest

theorem filter_chunk_cons (x : Sec) (xs : List Sec) (chunk : Nat) :
    (x :: xs).filter (fun s => s.chunk = chunk) =
      if x.chunk = chunk then x :: xs.filter (fun s => s.chunk = chunk) else xs.filter (fun s => s.chunk = chunk) := by
  rw [List.filter_cons]
  simp only [decide_eq_true_eq]

theorem mpSpecG_shape (hash : Bytes → Nat) (chunk : Nat) (S : List Sec) (c : Col) :
    SameShape c (mpSpecG hash chunk c S).1 := by
  induction S generalizing c with
  | nil => exact SameShape.refl c
  | cons x xs ih =>
    simp only [mpSpecG]
    split
    · exact SameShape.trans (applyData_sameShape hash c chunk x.ops) (ih _)
    · exact ih _

theorem mpSpecG_flat (hash : Bytes → Nat) (chunk : Nat) (S : List Sec) (c : Col) :
    (mpSpecG hash chunk c S).1 =
      (applyData hash c chunk ((S.filter (fun s => s.chunk = chunk)).map Sec.ops).flatten).col ∧
    (((mpSpecG hash chunk c S).2.filter (fun s => s.chunk = chunk)).map Sec.ops).flatten =
      (applyData hash c chunk ((S.filter (fun s => s.chunk = chunk)).map Sec.ops).flatten).ops ∧
    ((applyData hash c chunk ((S.filter (fun s => s.chunk = chunk)).map Sec.ops).flatten).appended = [] →
      mpNoApp hash chunk c S) := by
  induction S generalizing c with
  | nil => exact ⟨(applyData_col_nil hash c chunk).symm, (applyData_ops_nil hash c chunk).symm, fun _ => trivial⟩
  | cons x xs ih =>
    simp only [mpSpecG, mpNoApp]
    by_cases h : x.chunk = chunk
    · obtain ⟨i1, i2, i3⟩ := ih (applyData hash c chunk x.ops).col
      obtain ⟨a1, a2, a3⟩ := applyData_append hash c chunk x.ops ((xs.filter (fun s => s.chunk = chunk)).map Sec.ops).flatten
      rw [if_pos h, if_pos h, filter_chunk_cons, filter_chunk_cons]
      dsimp only
      rw [if_pos h, if_pos h, List.map_cons, List.flatten_cons, List.map_cons, List.flatten_cons, a1, a2, a3, ← i1, ← i2]
      refine ⟨rfl, ?_, fun e => ⟨(List.append_eq_nil_iff.1 e).1, i3 (List.append_eq_nil_iff.1 e).2⟩⟩
      simp [Sec.ops]
    · rw [if_neg h, if_neg h, filter_chunk_cons, filter_chunk_cons]
      dsimp only
      rw [if_neg h, if_neg h]
      exact ih c

theorem mpSpecG_other (hash : Bytes → Nat) (chunk c2 : Nat) (h : c2 ≠ chunk) (S : List Sec) (c : Col) :
    (mpSpecG hash chunk c S).2.filter (fun s => s.chunk = c2) = S.filter (fun s => s.chunk = c2) := by
  induction S generalizing c with
  | nil => rfl
  | cons x xs ih =>
    simp only [mpSpecG]
    by_cases hx : x.chunk = chunk
    · rw [if_pos hx]
      have : ¬ x.chunk = c2 := by rw [hx]; exact fun e => h e.symm
      simp [this, ih]
    · rw [if_neg hx]
      simp [List.filter_cons, ih]

theorem getElem?_append_length {α : Type} (P : List α) (x : α) (T : List α) : (P ++ x :: T)[P.length]? = some x := by
  simp

theorem mpStep_at (hash : Bytes → Nat) (chunk : Nat) (c : Col) (b : Buf) (p : Bool) (P : List Sec) (x : Sec) (T : List Sec)
    (hb : b.secs = P ++ x :: T) :
    mpStep hash chunk (c, b, p) P.length =
      if x.chunk = chunk then
        ((applyData hash c chunk x.ops).col,
         ({ b with rsecs := (P ++ { x with rops := (applyData hash c chunk x.ops).ops.reverse } :: T).reverse } : Buf).putAll
           (applyData hash c chunk x.ops).appended,
         p || (applyData hash c chunk x.ops).panic)
      else (c, b, p) := by
  unfold mpStep
  simp only [hb, getElem?_append_length, replaceSec_append]
  by_cases h : x.chunk = chunk
  · rw [if_neg (fun h' => h' h), if_pos h]
  · rw [if_pos h, if_neg h]

/-- the loop of `mainPass`, as an invariant over the section list `P ++ (T ++ R)` of the buffer: `P` the sections
    visited so far (already as the pass leaves them), `T` those the next `T.length` rounds visit, `R` what lies behind.
    No visited section appends a put (`mpNoApp`), so the buffer keeps its number of sections and the round that
    reaches the head of `T` is round `P.length`. Afterwards `T` is replaced by `mpSpecG … T`; the flag `q` is still `p`
    if the column has the chunk. -/
theorem mpLoop (hash : Bytes → Nat) (chunk : Nat) (T : List Sec) :
    ∀ (P R : List Sec) (b : Buf) (c : Col) (p : Bool), b.secs = P ++ (T ++ R) → mpNoApp hash chunk c T →
      ∃ q, (List.range' P.length T.length).foldl (mpStep hash chunk) (c, b, p) =
          ((mpSpecG hash chunk c T).1, { b with rsecs := (P ++ ((mpSpecG hash chunk c T).2 ++ R)).reverse }, q) ∧
        (chunk < c.nchunks → q = p) := by
  induction T with
  | nil =>
    intro P R b c p hb _
    have : (P ++ ([] ++ R)).reverse = b.rsecs := by rw [← hb]; simp [Buf.secs]
    exact ⟨p, by rw [mpSpecG, this]; rfl, fun _ => rfl⟩
  | cons x T ih =>
    intro P R b c p hb hna
    rw [List.length_cons, List.range'_succ, List.foldl_cons, mpStep_at hash chunk c b p P x (T ++ R) hb, mpSpecG]
    rw [mpNoApp] at hna
    by_cases hx : x.chunk = chunk
    · rw [if_pos hx] at hna ⊢
      rw [if_pos hx, hna.1]
      have hsh := applyData_sameShape hash c chunk x.ops
      obtain ⟨q, e, hq⟩ := ih (P ++ [{ x with rops := (applyData hash c chunk x.ops).ops.reverse }]) R
        ({ b with rsecs := (P ++ { x with rops := (applyData hash c chunk x.ops).ops.reverse } :: (T ++ R)).reverse } : Buf)
        (applyData hash c chunk x.ops).col (p || (applyData hash c chunk x.ops).panic)
        (by rw [secs_set, List.append_assoc]; rfl) hna.2
      rw [List.length_append, List.length_singleton] at e
      refine ⟨q, ?_, fun hch => ?_⟩
      · rw [Buf.putAll, List.foldl_nil, e, List.append_assoc]; rfl
      · rw [hq (by rw [hsh.nchunks]; exact hch), applyData_panic, decide_eq_false (by omega), Bool.or_false]
    · rw [if_neg hx] at hna ⊢
      rw [if_neg hx]
      obtain ⟨q, e, hq⟩ := ih (P ++ [x]) R b c p (by rw [hb, List.append_assoc]; rfl) hna
      rw [List.length_append, List.length_singleton] at e
      exact ⟨q, by rw [e, List.append_assoc]; rfl, hq⟩

/-- **main pass, any kind**: when the chunk's ops append nothing (no resizing string merge; always so for numeric, enum and
    key columns), the column `mainPass` leaves is `applyData` over the chunk's ops in section order, the buffer keeps
    its sections — those of `chunk` rewritten in place, the others untouched —, and an allocated chunk raises no panic -/
theorem mainPassG (hash : Bytes → Nat) (col : Col) (chunk : Nat) (u : Buf)
    (hna : (applyData hash col chunk (u.rangeOps chunk)).appended = []) :
    (mainPass hash col chunk u).1 = (applyData hash col chunk (u.rangeOps chunk)).col ∧
    (mainPass hash col chunk u).2.1 = { u with rsecs := (mpSpecG hash chunk col u.secs).2.reverse } ∧
    (chunk < col.nchunks → (mainPass hash col chunk u).2.2 = false) := by
  have hlen : u.rsecs.length = u.secs.length := by simp [Buf.secs]
  obtain ⟨f1, _, f3⟩ := mpSpecG_flat hash chunk u.secs col
  obtain ⟨q, e, hq⟩ := mpLoop hash chunk u.secs [] [] u col false (by simp) (f3 hna)
  rw [List.length_nil] at e
  rw [mainPass_eq, hlen, List.range_eq_range', e]
  exact ⟨f1, by simp, hq⟩

theorem mainPassG_range_other (hash : Bytes → Nat) (col : Col) (chunk : Nat) (u : Buf)
    (hna : (applyData hash col chunk (u.rangeOps chunk)).appended = []) (c2 : Nat) (h : c2 ≠ chunk) :
    (mainPass hash col chunk u).2.1.range c2 = u.range c2 := by
  rw [(mainPassG hash col chunk u hna).2.1]
  unfold Buf.range
  rw [secs_set, mpSpecG_other hash chunk c2 h]

/-- what the logger is handed -/
theorem mainPassG_rangeOps (hash : Bytes → Nat) (col : Col) (chunk : Nat) (u : Buf)
    (hna : (applyData hash col chunk (u.rangeOps chunk)).appended = []) :
    (mainPass hash col chunk u).2.1.rangeOps chunk = (applyData hash col chunk (u.rangeOps chunk)).ops := by
  rw [(mainPassG hash col chunk u hna).2.1]
  unfold Buf.rangeOps Buf.range
  rw [secs_set]
  exact (mpSpecG_flat hash chunk u.secs col).2.1

/-! ## the numeric case, section by section -/

theorem mpSpecG_num (hash : Bytes → Nat) (k : NumKind) (chunk : Nat) (S : List Sec) (c : Col) (hk : c.kind = .num k)
    (hch : chunk < c.nchunks) :
    ((mpSpecG hash chunk c S).2.filter (fun s => s.chunk = chunk)).map Sec.ops =
      rwSecs k c ((S.filter (fun s => s.chunk = chunk)).map Sec.ops) := by
  induction S generalizing c with
  | nil => rfl
  | cons x xs ih =>
    simp only [mpSpecG]
    by_cases h : x.chunk = chunk
    · have hs := foldCol_shape k x.ops c
      rw [if_pos h, filter_chunk_cons, filter_chunk_cons, if_pos h, if_pos h, List.map_cons, List.map_cons, rwSecs, applyData_num hash c k hk chunk hch,
        ih _ (hs.kind.trans hk) (by rw [hs.nchunks]; exact hch)]
      simp [Sec.ops]
    · rw [if_neg h, filter_chunk_cons, filter_chunk_cons, if_neg h, if_neg h]
      exact ih c hk hch

theorem mainPass_num (hash : Bytes → Nat) (col : Col) (k : NumKind) (hk : col.kind = .num k) (chunk : Nat)
    (hch : chunk < col.nchunks) (u : Buf) :
    (mainPass hash col chunk u).1 = (mainSecs hash chunk col (u.range chunk)).1 ∧
    (mainPass hash col chunk u).2.1.range chunk = (mainSecs hash chunk col (u.range chunk)).2.1 ∧
    (mainPass hash col chunk u).2.2 = false := by
  obtain ⟨m1, m2, m3⟩ := mainPassG hash col chunk u
    (applyData_appended_nil_of_kind hash col chunk _ (by rw [hk]; simp))
  rw [mainSecs_num hash chunk k _ col hk hch, m1, m2, applyData_num hash col k hk chunk hch]
  refine ⟨rfl, ?_, m3 hch⟩
  unfold Buf.range
  rw [secs_set]
  exact mpSpecG_num hash k chunk u.secs col hk hch

end ColumnVerif.Store
