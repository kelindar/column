import ColumnVerif.Lemmas.StoreRead
import ColumnVerif.Lemmas.ApplyStr
import ColumnVerif.Conc.Invariants
/-!
Lemmas for C06 (a replica fed the change stream converges).

* Part 1 (sequential core, numeric columns): the section rewritten by the numeric main pass
  (`rwList` = what `stepNum` leaves in the buffer) replayed on *any* other column — other previous
  content, other merge function, even another numeric width — reproduces, offset by offset, the
  slot of the primary. The proof is a lock-step induction over the section: one op on the primary
  (`stepCol k c o`), its rewritten form on the replica (`stepCol k2 c2 (outOp k c o)`).
* Part 2 (schedule part, abstract machine): the value a commit leaves in a chunk (`valueAt`), the
  value a replica holds after replaying a stream of absolute writes (`replayStream`, `replicaAcc`).
-/
namespace ColumnVerif.Store
open ColumnVerif.Codec ColumnVerif.Bits

/-! ## Part 1 — numeric replay, one op -/

/-- a rewritten `Merge` is a `Put` of the merged value (the value the primary stored) -/
theorem outOp_merge (k : NumKind) (c : Col) (o : Op) (h : o.typ = opMerge) :
    outOp k c o = ⟨opPut, o.idx, .fixed k.code (c.merge (padTo k.width (c.data.getD o.idx [])) (valRaw o.val))⟩ := by
  unfold outOp; rw [if_pos h]; rfl

/-- The effect of the REWRITTEN op on a replica slot `t` — under any merge function `m2` and any
    width `w2` — is the effect of the original op on the primary slot, as soon as the op is a
    Put / Merge (absolute write) or the two slots were equal before. -/
theorem slotEffect_outOp (k : NumKind) (c : Col) (m2 : Bytes → Bytes → Bytes) (w2 : Nat) (o : Op)
    (t : Bool × Bytes) (h : (o.typ = opPut ∨ o.typ = opMerge) ∨ t = slot c o.idx) :
    slotEffect m2 w2 t (outOp k c o) = slotEffect c.merge k.width (slot c o.idx) o := by
  by_cases h1 : o.typ = opPut
  · have h2 : o.typ ≠ opMerge := by rw [h1]; decide
    rw [outOp_of_ne_merge k c o h2, slotEffect_put h1, slotEffect_put h1]
  · by_cases h2 : o.typ = opMerge
    · rw [outOp_merge k c o h2, slotEffect_put (o := ⟨opPut, o.idx, _⟩) rfl, slotEffect_merge h2]
      simp only [valRaw, slot, getD_eq]
    · rw [outOp_of_ne_merge k c o h2]
      rcases h with h | h
      · rcases h with h | h
        · exact absurd h h1
        · exact absurd h h2
      · subst h
        exact slotEffect_no_merge m2 c.merge w2 k.width _ o h2

/-- the same, keeping only what a reader can see (presence bit; value when present): a Delete
    also resynchronises -/
theorem slotEffect_outOp_vis (k : NumKind) (c : Col) (m2 : Bytes → Bytes → Bytes) (w2 : Nat) (o : Op)
    (t : Bool × Bytes)
    (h : (o.typ = opPut ∨ o.typ = opMerge ∨ o.typ = opDelete) ∨ VisEq t (slot c o.idx)) :
    VisEq (slotEffect m2 w2 t (outOp k c o)) (slotEffect c.merge k.width (slot c o.idx) o) := by
  by_cases h1 : o.typ = opPut
  · exact VisEq.of_eq (slotEffect_outOp k c m2 w2 o t (Or.inl (Or.inl h1)))
  · by_cases h2 : o.typ = opMerge
    · exact VisEq.of_eq (slotEffect_outOp k c m2 w2 o t (Or.inl (Or.inr h2)))
    · rw [outOp_of_ne_merge k c o h2]
      by_cases h3 : o.typ = opDelete
      · rw [slotEffect_delete h3, slotEffect_delete h3]
        exact ⟨rfl, fun h => by cases h⟩
      · rw [slotEffect_other h1 h2 h3, slotEffect_other h1 h2 h3]
        rcases h with h | h
        · rcases h with h | h | h
          · exact absurd h h1
          · exact absurd h h2
          · exact absurd h h3
        · exact h

/-- a relation `R` between a replica slot and a primary slot that the rewritten op re-establishes whenever the op is of a
    kind `T`, and keeps otherwise: `Eq` with `T` = Put / Merge (`slotEffect_outOp`), `VisEq` with `T` = Put / Merge / Delete
    (`slotEffect_outOp_vis`) -/
def Resyncs (R : Bool × Bytes → Bool × Bytes → Prop) (T : Op → Prop) : Prop :=
  ∀ (k : NumKind) (c : Col) (m2 : Bytes → Bytes → Bytes) (w2 : Nat) (o : Op) (t : Bool × Bytes),
    T o ∨ R t (slot c o.idx) → R (slotEffect m2 w2 t (outOp k c o)) (slotEffect c.merge k.width (slot c o.idx) o)

theorem resyncs_eq : Resyncs Eq (fun o => o.typ = opPut ∨ o.typ = opMerge) := slotEffect_outOp

theorem resyncs_vis : Resyncs VisEq (fun o => o.typ = opPut ∨ o.typ = opMerge ∨ o.typ = opDelete) := slotEffect_outOp_vis

/-- the `hs`-threading step of the lock-step inductions: either a later element re-establishes the relation, or this step
    does, or it held and this step keeps it -/
theorem or_exists_cons {α : Type} {Q : α → Prop} {S S' : Prop} {a : α} {l : List α}
    (hs : (∃ x ∈ a :: l, Q x) ∨ S) (step : Q a ∨ S → S') : (∃ x ∈ l, Q x) ∨ S' := by
  by_cases hh : Q a ∨ S
  · exact Or.inr (step hh)
  · rcases hs with ⟨x, hx, hx'⟩ | hs
    · rcases List.mem_cons.1 hx with rfl | hx
      · exact absurd (Or.inl hx') hh
      · exact Or.inl ⟨x, hx, hx'⟩
    · exact absurd (Or.inr hs) hh

/-- lock-step, one op: the primary applies `o`, the replica applies the rewritten `o`. Offset `i` is related afterwards if
    `o` is a `T`-op on `i`, or if `i` was related before. -/
theorem stepCol_replay_rel {R : Bool × Bytes → Bool × Bytes → Prop} {T : Op → Prop} (hR : Resyncs R T)
    (k k2 : NumKind) (c c2 : Col) (o : Op) (i : Nat)
    (hb : o.idx < c.bits.size) (hd : o.idx < c.data.size)
    (hb2 : o.idx < c2.bits.size) (hd2 : o.idx < c2.data.size)
    (h : (o.idx = i ∧ T o) ∨ R (slot c2 i) (slot c i)) :
    R (slot (stepCol k2 c2 (outOp k c o)) i) (slot (stepCol k c o) i) := by
  have hb2' : (outOp k c o).idx < c2.bits.size := by rw [outOp_idx]; exact hb2
  have hd2' : (outOp k c o).idx < c2.data.size := by rw [outOp_idx]; exact hd2
  rw [stepCol_slot k2 c2 _ i hb2' hd2', stepCol_slot k c o i hb hd, outOp_idx]
  by_cases e : i = o.idx
  · subst e
    rw [if_pos rfl, if_pos rfl]
    exact hR k c c2.merge k2.width o _ (h.imp And.right id)
  · rw [if_neg e, if_neg e]
    exact h.resolve_left (fun h => e h.1.symm)

/-! ## numeric replay, the whole section -/

theorem InBounds.rewritten {c2 : Col} {ops : List Op} (k : NumKind) (c : Col) (h : InBounds c2 ops) :
    InBounds c2 (rwList k c ops) := by
  intro x hx
  have hm : x.idx ∈ (rwList k c ops).map (·.idx) := List.mem_map.2 ⟨x, hx, rfl⟩
  rw [map_idx_rwList] at hm
  obtain ⟨o, ho, e⟩ := List.mem_map.1 hm
  rw [← e]; exact h o ho

theorem foldCol_replay_rel {R : Bool × Bytes → Bool × Bytes → Prop} {T : Op → Prop} (hR : Resyncs R T)
    (k k2 : NumKind) (ops : List Op) (c c2 : Col) (i : Nat)
    (hin : InBounds c ops) (hin2 : InBounds c2 ops)
    (hs : (∃ o ∈ ops, o.idx = i ∧ T o) ∨ R (slot c2 i) (slot c i)) :
    R (slot ((rwList k c ops).foldl (stepCol k2) c2) i) (slot (ops.foldl (stepCol k) c) i) := by
  induction ops generalizing c c2 with
  | nil => exact hs.resolve_left (fun ⟨_, ho, _⟩ => nomatch ho)
  | cons o os ih =>
    have ho := hin o (by simp)
    have ho2 := hin2 o (by simp)
    simp only [rwList, List.foldl_cons]
    exact ih _ _ (hin.tailK k) (InBounds.of_shape (stepCol_shape k2 c2 _) (InBounds.tail hin2))
      (or_exists_cons hs (stepCol_replay_rel hR k k2 c c2 o i ho.1 ho.2 ho2.1 ho2.2))

theorem foldCol_replay (k k2 : NumKind) (ops : List Op) (c c2 : Col) (i : Nat)
    (hin : InBounds c ops) (hin2 : InBounds c2 ops)
    (hs : (∃ o ∈ ops, o.idx = i ∧ (o.typ = opPut ∨ o.typ = opMerge)) ∨ slot c2 i = slot c i) :
    slot ((rwList k c ops).foldl (stepCol k2) c2) i = slot (ops.foldl (stepCol k) c) i :=
  foldCol_replay_rel resyncs_eq k k2 ops c c2 i hin hin2 hs

theorem foldCol_replay_vis (k k2 : NumKind) (ops : List Op) (c c2 : Col) (i : Nat)
    (hin : InBounds c ops) (hin2 : InBounds c2 ops)
    (hs : (∃ o ∈ ops, o.idx = i ∧ (o.typ = opPut ∨ o.typ = opMerge ∨ o.typ = opDelete)) ∨
          VisEq (slot c2 i) (slot c i)) :
    VisEq (slot ((rwList k c ops).foldl (stepCol k2) c2) i) (slot (ops.foldl (stepCol k) c) i) :=
  foldCol_replay_rel resyncs_vis k k2 ops c c2 i hin hin2 hs

theorem foldCol_frame (k : NumKind) (ops : List Op) (c : Col) (i : Nat) (hin : InBounds c ops)
    (hno : ∀ o ∈ ops, o.idx ≠ i) : slot (ops.foldl (stepCol k) c) i = slot c i := by
  have h := foldNum_slot k ops (c, [], []) i hin
  rw [foldNum_eq] at h
  rw [h]
  have : ops.filter (fun o => o.idx = i) = [] := by
    rw [List.filter_eq_nil_iff]
    intro o ho
    simpa using hno o ho
  rw [this]; rfl

theorem rwList_frame (k k2 : NumKind) (ops : List Op) (c c2 : Col) (i : Nat) (hin2 : InBounds c2 ops)
    (hno : ∀ o ∈ ops, o.idx ≠ i) : slot ((rwList k c ops).foldl (stepCol k2) c2) i = slot c2 i := by
  apply foldCol_frame k2 _ c2 i (hin2.rewritten k c)
  intro x hx
  have hm : x.idx ∈ (rwList k c ops).map (·.idx) := List.mem_map.2 ⟨x, hx, rfl⟩
  rw [map_idx_rwList] at hm
  obtain ⟨o, ho, e⟩ := List.mem_map.1 hm
  rw [← e]; exact hno o ho

theorem foldl_slotEffect_no_merge (m m' : Bytes → Bytes → Bytes) (w w' : Nat) (l : List Op)
    (st : Bool × Bytes) (h : ∀ o ∈ l, o.typ ≠ opMerge) :
    l.foldl (slotEffect m w) st = l.foldl (slotEffect m' w') st := by
  induction l generalizing st with
  | nil => rfl
  | cons o os ih =>
    simp only [List.foldl_cons]
    rw [slotEffect_no_merge m m' w w' st o (h o (by simp))]
    exact ih _ (fun x hx => h x (by simp [hx]))

theorem foldCol_no_merge_indep (k k' : NumKind) (ops : List Op) (c c' : Col) (i : Nat)
    (hin : InBounds c ops) (hin' : InBounds c' ops) (hnm : ∀ o ∈ ops, o.typ ≠ opMerge)
    (h : slot c' i = slot c i) :
    slot (ops.foldl (stepCol k') c') i = slot (ops.foldl (stepCol k) c) i := by
  have h1 := foldNum_slot k ops (c, [], []) i hin
  have h2 := foldNum_slot k' ops (c', [], []) i hin'
  rw [foldNum_eq] at h1 h2
  rw [h1, h2, h]
  apply foldl_slotEffect_no_merge
  intro o ho
  exact hnm o (List.mem_filter.1 ho).1

/-- what `stepNum` leaves in the buffer, in op order -/
theorem foldNum_rewritten (k : NumKind) (ops : List Op) (c : Col) :
    (ops.foldl (stepNum k) (c, [], [])).2.1.reverse = rwList k c ops := by
  rw [foldNum_eq]; simp

theorem foldNum_col (k : NumKind) (ops : List Op) (c : Col) :
    (ops.foldl (stepNum k) (c, [], [])).1 = ops.foldl (stepCol k) c := by
  rw [foldNum_eq]

/-! ## from equal slots to equal arrays / equal reads -/

/-- a reader of a numeric column sees exactly the `VisEq` part of the slot -/
theorem read_num_of_visEq {c c2 : Col} {k k2 : NumKind} (hk : c.kind = .num k) (hk2 : c2.kind = .num k2)
    (hn : c2.nchunks = c.nchunks) (i : Nat) (h : VisEq (slot c2 i) (slot c i)) : c2.read i = c.read i := by
  rw [read_raw c2 (by rw [hk2]; rfl), read_raw c (by rw [hk]; rfl), hn, h.1]
  by_cases hb : (slot c i).1 = true
  · rw [h.2 (h.1.trans hb)]
  · rw [if_neg (fun e => hb e.2), if_neg (fun e => hb e.2)]

theorem read_num_of_slot_eq {c c2 : Col} {k k2 : NumKind} (hk : c.kind = .num k) (hk2 : c2.kind = .num k2)
    (hn : c2.nchunks = c.nchunks) (i : Nat) (h : slot c2 i = slot c i) : c2.read i = c.read i :=
  read_num_of_visEq hk hk2 hn i (VisEq.of_eq h)

theorem arrays_eq_of_slots {c c2 : Col} (hbs : c2.bits.size = c.bits.size) (hds : c2.data.size = c.data.size)
    (h : ∀ i, slot c2 i = slot c i) : c2.bits = c.bits ∧ c2.data = c.data := by
  constructor
  · apply Array.ext hbs
    intro i h1 h2
    have := congrArg Prod.fst (h i)
    simpa [slot, Bits.get, h1, h2] using this
  · apply Array.ext hds
    intro i h1 h2
    have := congrArg Prod.snd (h i)
    simpa [slot, h1, h2] using this

/-! ## through `applyData`, one commit and a history of commits -/

theorem applyData_num_replay (hash hash2 : Bytes → Nat) (k k2 : NumKind) (c c2 : Col) (chunk : Nat)
    (ops : List Op) (i : Nat) (hk : c.kind = .num k) (hk2 : c2.kind = .num k2)
    (hc : chunk < c.nchunks) (hc2 : chunk < c2.nchunks)
    (hin : InBounds c ops) (hin2 : InBounds c2 ops)
    (hs : (∃ o ∈ ops, o.idx = i ∧ (o.typ = opPut ∨ o.typ = opMerge)) ∨ slot c2 i = slot c i) :
    slot (applyData hash2 c2 chunk
        ((applyData hash c chunk ops).ops ++ (applyData hash c chunk ops).appended)).col i =
      slot (applyData hash c chunk ops).col i := by
  rw [applyData_num hash c k hk chunk hc ops]
  simp only [List.append_nil]
  rw [applyData_num hash2 c2 k2 hk2 chunk hc2]
  simp only
  exact foldCol_replay k k2 ops c c2 i hin hin2 hs

/-- A history of commits on one column. Each commit is one section `(chunk, ops)`. The primary
    applies them in turn; for each it emits what `applyData` leaves in the buffer at that moment:
    the rewritten section followed by the appended puts. Result: final column, emitted commits in
    emission order. -/
def primaryRun (hash : Bytes → Nat) : Col → List (Nat × List Op) → Col × List (Nat × List Op)
  | c, [] => (c, [])
  | c, p :: rest =>
    ((primaryRun hash (applyData hash c p.1 p.2).col rest).1,
     (p.1, (applyData hash c p.1 p.2).ops ++ (applyData hash c p.1 p.2).appended) ::
       (primaryRun hash (applyData hash c p.1 p.2).col rest).2)

/-- the replica applies the emitted commits in emission order with its own `applyData` -/
def replicaRun (hash : Bytes → Nat) (c2 : Col) (emitted : List (Nat × List Op)) : Col :=
  emitted.foldl (fun c p => (applyData hash c p.1 p.2).col) c2

theorem primaryRun_length (hash : Bytes → Nat) (commits : List (Nat × List Op)) (c : Col) :
    (primaryRun hash c commits).2.length = commits.length := by
  induction commits generalizing c with
  | nil => rfl
  | cons p rest ih => simp [primaryRun, ih]

/-- numeric columns, any history: offset `i` of the replica ends with the primary's slot if some
    Put / Merge of some commit addresses `i`, or if `i` was in sync before the history -/
theorem replicaRun_num (hash hash2 : Bytes → Nat) (k k2 : NumKind) (commits : List (Nat × List Op))
    (c c2 : Col) (i : Nat) (hk : c.kind = .num k) (hk2 : c2.kind = .num k2)
    (hok : ∀ p ∈ commits, p.1 < c.nchunks ∧ p.1 < c2.nchunks ∧ InBounds c p.2 ∧ InBounds c2 p.2)
    (hs : (∃ p ∈ commits, ∃ o ∈ p.2, o.idx = i ∧ (o.typ = opPut ∨ o.typ = opMerge)) ∨
          slot c2 i = slot c i) :
    slot (replicaRun hash2 c2 (primaryRun hash c commits).2) i = slot (primaryRun hash c commits).1 i := by
  induction commits generalizing c c2 with
  | nil => exact hs.resolve_left (fun ⟨_, hp, _⟩ => nomatch hp)
  | cons p rest ih =>
    obtain ⟨hc, hc2, hin, hin2⟩ := hok p (by simp)
    have hsh := applyData_sameShape hash c p.1 p.2
    have hsh2 := applyData_sameShape hash2 c2 p.1 ((applyData hash c p.1 p.2).ops ++ (applyData hash c p.1 p.2).appended)
    simp only [primaryRun, replicaRun, List.foldl_cons]
    refine ih _ _ (hsh.kind.trans hk) (hsh2.kind.trans hk2) (fun q hq => ?_)
      (or_exists_cons hs (applyData_num_replay hash hash2 k k2 c c2 p.1 p.2 i hk hk2 hc hc2 hin hin2))
    obtain ⟨q1, q2, q3, q4⟩ := hok q (by simp [hq])
    exact ⟨by rw [hsh.nchunks]; exact q1, by rw [hsh2.nchunks]; exact q2,
      InBounds.of_shape hsh q3, InBounds.of_shape hsh2 q4⟩

theorem primaryRun_shape (hash : Bytes → Nat) (commits : List (Nat × List Op)) (c : Col) :
    SameShape c (primaryRun hash c commits).1 := by
  induction commits generalizing c with
  | nil => exact SameShape.refl c
  | cons p rest ih => exact SameShape.trans (applyData_sameShape hash c p.1 p.2) (ih _)

theorem replicaRun_shape (hash : Bytes → Nat) (emitted : List (Nat × List Op)) (c : Col) :
    SameShape c (replicaRun hash c emitted) := by
  induction emitted generalizing c with
  | nil => exact SameShape.refl c
  | cons p rest ih => exact SameShape.trans (applyData_sameShape hash c p.1 p.2) (ih _)

/-- no resizing merge in the section (nothing appended through the parent buffer): the guard of
    finding D12 holds for every offset -/
theorem noOpAfterResize_of_appended_nil (c : Col) (ops : List Op) (hin : InBounds c ops)
    (h : (ops.foldl stepStr (c, [], [])).2.2 = []) (i : Nat) :
    NoOpAfterResize i (traceStr (c, [], []) ops) := by
  rw [(foldStr_rewrite ops (c, [], []) hin).2, List.nil_append, List.filterMap_eq_nil_iff] at h
  apply List.pairwise_of_forall_mem_list
  intro a ha b _ _ hr
  have := h a ha
  unfold appOp at this
  rw [if_pos hr] at this
  cases this

/-! ## strings / records: one commit and a history of commits, under the D12 guard -/


theorem applyData_str_emitted_inBounds (hash : Bytes → Nat) (c c2 : Col) (chunk : Nat) (ops : List Op)
    (hk : c.kind = .str ∨ c.kind = .record) (hc : chunk < c.nchunks)
    (hin : InBounds c ops) (hin2 : InBounds c2 ops) :
    InBounds c2 ((applyData hash c chunk ops).ops ++ (applyData hash c chunk ops).appended) := by
  rw [applyData_str hash c chunk ops hk hc]
  obtain ⟨h1, h2⟩ := foldStr_rewrite ops (c, [], []) hin
  simp only [h1, h2, List.append_nil, List.reverse_reverse, List.nil_append]
  intro o ho
  obtain ⟨o', ho', e⟩ := rewritten_idx_mem (c, [], []) ops o ho
  rw [← e]; exact hin2 o' ho'

/-- the D12 guard along a history: every commit satisfies it on the column it is applied to -/
def GuardedRun (hash : Bytes → Nat) : Col → List (Nat × List Op) → Prop
  | _, [] => True
  | c, p :: rest =>
    (∀ i, NoOpAfterResize i (traceStr (c, [], []) p.2)) ∧ GuardedRun hash (applyData hash c p.1 p.2).col rest

/-- string / record columns, any guarded history: offset `i` of the replica ends with the primary's
    slot if some Put / Merge of some commit addresses `i`, or if `i` was in sync before -/
theorem replicaRun_str (hash hash2 : Bytes → Nat) (commits : List (Nat × List Op))
    (c c2 : Col) (i : Nat) (hk : c.kind = .str ∨ c.kind = .record) (hk2 : c2.kind = .str ∨ c2.kind = .record)
    (hok : ∀ p ∈ commits, p.1 < c.nchunks ∧ p.1 < c2.nchunks ∧ InBounds c p.2 ∧ InBounds c2 p.2)
    (hg : GuardedRun hash c commits)
    (hs : (∃ p ∈ commits, ∃ o ∈ p.2, o.idx = i ∧ (o.typ = opPut ∨ o.typ = opMerge)) ∨
          slot c2 i = slot c i) :
    slot (replicaRun hash2 c2 (primaryRun hash c commits).2) i = slot (primaryRun hash c commits).1 i := by
  induction commits generalizing c c2 with
  | nil => exact hs.resolve_left (fun ⟨_, hp, _⟩ => nomatch hp)
  | cons p rest ih =>
    obtain ⟨hc, hc2, hin, hin2⟩ := hok p (by simp)
    obtain ⟨hg1, hg2⟩ := hg
    have hsh := applyData_sameShape hash c p.1 p.2
    have hsh2 := applyData_sameShape hash2 c2 p.1 ((applyData hash c p.1 p.2).ops ++ (applyData hash c p.1 p.2).appended)
    simp only [primaryRun, replicaRun, List.foldl_cons]
    refine ih _ _ (by rw [hsh.kind]; exact hk) (by rw [hsh2.kind]; exact hk2) (fun q hq => ?_) hg2
      (or_exists_cons hs (applyData_str_replay hash hash2 c c2 p.1 p.2 i hk hk2 hc hc2 hin hin2 (hg1 i)))
    obtain ⟨q1, q2, q3, q4⟩ := hok q (by simp [hq])
    exact ⟨by rw [hsh.nchunks]; exact q1, by rw [hsh2.nchunks]; exact q2,
      InBounds.of_shape hsh q3, InBounds.of_shape hsh2 q4⟩

end ColumnVerif.Store

/-! ## Part 2 — the replica of the abstract machine -/
namespace ColumnVerif.Conc

/-- the merged value chunk held right after the commit with id `id` was applied: the fold of the
    records from that one back to the oldest (`recs` is most recent first); `init` if there is no
    such record -/
def valueAt (merge : Nat → Nat → Nat) (init : Nat) : List Rec → Nat → Nat
  | [], _ => init
  | r :: older, id => if r.id = id then foldAcc merge init (r :: older) else valueAt merge init older id

/-- The replica of one chunk: it starts from `init` and replays the stream entries of the chunk in
    arrival order (`streamIds` is most recent first, hence `foldr`); each entry carries the absolute
    value its commit left (`valueAt`), which overwrites whatever the replica held — no merge
    function is consulted on the replica. -/
def replicaAcc (merge : Nat → Nat → Nat) (init : Nat) (applied : List Rec) (streamIds : List Nat) : Nat :=
  streamIds.foldr (fun id _ => valueAt merge init applied id) init

@[simp] theorem replicaAcc_nil (merge : Nat → Nat → Nat) (init : Nat) (applied : List Rec) :
    replicaAcc merge init applied [] = init := rfl

/-- absolute writes: the replica holds the value of the entry that arrived last -/
@[simp] theorem replicaAcc_cons (merge : Nat → Nat → Nat) (init : Nat) (applied : List Rec) (id : Nat)
    (older : List Nat) : replicaAcc merge init applied (id :: older) = valueAt merge init applied id := rfl

theorem replicaAcc_eq_head (merge : Nat → Nat → Nat) (init : Nat) (applied : List Rec) (s : List Nat) :
    replicaAcc merge init applied s =
      match s with
      | [] => init
      | id :: _ => valueAt merge init applied id := by
  cases s <;> rfl

theorem valueAt_head (merge : Nat → Nat → Nat) (init : Nat) (r : Rec) (older : List Rec) :
    valueAt merge init (r :: older) r.id = foldAcc merge init (r :: older) := by
  simp [valueAt]

theorem valueAt_of_ne (merge : Nat → Nat → Nat) (init : Nat) (r : Rec) (older : List Rec) (id : Nat)
    (h : r.id ≠ id) : valueAt merge init (r :: older) id = valueAt merge init older id := by
  simp [valueAt, h]

/-- meaning of `valueAt` when ids are distinct: whatever was applied after the commit is ignored -/
theorem valueAt_append (merge : Nat → Nat → Nat) (init : Nat) (newer : List Rec) (r : Rec) (older : List Rec)
    (h : ∀ x ∈ newer, x.id ≠ r.id) :
    valueAt merge init (newer ++ r :: older) r.id = foldAcc merge init (r :: older) := by
  induction newer with
  | nil => exact valueAt_head merge init r older
  | cons x xs ih =>
    rw [List.cons_append, valueAt_of_ne merge init x _ r.id (h x (by simp))]
    exact ih (fun y hy => h y (by simp [hy]))

/-- an id that is in no record: the replica would be handed the initial value (never happens on a
    reachable stream, `stream_subset_applied`) -/
theorem valueAt_of_not_mem (merge : Nat → Nat → Nat) (init : Nat) (recs : List Rec) (id : Nat)
    (h : ∀ r ∈ recs, r.id ≠ id) : valueAt merge init recs id = init := by
  induction recs with
  | nil => rfl
  | cons x xs ih =>
    rw [valueAt_of_ne merge init x xs id (h x (by simp))]
    exact ih (fun y hy => h y (by simp [hy]))

theorem replicaAcc_all (merge : Nat → Nat → Nat) (init : Nat) (applied : List Rec) :
    replicaAcc merge init applied (applied.map (·.id)) = foldAcc merge init applied := by
  cases applied with
  | nil => rfl
  | cons r older => simp [valueAt]

theorem replicaAcc_tail (merge : Nat → Nat → Nat) (init : Nat) (applied : List Rec)
    (hnd : (applied.map (·.id)).Nodup) :
    replicaAcc merge init applied (applied.map (·.id)).tail = foldAcc merge init applied.tail := by
  cases applied with
  | nil => rfl
  | cons r older =>
    cases older with
    | nil => rfl
    | cons r2 older2 =>
      simp only [List.map_cons, List.tail_cons, replicaAcc_cons]
      have hne : r.id ≠ r2.id := by
        intro e
        simp only [List.map_cons, List.nodup_cons, List.mem_cons] at hnd
        exact hnd.1 (Or.inl e)
      rw [valueAt_of_ne merge init r _ r2.id hne, valueAt_head]

/-! ### the whole stream, all chunks -/

/-- a replica of all chunks replaying a whole stream (most recent first) of absolute writes:
    entry `(c, id)` sets chunk `c` to `val c id` -/
def replayStream (val : Nat → Nat → Nat) (init : Nat → Nat) : List (Nat × Nat) → Nat → Nat
  | [] => init
  | p :: older => fun d => if d = p.1 then val p.1 p.2 else replayStream val init older d

theorem replayStream_chunk (val : Nat → Nat → Nat) (init : Nat → Nat) (s : List (Nat × Nat)) (c : Nat) :
    replayStream val init s c =
      ((s.filter (·.1 = c)).map (·.2)).foldr (fun id _ => val c id) (init c) := by
  induction s with
  | nil => rfl
  | cons p older ih =>
    by_cases e : p.1 = c
    · subst e
      simp [replayStream]
    · have e' : ¬ c = p.1 := fun h => e h.symm
      simp only [replayStream, if_neg e', List.filter_cons, e, decide_false]
      exact ih

end ColumnVerif.Conc
