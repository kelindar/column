import ColumnVerif.Model.Codec
/-! Helper lemmas for the op codec (round trip of one op and of runs). -/
namespace ColumnVerif.Codec

theorem toNat_ofNat_lt (x : Nat) (h : x < 256) : (UInt8.ofNat x).toNat = x := by
  rw [UInt8.toNat_ofNat']; exact Nat.mod_eq_of_lt h

/-! ### a digit `t < k` below a number `y`: `t + k * y` -/

theorem digit_mod {k t : Nat} (y : Nat) (h : t < k) : (t + k * y) % k = t := by
  rw [Nat.add_mul_mod_self_left, Nat.mod_eq_of_lt h]

theorem digit_div {k t : Nat} (y : Nat) (h : t < k) : (t + k * y) / k = y := by
  rw [Nat.add_mul_div_left _ _ (Nat.zero_lt_of_lt h), Nat.div_eq_of_lt h, Nat.zero_add]

theorem digit_lt {k t y m : Nat} (ht : t < k) (hy : y < m) : t + k * y < k * m :=
  Nat.lt_of_lt_of_le (by rw [Nat.mul_succ, Nat.add_comm]; exact Nat.add_lt_add_left ht _)
    (Nat.mul_le_mul_left k hy)

/-! ### varints: seven bits per byte, low bits first, high bit = "more follows" -/

theorem writeOffset_of_lt (fuel : Nat) {d : Nat} (h : d < 128) :
    writeOffset fuel d = [UInt8.ofNat d] := by
  cases fuel with
  | zero => rfl
  | succ f => rw [writeOffset, if_neg (Nat.not_le.2 h)]

theorem writeOffset_of_ge (fuel : Nat) {d : Nat} (h : 128 ≤ d) :
    writeOffset (fuel+1) d = UInt8.ofNat (d % 128 + 128) :: writeOffset fuel (d / 128) := by
  rw [writeOffset, if_pos h]

theorem contByte_toNat (d : Nat) : (UInt8.ofNat (d % 128 + 128)).toNat = d % 128 + 128 :=
  toNat_ofNat_lt _ (Nat.add_lt_add_right (Nat.mod_lt d (by decide)) 128)

theorem contByte_mod (d : Nat) : (d % 128 + 128) % 128 = d % 128 := by
  rw [Nat.add_mod_right, Nat.mod_mod]

theorem readOffset_writeOffset (fuel d : Nat) (rest : Bytes) (h : d < 128 ^ (fuel+1)) :
    readOffset fuel (writeOffset fuel d ++ rest) = some (d, rest) := by
  induction fuel generalizing d with
  | zero =>
    rw [writeOffset_of_lt 0 h, List.singleton_append, readOffset,
      toNat_ofNat_lt d (Nat.lt_trans h (by decide))]
  | succ n ih =>
    by_cases hd : d < 128
    · rw [writeOffset_of_lt _ hd, List.singleton_append, readOffset,
        toNat_ofNat_lt d (Nat.lt_trans hd (by decide)), if_pos hd]
    · rw [writeOffset_of_ge n (Nat.le_of_not_lt hd), List.cons_append, readOffset, contByte_toNat,
        if_neg (Nat.not_lt.2 (Nat.le_add_left _ _)),
        ih (d / 128) (Nat.div_lt_of_lt_mul (by rwa [Nat.pow_succ, Nat.mul_comm] at h)),
        contByte_mod]
      exact congrArg (fun x => some (x, rest)) (Nat.mod_add_div d 128)

/-! ### one op -/

/-- the header byte is `typ + 16 * (code + 4 * (isStr + 2 * isNext))`, read back digit by digit -/
theorem parseHeader_header (t c : Nat) (s n : Bool) (ht : t < 16) (hc : c < 4) :
    parseHeader (header t c s n) = (t, c, s, n) := by
  have hs : (if s then 64 else 0) = 16 * (4 * s.toNat) := by cases s <;> rfl
  have hn : (if n then 128 else 0) = 16 * (4 * (2 * n.toNat)) := by cases n <;> rfl
  have e1 : (s.toNat == 1) = s := by cases s <;> rfl
  have e2 : (n.toNat % 2 == 1) = n := by cases n <;> rfl
  have hs' := s.toNat_lt
  unfold parseHeader header
  rw [hs, hn, Nat.add_assoc, Nat.add_assoc, ← Nat.mul_add, ← Nat.mul_add, ← Nat.mul_add,
    toNat_ofNat_lt _ (digit_lt ht (digit_lt hc (digit_lt hs' n.toNat_lt))), digit_mod _ ht,
    show 64 = 16 * 4 from rfl, show 128 = 16 * 4 * 2 from rfl, ← Nat.div_div_eq_div_mul,
    ← Nat.div_div_eq_div_mul, ← Nat.div_div_eq_div_mul, digit_div _ ht, digit_mod _ hc,
    digit_div _ hc, digit_mod _ hs', digit_div _ hs', e1, e2]

theorem parseVal_valBytes (v : Val) (rest : Bytes) (hv : v.WF) :
    parseVal (codeOf v).2 (codeOf v).1 (valBytes v ++ rest) = some (v, rest) := by
  cases v with
  | fixed c bs =>
    simp [parseVal, valBytes, codeOf, show sizeOfCode c = bs.length from hv.2.symm]
  | str bs =>
    have hlen : bs.length < 256 * 256 := hv
    simp [parseVal, valBytes, codeOf, toNat_ofNat_lt _ (Nat.div_lt_of_lt_mul hlen),
      toNat_ofNat_lt _ (Nat.mod_lt bs.length (by decide : 0 < 256)), Nat.div_add_mod']

theorem delta_lt (last idx : Nat) : delta last idx < M32 := Nat.mod_lt _ (by decide)

theorem delta_add (last idx : Nat) (hl : last < M32) (hi : idx < M32) :
    (last + delta last idx) % M32 = idx := by
  rw [delta, Nat.add_mod_mod,
    Nat.add_sub_cancel' (Nat.le_trans (Nat.le_of_lt hl) (Nat.le_add_left _ _)),
    Nat.add_mod_right, Nat.mod_eq_of_lt hi]

/-- one op: `Next` after `Put*` returns the op, for every type nibble, width and offset move -/
theorem decode_encode (last : Nat) (o : Op) (rest : Bytes)
    (hl : last < M32) (hw : o.WF) :
    decodeOp (encodeOp last o ++ rest) last = some (o, rest) := by
  obtain ⟨typ, idx, val⟩ := o
  obtain ⟨ht, hi, hv⟩ := hw
  have hc : (codeOf val).1 < 4 := by
    cases val with
    | fixed c bs => exact hv.1
    | str bs => exact (by decide : 1 < 4)
  have hda := delta_add last idx hl hi
  have hd5 : delta last idx < 128 ^ (4+1) := Nat.lt_trans (delta_lt last idx) (by decide)
  unfold encodeOp
  simp only
  by_cases h1 : delta last idx = 1
  · rw [if_pos h1, List.cons_append, decodeOp]
    simp only [parseHeader_header typ _ _ true ht hc, parseVal_valBytes val rest hv, if_true]
    rw [← h1, hda]
  · rw [if_neg h1, List.cons_append, List.append_assoc, decodeOp]
    simp only [parseHeader_header typ _ _ false ht hc, parseVal_valBytes val _ hv,
      readOffset_writeOffset 4 _ rest hd5, hda]
    simp

theorem encodeOp_ne_nil (last : Nat) (o : Op) : encodeOp last o ≠ [] := by
  unfold encodeOp; simp only; split <;> simp

/-! ### runs -/

theorem encodeAll_append (last : Nat) (xs ys : List Op) :
    encodeAll last (xs ++ ys) = encodeAll last xs ++ encodeAll (lastIdx last xs) ys := by
  induction xs generalizing last with
  | nil => rfl
  | cons x xs ih => rw [List.cons_append, encodeAll, encodeAll, ih, List.append_assoc]; rfl

theorem lastIdx_append (last : Nat) (xs ys : List Op) :
    lastIdx last (xs ++ ys) = lastIdx (lastIdx last xs) ys := by
  induction xs generalizing last with
  | nil => rfl
  | cons x xs ih => exact ih x.idx

theorem lastIdx_lt (last : Nat) (ops : List Op) (hl : last < M32) (hw : ∀ o ∈ ops, o.WF) :
    lastIdx last ops < M32 := by
  induction ops generalizing last with
  | nil => exact hl
  | cons o os ih =>
    exact ih o.idx (hw o List.mem_cons_self).2.1 (fun x hx => hw x (List.mem_cons_of_mem _ hx))

theorem length_le_encodeAll (last : Nat) (ops : List Op) :
    ops.length ≤ (encodeAll last ops).length := by
  induction ops generalizing last with
  | nil => exact Nat.le_refl 0
  | cons o os ih =>
    rw [encodeAll, List.length_cons, List.length_append, Nat.add_comm]
    exact Nat.add_le_add (List.length_pos_iff.2 (encodeOp_ne_nil last o)) (ih o.idx)

/-- runs: `for r.Next()` over the bytes of a run of `Put*` calls returns the run, followed by
    whatever decodes from the bytes after it -/
theorem decodeAll_encodeAll_append (ops : List Op) (last : Nat) (hl : last < M32)
    (hw : ∀ o ∈ ops, o.WF) (rest : Bytes) (more : List Op) (fuel fuel' : Nat)
    (hf : ops.length + fuel' ≤ fuel)
    (hmono : ∀ f, fuel' ≤ f → decodeAll f rest (lastIdx last ops) = some more) :
    decodeAll fuel (encodeAll last ops ++ rest) last = some (ops ++ more) := by
  induction ops generalizing last fuel with
  | nil => exact hmono fuel (by omega)
  | cons o os ih =>
    have ho := hw o List.mem_cons_self
    cases fuel with
    | zero => simp at hf
    | succ f =>
      have hne : encodeAll last (o :: os) ++ rest ≠ [] := by
        simp [encodeAll, encodeOp_ne_nil]
      rw [decodeAll, if_neg hne, encodeAll, List.append_assoc, decode_encode last o _ hl ho]
      simp only
      rw [ih o.idx ho.2.1 (fun x hx => hw x (List.mem_cons_of_mem _ hx)) f (by simp at hf; omega) hmono]
      rfl

theorem decodeAll_nil (fuel off : Nat) : decodeAll fuel [] off = some [] := by
  cases fuel <;> rfl

theorem decodeBytes_encodeAll (ops : List Op) (last : Nat) (hl : last < M32)
    (hw : ∀ o ∈ ops, o.WF) : decodeBytes (encodeAll last ops) last = some ops := by
  have := decodeAll_encodeAll_append ops last hl hw [] [] (encodeAll last ops).length 0
    (length_le_encodeAll last ops) (fun f _ => decodeAll_nil _ _)
  rwa [List.append_nil, List.append_nil] at this

end ColumnVerif.Codec
