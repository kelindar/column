import ColumnVerif.Lemmas.Step
/-! Lemmas: what the main pass does to a string / record column (`stepStr`) and to an enum column
    (`stepEnum`): slots, the in-place rewriting of the section, replay of the rewritten section. -/
namespace ColumnVerif.Store
open ColumnVerif.Codec ColumnVerif.Bits

/-! ## T1 — slots of a string column -/

theorem stepStr_shape (acc : ApplyAcc) (o : Op) : SameShape acc.1 (stepStr acc o).1 :=
  stepOf_sameShape (fun _ => 0) .str acc o

theorem stepStr_slot (acc : ApplyAcc) (o : Op) (i : Nat)
    (hb : o.idx < acc.1.bits.size) (hd : o.idx < acc.1.data.size) :
    slot (stepStr acc o).1 i =
      if i = o.idx then slotEffect acc.1.merge 0 (slot acc.1 i) o else slot acc.1 i :=
  stepOf_slot (fun _ => 0) .str acc o i hb hd

theorem foldStr_slot (ops : List Op) (acc : ApplyAcc) (i : Nat) (hin : InBounds acc.1 ops) :
    slot (ops.foldl stepStr acc).1 i =
      (ops.filter (fun o => o.idx = i)).foldl (slotEffect acc.1.merge 0) (slot acc.1 i) :=
  foldStepOf_slot (fun _ => 0) .str ops acc i hin

/-! ## T2 — the in-place rewriting of the section -/

/-- the ops of a section, each paired with the value held by its offset right after it was applied -/
def traceStr (acc : ApplyAcc) : List Op → List (Op × Bytes)
  | [] => []
  | o :: os => (o, (slot (stepStr acc o).1 o.idx).2) :: traceStr (stepStr acc o) os

/-- a merge whose result has another length than its delta (`SwapBytes` cannot write in place) -/
def resizing (p : Op × Bytes) : Prop := p.1.typ = opMerge ∧ p.2.length ≠ (valRaw p.1.val).length

instance (p : Op × Bytes) : Decidable (resizing p) := by unfold resizing; exact inferInstance

/-- what the section holds in place of op `p.1` after the pass (`p.2` = value stored by it) -/
def rwOp (p : Op × Bytes) : Op :=
  if p.1.typ = opMerge then
    if p.2.length = (valRaw p.1.val).length then ⟨opPut, p.1.idx, .str p.2⟩ else ⟨opSkip, p.1.idx, p.1.val⟩
  else p.1

/-- the put appended through the parent buffer for op `p.1`, if any -/
def appOp (p : Op × Bytes) : Option Op :=
  if resizing p then some ⟨opPut, p.1.idx, .str p.2⟩ else none

theorem traceStr_map_fst (acc : ApplyAcc) (ops : List Op) : (traceStr acc ops).map Prod.fst = ops := by
  induction ops generalizing acc with
  | nil => rfl
  | cons o os ih => rw [traceStr, List.map_cons, ih]

theorem traceStr_getElem? (acc : ApplyAcc) (ops : List Op) (k : Nat) :
    (traceStr acc ops)[k]? =
      (ops[k]?).map (fun o => (o, (slot ((ops.take (k+1)).foldl stepStr acc).1 o.idx).2)) := by
  induction ops generalizing acc k with
  | nil => rfl
  | cons o os ih =>
    cases k with
    | zero => rfl
    | succ k => exact ih (stepStr acc o) k

theorem rwOp_of_not_merge (p : Op × Bytes) (h : p.1.typ ≠ opMerge) : rwOp p = p.1 := if_neg h

theorem appOp_of_not_resizing {p : Op × Bytes} (h : ¬ resizing p) : appOp p = none := if_neg h

theorem appOp_of_resizing {p : Op × Bytes} (h : resizing p) : appOp p = some ⟨opPut, p.1.idx, .str p.2⟩ := if_pos h

theorem traceStr_merge_val (acc : ApplyAcc) (o : Op) (hb : o.idx < acc.1.bits.size) (hd : o.idx < acc.1.data.size)
    (hm : o.typ = opMerge) : (slot (stepStr acc o).1 o.idx).2 = mergeVal .str acc.1 o := by
  rw [stepStr_slot acc o o.idx hb hd, if_pos rfl, slotEffect_merge hm, padTo_zero]
  show acc.1.merge ((acc.1.data[o.idx]?).getD []) _ = acc.1.merge (acc.1.data.getD o.idx []) _
  rw [getD_eq]

theorem opOf_str_trace (acc : ApplyAcc) (o : Op) (hb : o.idx < acc.1.bits.size) (hd : o.idx < acc.1.data.size) :
    opOf .str acc.1 o = rwOp (o, (slot (stepStr acc o).1 o.idx).2) ∧
    appOf .str acc.1 o = (appOp (o, (slot (stepStr acc o).1 o.idx).2)).toList := by
  by_cases hm : o.typ = opMerge
  · rw [traceStr_merge_val acc o hb hd hm]
    have e1 : opOf .str acc.1 o =
        if (mergeVal .str acc.1 o).length = (valRaw o.val).length then swapInPlace o (.str (mergeVal .str acc.1 o))
        else markSkip o := if_pos hm
    have e2 : rwOp (o, mergeVal .str acc.1 o) =
        if (mergeVal .str acc.1 o).length = (valRaw o.val).length then ⟨opPut, o.idx, .str (mergeVal .str acc.1 o)⟩
        else ⟨opSkip, o.idx, o.val⟩ := if_pos hm
    rw [e1, e2]
    by_cases hl : (mergeVal .str acc.1 o).length = (valRaw o.val).length
    · rw [if_pos hl, if_pos hl, appOp_of_not_resizing (fun h => h.2 hl)]
      exact ⟨rfl, if_neg (fun h => h.2 hl)⟩
    · rw [if_neg hl, if_neg hl, appOp_of_resizing (p := (o, mergeVal .str acc.1 o)) ⟨hm, hl⟩]
      exact ⟨rfl, if_pos ⟨hm, hl⟩⟩
  · rw [opOf_of_ne_merge _ _ _ hm, appOf_of_ne_merge _ _ _ hm, rwOp_of_not_merge _ hm,
      appOp_of_not_resizing (fun h => hm h.1)]
    exact ⟨rfl, rfl⟩

theorem rwOps_str_trace (hash : Bytes → Nat) (ops : List Op) (acc : ApplyAcc) (hin : InBounds acc.1 ops) :
    rwOps hash .str acc.1 ops = (traceStr acc ops).map rwOp ∧
    appOps hash .str acc.1 ops = (traceStr acc ops).filterMap appOp := by
  induction ops generalizing acc with
  | nil => exact ⟨rfl, rfl⟩
  | cons o os ih =>
    have ho := hin o (List.mem_cons_self ..)
    obtain ⟨h1, h2⟩ := ih (stepStr acc o) (InBounds.of_shape (stepStr_shape acc o) (InBounds.tail hin))
    obtain ⟨s1, s2⟩ := opOf_str_trace acc o ho.1 ho.2
    have e : (stepStr acc o).1 = colOf hash .str acc.1 o := congrArg Prod.fst (stepOf_eq hash .str acc o)
    rw [e] at h1 h2
    rw [rwOps, appOps, h1, h2, s1, s2, traceStr, List.map_cons, List.filterMap_cons]
    refine ⟨rfl, ?_⟩
    cases appOp (o, (slot (stepStr acc o).1 o.idx).2) <;> rfl

theorem foldStr_rewrite (ops : List Op) (acc : ApplyAcc) (hin : InBounds acc.1 ops) :
    (ops.foldl stepStr acc).2.1 = ((traceStr acc ops).map rwOp).reverse ++ acc.2.1 ∧
    (ops.foldl stepStr acc).2.2 = acc.2.2 ++ (traceStr acc ops).filterMap appOp := by
  obtain ⟨h1, h2⟩ := rwOps_str_trace (fun _ => 0) ops acc hin
  rw [← h1, ← h2]
  show (ops.foldl (stepOf (fun _ => 0) .str) acc).2.1 = _ ∧ (ops.foldl (stepOf (fun _ => 0) .str) acc).2.2 = _
  rw [foldl_stepOf]
  exact ⟨rfl, rfl⟩

theorem rwOp_idx (p : Op × Bytes) : (rwOp p).idx = p.1.idx := by
  unfold rwOp; split
  · split <;> rfl
  · rfl

theorem rwOp_typ_ne_merge (p : Op × Bytes) : (rwOp p).typ ≠ opMerge := by
  unfold rwOp; split
  · split
    · exact (by decide : ¬ opPut = opMerge)
    · exact (by decide : ¬ opSkip = opMerge)
  · assumption

theorem appOp_eq_some {p : Op × Bytes} {o : Op} (h : appOp p = some o) :
    resizing p ∧ o = ⟨opPut, p.1.idx, .str p.2⟩ := by
  unfold appOp at h
  split at h
  · rename_i hr; exact ⟨hr, (Option.some.inj h).symm⟩
  · cases h

theorem rewritten_no_merge (tr : List (Op × Bytes)) :
    ∀ o ∈ tr.map rwOp ++ tr.filterMap appOp, o.typ ≠ opMerge := by
  intro o ho
  rcases List.mem_append.1 ho with ho | ho
  · obtain ⟨p, _, rfl⟩ := List.mem_map.1 ho
    exact rwOp_typ_ne_merge p
  · obtain ⟨p, _, hp⟩ := List.mem_filterMap.1 ho
    rw [(appOp_eq_some hp).2]; exact (by decide : ¬ opPut = opMerge)

theorem rewritten_idx_mem (acc : ApplyAcc) (ops : List Op) :
    ∀ o ∈ (traceStr acc ops).map rwOp ++ (traceStr acc ops).filterMap appOp, ∃ o' ∈ ops, o'.idx = o.idx := by
  intro o ho
  have hfst : ∀ p ∈ traceStr acc ops, p.1 ∈ ops := by
    intro p hp
    rw [← traceStr_map_fst acc ops]; exact List.mem_map.2 ⟨p, hp, rfl⟩
  rcases List.mem_append.1 ho with ho | ho
  · obtain ⟨p, hp, rfl⟩ := List.mem_map.1 ho
    exact ⟨p.1, hfst p hp, (rwOp_idx p).symm⟩
  · obtain ⟨p, hp, hq⟩ := List.mem_filterMap.1 ho
    exact ⟨p.1, hfst p hp, by rw [(appOp_eq_some hq).2]⟩

/-! ## T3 — replaying the rewritten section on another column -/

/-- per-offset trace: the ops addressed to one offset with the value they leave in it -/
def slotTrace (m : Bytes → Bytes → Bytes) (st : Bool × Bytes) : List Op → List (Op × Bytes)
  | [] => []
  | o :: os => (o, (slotEffect m 0 st o).2) :: slotTrace m (slotEffect m 0 st o) os

theorem traceStr_filter (ops : List Op) (acc : ApplyAcc) (i : Nat) (hin : InBounds acc.1 ops) :
    (traceStr acc ops).filter (fun p => p.1.idx = i) =
      slotTrace acc.1.merge (slot acc.1 i) (ops.filter (fun o => o.idx = i)) := by
  induction ops generalizing acc with
  | nil => rfl
  | cons o os ih =>
    have ho := hin o (List.mem_cons_self ..)
    have hs := stepStr_shape acc o
    have ih' := ih _ (InBounds.of_shape hs (InBounds.tail hin))
    rw [hs.merge, stepStr_slot acc o i ho.1 ho.2] at ih'
    rw [traceStr, List.filter_cons, List.filter_cons]
    by_cases e : o.idx = i
    · rw [if_pos e.symm] at ih'
      rw [if_pos (decide_eq_true e), if_pos (decide_eq_true e), slotTrace, ih', stepStr_slot acc o o.idx ho.1 ho.2,
        if_pos rfl, e]
    · rw [if_neg (fun h => e h.symm)] at ih'
      rw [if_neg (by simpa using e), if_neg (by simpa using e), ih']

theorem slotTrace_fold_fst (m : Bytes → Bytes → Bytes) (st : Bool × Bytes) (os : List Op) :
    (slotTrace m st os).map Prod.fst = os := by
  induction os generalizing st with
  | nil => rfl
  | cons o os ih => simp [slotTrace, ih]

/-- Replay of the rewritten ops of one offset (then the appended puts of that offset) over any start state `t0` and any
    merge function `m2`, provided a resizing merge is the last op of the offset. `R` says what "the same slot" means and
    `sync` which ops establish it whatever was there before: a `Put` or rewritten `Merge` overwrites the slot on both
    sides, so all that is asked of `R` is that the other ops keep it. -/
theorem replay_slot_rel (R : Bool × Bytes → Bool × Bytes → Prop) (sync : Op → Prop) (m m2 : Bytes → Bytes → Bytes)
    (hrefl : ∀ s, R s s)
    (hkeep : ∀ t s o, o.typ ≠ opMerge → sync o ∨ R t s → R (slotEffect m2 0 t o) (slotEffect m 0 s o))
    (os : List Op) (s0 t0 : Bool × Bytes)
    (hg : (slotTrace m s0 os).Pairwise (fun p _ => ¬ resizing p))
    (hs : (∃ o ∈ os, sync o) ∨ R t0 s0) :
    R ((((slotTrace m s0 os).map rwOp) ++ (slotTrace m s0 os).filterMap appOp).foldl (slotEffect m2 0) t0)
      (os.foldl (slotEffect m 0) s0) := by
  induction os generalizing s0 t0 with
  | nil =>
    rcases hs with ⟨o, ho, _⟩ | hs
    · cases ho
    · exact hs
  | cons o os ih =>
    rw [slotTrace, List.pairwise_cons] at hg
    obtain ⟨hg1, hg2⟩ := hg
    rw [slotTrace, List.map_cons, List.filterMap_cons, List.foldl_cons, List.cons_append, List.foldl_cons]
    -- what the replica holds after the rewritten op when the op was a merge that fits in place
    have swapped : ∀ v : Bytes, slotEffect m2 0 t0 ⟨opPut, o.idx, .str v⟩ = (true, v) := fun _ => slotEffect_put rfl
    by_cases hr : resizing (o, (slotEffect m 0 s0 o).2)
    · -- a resizing merge is the last op of this offset: skipped in place, its result put at the end
      have hnil : os = [] := by
        cases os with
        | nil => rfl
        | cons o' os' => exact absurd hr (hg1 _ (List.mem_cons_self (l := slotTrace m _ os')))
      subst hnil
      have hrw : rwOp (o, (slotEffect m 0 s0 o).2) = ⟨opSkip, o.idx, o.val⟩ := by
        unfold rwOp; rw [if_pos hr.1, if_neg hr.2]
      rw [hrw, appOp_of_resizing hr]
      show R (slotEffect m2 0 (slotEffect m2 0 t0 ⟨opSkip, o.idx, o.val⟩) ⟨opPut, o.idx, _⟩) (slotEffect m 0 s0 o)
      rw [slotEffect_put (o := ⟨opPut, o.idx, _⟩) rfl, slotEffect_merge hr.1]
      exact hrefl _
    · rw [appOp_of_not_resizing hr]
      apply ih _ _ hg2
      by_cases h2 : o.typ = opMerge
      · have hl : (slotEffect m 0 s0 o).2.length = (valRaw o.val).length := Decidable.byContradiction fun hl => hr ⟨h2, hl⟩
        have hrw : rwOp (o, (slotEffect m 0 s0 o).2) = ⟨opPut, o.idx, .str (slotEffect m 0 s0 o).2⟩ := by
          unfold rwOp; rw [if_pos h2, if_pos hl]
        rw [hrw, swapped, slotEffect_merge h2]
        exact Or.inr (hrefl _)
      · rw [rwOp_of_not_merge _ h2]
        rcases hs with ⟨x, hx, hx'⟩ | hs
        · rcases List.mem_cons.1 hx with rfl | hx
          · exact Or.inr (hkeep t0 s0 x h2 (Or.inl hx'))
          · exact Or.inl ⟨x, hx, hx'⟩
        · exact Or.inr (hkeep t0 s0 o h2 (Or.inr hs))

theorem filter_map_rwOp (tr : List (Op × Bytes)) (i : Nat) :
    (tr.map rwOp).filter (fun o => o.idx = i) = (tr.filter (fun p => p.1.idx = i)).map rwOp := by
  rw [List.filter_map]
  congr 1
  exact List.filter_congr (fun p _ => by rw [Function.comp_apply, rwOp_idx])

theorem filter_filterMap_appOp (tr : List (Op × Bytes)) (i : Nat) :
    (tr.filterMap appOp).filter (fun o => o.idx = i) = (tr.filter (fun p => p.1.idx = i)).filterMap appOp := by
  rw [List.filter_filterMap, List.filterMap_filter]
  congr 1
  funext p
  unfold appOp
  by_cases hr : resizing p
  · rw [if_pos hr]; rfl
  · rw [if_neg hr]; simp

/-- guard (finding D12): in the trace of the section, no op on offset `i` follows a resizing merge on `i` -/
def NoOpAfterResize (i : Nat) (tr : List (Op × Bytes)) : Prop :=
  tr.Pairwise (fun p q => p.1.idx = i → resizing p → q.1.idx ≠ i)

instance (i : Nat) (tr : List (Op × Bytes)) : Decidable (NoOpAfterResize i tr) := by
  unfold NoOpAfterResize; exact inferInstance

theorem NoOpAfterResize.filter {i : Nat} {tr : List (Op × Bytes)} (h : NoOpAfterResize i tr) :
    (tr.filter (fun p => p.1.idx = i)).Pairwise (fun p _ => ¬ resizing p) := by
  have h1 := List.Pairwise.filter (fun p => decide (p.1.idx = i)) h
  refine List.Pairwise.imp_of_mem ?_ h1
  intro a b ha hb hab hr
  have ea : a.1.idx = i := by simpa using (List.mem_filter.1 ha).2
  have eb : b.1.idx = i := by simpa using (List.mem_filter.1 hb).2
  exact hab ea hr eb

theorem foldStr_replay_rel (R : Bool × Bytes → Bool × Bytes → Prop) (sync : Op → Prop) (c c2 : Col)
    (hrefl : ∀ s, R s s)
    (hkeep : ∀ t s o, o.typ ≠ opMerge → sync o ∨ R t s → R (slotEffect c2.merge 0 t o) (slotEffect c.merge 0 s o))
    (ops : List Op) (i : Nat) (hin : InBounds c ops) (hin2 : InBounds c2 ops)
    (hg : NoOpAfterResize i (traceStr (c, [], []) ops))
    (hs : (∃ o ∈ ops, o.idx = i ∧ sync o) ∨ R (slot c2 i) (slot c i)) :
    R (slot (((ops.foldl stepStr (c, [], [])).2.1.reverse ++ (ops.foldl stepStr (c, [], [])).2.2).foldl
      stepStr (c2, [], [])).1 i) (slot (ops.foldl stepStr (c, [], [])).1 i) := by
  obtain ⟨h1, h2⟩ := foldStr_rewrite ops (c, [], []) hin
  rw [h1, h2, List.append_nil, List.reverse_reverse, List.nil_append]
  have hinR : InBounds c2 ((traceStr (c, [], []) ops).map rwOp ++ (traceStr (c, [], []) ops).filterMap appOp) := by
    intro o ho
    obtain ⟨o', ho', e⟩ := rewritten_idx_mem (c, [], []) ops o ho
    rw [← e]; exact hin2 o' ho'
  rw [foldStr_slot _ (c2, [], []) i hinR, foldStr_slot ops (c, [], []) i hin, List.filter_append, filter_map_rwOp,
    filter_filterMap_appOp, traceStr_filter ops (c, [], []) i hin]
  apply replay_slot_rel R sync _ _ hrefl hkeep
  · rw [← traceStr_filter ops (c, [], []) i hin]
    exact hg.filter
  · rcases hs with ⟨o, ho, e, ht⟩ | hs
    · exact Or.inl ⟨o, List.mem_filter.2 ⟨ho, decide_eq_true e⟩, ht⟩
    · exact Or.inr hs

theorem foldStr_replay (c c2 : Col) (ops : List Op) (i : Nat)
    (hin : InBounds c ops) (hin2 : InBounds c2 ops)
    (hg : NoOpAfterResize i (traceStr (c, [], []) ops))
    (hs : (∃ o ∈ ops, o.idx = i ∧ (o.typ = opPut ∨ o.typ = opMerge)) ∨ slot c2 i = slot c i) :
    slot (((ops.foldl stepStr (c, [], [])).2.1.reverse ++ (ops.foldl stepStr (c, [], [])).2.2).foldl
      stepStr (c2, [], [])).1 i = slot (ops.foldl stepStr (c, [], [])).1 i := by
  refine foldStr_replay_rel Eq (fun o => o.typ = opPut ∨ o.typ = opMerge) c c2 (fun _ => rfl) ?_ ops i hin hin2 hg hs
  intro t s o hm h
  rcases h with (hp | hp) | rfl
  · rw [slotEffect_put hp, slotEffect_put hp]
  · exact absurd hp hm
  · exact slotEffect_no_merge _ _ 0 0 t o hm

/-- what a reader can see of a slot: presence, and the value when present -/
def VisEq (t s : Bool × Bytes) : Prop := t.1 = s.1 ∧ (t.1 = true → t.2 = s.2)

theorem VisEq.of_eq {t s : Bool × Bytes} (h : t = s) : VisEq t s := by subst h; exact ⟨rfl, fun _ => rfl⟩

/-! ## T4 — enum column -/

theorem foldEnum_shape (hash : Bytes → Nat) (ops : List Op) (acc : ApplyAcc) :
    SameShape acc.1 (ops.foldl (stepEnum hash) acc).1 :=
  foldStepOf_sameShape hash .enum ops acc

theorem foldEnum_slot (hash : Bytes → Nat) (ops : List Op) (acc : ApplyAcc) (i : Nat) (hin : InBounds acc.1 ops) :
    slot (ops.foldl (stepEnum hash) acc).1 i =
      (ops.filter (fun o => o.idx = i)).foldl (enumEffect hash) (slot acc.1 i) :=
  foldStepOf_slot hash .enum ops acc i hin

theorem stepEnum_intern (hash : Bytes → Nat) (acc : ApplyAcc) (o : Op) :
    (stepEnum hash acc o).1.intern =
      if o.typ = opPut then
        if acc.1.intern.contains (hash (valRaw o.val)) then acc.1.intern
        else acc.1.intern.insert (hash (valRaw o.val)) (valRaw o.val)
      else acc.1.intern := by
  obtain ⟨c, done, app⟩ := acc
  obtain ⟨t, i, v⟩ := o
  rcases t with _ | _ | _ | _ | n <;> rfl

theorem getElem?_internPut (m : Std.HashMap Nat Bytes) (h k : Nat) (w : Bytes) :
    (if m.contains h then m else m.insert h w)[k]? = if h = k ∧ m[k]? = none then some w else m[k]? := by
  by_cases hc : m.contains h = true
  · rw [if_pos hc, if_neg]
    rintro ⟨rfl, hn⟩
    rw [Std.HashMap.contains_eq_isSome_getElem?, hn] at hc
    cases hc
  · rw [if_neg hc, Std.HashMap.getElem?_insert]
    by_cases e : h = k
    · subst e
      have hn : m[h]? = none := by
        rw [Std.HashMap.contains_eq_isSome_getElem?] at hc
        cases hv : m[h]? with
        | none => rfl
        | some _ => rw [hv] at hc; exact absurd rfl hc
      rw [if_pos (beq_self_eq_true h), if_pos ⟨rfl, hn⟩]
    · rw [if_neg (by simpa using e), if_neg (fun x => e x.1)]

/-- invariant of the interning table: every string is filed under its own hash (and is one of the
    strings `P` that occur) -/
def InternInv (hash : Bytes → Nat) (P : Bytes → Prop) (m : Std.HashMap Nat Bytes) : Prop :=
  ∀ h w, m[h]? = some w → hash w = h ∧ P w

theorem stepEnum_intern_mono (hash : Bytes → Nat) (acc : ApplyAcc) (o : Op) (h : Nat) (w : Bytes)
    (hw : acc.1.intern[h]? = some w) : (stepEnum hash acc o).1.intern[h]? = some w := by
  rw [stepEnum_intern]
  split
  · rw [getElem?_internPut, if_neg (fun x => by rw [hw] at x; cases x.2)]; exact hw
  · exact hw

theorem stepEnum_intern_inv (hash : Bytes → Nat) (P : Bytes → Prop) (acc : ApplyAcc) (o : Op)
    (hinv : InternInv hash P acc.1.intern) (hP : o.typ = opPut → P (valRaw o.val)) :
    InternInv hash P (stepEnum hash acc o).1.intern := by
  rw [stepEnum_intern]
  split
  · rename_i h1
    intro h w hw
    rw [getElem?_internPut] at hw
    split at hw
    · rename_i e
      cases hw
      exact ⟨e.1, hP h1⟩
    · exact hinv h w hw
  · exact hinv

theorem stepEnum_intern_put (hash : Bytes → Nat) (P : Bytes → Prop) (acc : ApplyAcc) (o : Op)
    (hinv : InternInv hash P acc.1.intern) (hP : P (valRaw o.val))
    (hinj : ∀ a b, P a → P b → hash a = hash b → a = b) (h1 : o.typ = opPut) :
    (stepEnum hash acc o).1.intern[hash (valRaw o.val)]? = some (valRaw o.val) := by
  rw [stepEnum_intern, if_pos h1, getElem?_internPut]
  cases hw : acc.1.intern[hash (valRaw o.val)]? with
  | none => rw [if_pos ⟨rfl, rfl⟩]
  | some w =>
    obtain ⟨e, pw⟩ := hinv _ _ hw
    rw [if_neg (fun x => by cases x.2), hinj w (valRaw o.val) pw hP e]

theorem foldEnum_intern (hash : Bytes → Nat) (P : Bytes → Prop) (ops : List Op) (acc : ApplyAcc)
    (hinv : InternInv hash P acc.1.intern) (hP : ∀ o ∈ ops, o.typ = opPut → P (valRaw o.val))
    (hinj : ∀ a b, P a → P b → hash a = hash b → a = b) :
    InternInv hash P (ops.foldl (stepEnum hash) acc).1.intern ∧
    (∀ (h : Nat) (w : Bytes), acc.1.intern[h]? = some w → (ops.foldl (stepEnum hash) acc).1.intern[h]? = some w) ∧
    (∀ o ∈ ops, o.typ = opPut →
      (ops.foldl (stepEnum hash) acc).1.intern[hash (valRaw o.val)]? = some (valRaw o.val)) := by
  induction ops generalizing acc with
  | nil => exact ⟨hinv, fun _ _ hw => hw, fun o ho => by cases ho⟩
  | cons o os ih =>
    have hinv' := stepEnum_intern_inv hash P acc o hinv (hP o (List.mem_cons_self ..))
    obtain ⟨i1, i2, i3⟩ := ih (stepEnum hash acc o) hinv' (fun x hx => hP x (List.mem_cons_of_mem _ hx))
    refine ⟨i1, fun h w hw => i2 h w (stepEnum_intern_mono hash acc o h w hw), ?_⟩
    intro x hx hxp
    rcases List.mem_cons.1 hx with rfl | hx
    · exact i2 _ _ (stepEnum_intern_put hash P acc x hinv (hP x (List.mem_cons_self ..) hxp) hinj hxp)
    · exact i3 x hx hxp

theorem foldEnum_intern_mono (hash : Bytes → Nat) (ops : List Op) (acc : ApplyAcc) (h : Nat) (w : Bytes)
    (hw : acc.1.intern[h]? = some w) : (ops.foldl (stepEnum hash) acc).1.intern[h]? = some w := by
  induction ops generalizing acc with
  | nil => exact hw
  | cons o os ih => exact ih _ (stepEnum_intern_mono hash acc o h w hw)

theorem foldEnum_slot_last (hash : Bytes → Nat) (c : Col) (pre post : List Op) (p : Op) (i : Nat)
    (hin : InBounds c (pre ++ p :: post)) (hpi : p.idx = i)
    (hpost : ∀ o ∈ post, o.idx = i → o.typ ≠ opPut ∧ o.typ ≠ opDelete) :
    slot ((pre ++ p :: post).foldl (stepEnum hash) (c, [], [])).1 i =
      enumEffect hash ((pre.filter (fun o => o.idx = i)).foldl (enumEffect hash) (slot c i)) p := by
  rw [foldEnum_slot hash _ (c, [], []) i hin, List.filter_append, List.filter_cons, if_pos (decide_eq_true hpi),
    List.foldl_append, List.foldl_cons]
  generalize enumEffect hash _ p = st
  have hpost' : ∀ o ∈ post.filter (fun o => o.idx = i), o.typ ≠ opPut ∧ o.typ ≠ opDelete := fun o ho =>
    hpost o (List.mem_filter.1 ho).1 (of_decide_eq_true (List.mem_filter.1 ho).2)
  exact foldl_invariant (fun s => s = st) _ _ st rfl (fun s o ho hs => by
    unfold enumEffect; rw [if_neg (hpost' o ho).1, if_neg (hpost' o ho).2]; exact hs)

theorem read_enum (c : Col) (i : Nat) (hk : c.kind = .enum) (hchunk : i / 16384 < c.nchunks) :
    c.read i = if (slot c i).1 then some ((c.intern[beNat (slot c i).2]?).getD []) else none := by
  unfold Col.read slot
  rw [hk]
  simp only [getD_eq, Std.HashMap.get?_eq_getElem?, hchunk, true_and]

theorem foldEnum_read_last_put (hash : Bytes → Nat) (P : Bytes → Prop) (c : Col) (pre post : List Op) (p : Op)
    (i : Nat) (hk : c.kind = .enum) (hchunk : i / 16384 < c.nchunks)
    (hin : InBounds c (pre ++ p :: post))
    (hinv : InternInv hash P c.intern)
    (hP : ∀ o ∈ pre ++ p :: post, o.typ = opPut → P (valRaw o.val))
    (hinj : ∀ a b, P a → P b → hash a = hash b → a = b)
    (h32 : hash (valRaw p.val) < 4294967296)
    (hp : p.typ = opPut) (hpi : p.idx = i)
    (hpost : ∀ o ∈ post, o.idx = i → o.typ ≠ opPut ∧ o.typ ≠ opDelete) :
    ((pre ++ p :: post).foldl (stepEnum hash) (c, [], [])).1.read i = some (valRaw p.val) := by
  have hs := foldEnum_shape hash (pre ++ p :: post) (c, [], [])
  have hput := (foldEnum_intern hash P (pre ++ p :: post) (c, [], []) hinv hP hinj).2.2 p (by simp) hp
  rw [read_enum _ i (hs.kind.trans hk) (by rw [hs.nchunks]; exact hchunk), foldEnum_slot_last hash c pre post p i hin hpi hpost]
  unfold enumEffect
  rw [if_pos hp, if_pos rfl, beNat_natToBE4 _ h32, hput]; rfl

/-! ## `applyData` on string / record / enum columns is the fold of the step -/

theorem applyData_str (hash : Bytes → Nat) (c : Col) (chunk : Nat) (ops : List Op)
    (hk : c.kind = .str ∨ c.kind = .record) (hc : chunk < c.nchunks) :
    applyData hash c chunk ops =
      { col := (ops.foldl stepStr (c, [], [])).1, ops := (ops.foldl stepStr (c, [], [])).2.1.reverse,
        appended := (ops.foldl stepStr (c, [], [])).2.2 } := by
  unfold applyData
  rw [if_neg (Nat.not_le.2 hc)]
  rcases hk with hk | hk <;> rw [hk] <;> rfl

theorem applyData_enum (hash : Bytes → Nat) (c : Col) (chunk : Nat) (ops : List Op)
    (hk : c.kind = .enum) (hc : chunk < c.nchunks) :
    applyData hash c chunk ops =
      { col := (ops.foldl (stepEnum hash) (c, [], [])).1,
        ops := (ops.foldl (stepEnum hash) (c, [], [])).2.1.reverse,
        appended := (ops.foldl (stepEnum hash) (c, [], [])).2.2 } := by
  unfold applyData
  rw [if_neg (Nat.not_le.2 hc), hk]
  rfl

theorem applyData_str_replay (hash hash2 : Bytes → Nat) (c c2 : Col) (chunk : Nat) (ops : List Op) (i : Nat)
    (hk : c.kind = .str ∨ c.kind = .record) (hk2 : c2.kind = .str ∨ c2.kind = .record)
    (hc : chunk < c.nchunks) (hc2 : chunk < c2.nchunks)
    (hin : InBounds c ops) (hin2 : InBounds c2 ops)
    (hg : NoOpAfterResize i (traceStr (c, [], []) ops))
    (hs : (∃ o ∈ ops, o.idx = i ∧ (o.typ = opPut ∨ o.typ = opMerge)) ∨ slot c2 i = slot c i) :
    slot (applyData hash2 c2 chunk
        ((applyData hash c chunk ops).ops ++ (applyData hash c chunk ops).appended)).col i =
      slot (applyData hash c chunk ops).col i := by
  rw [applyData_str hash c chunk ops hk hc, applyData_str hash2 c2 chunk _ hk2 hc2]
  exact foldStr_replay c c2 ops i hin hin2 hg hs

theorem read_str (c : Col) (i : Nat) (hk : c.kind = .str ∨ c.kind = .record) :
    c.read i = if i / 16384 < c.nchunks ∧ (slot c i).1 = true then some (slot c i).2 else none :=
  read_slot c i (by rcases hk with h | h <;> rw [h] <;> rfl) (by rcases hk with h | h <;> rw [h] <;> nofun)

theorem VisEq.read_eq {c c2 : Col} {i : Nat} (h : VisEq (slot c2 i) (slot c i))
    (hk : c.kind = .str ∨ c.kind = .record) (hk2 : c2.kind = .str ∨ c2.kind = .record)
    (hc : i / 16384 < c.nchunks) (hc2 : i / 16384 < c2.nchunks) : c2.read i = c.read i := by
  rw [read_str c i hk, read_str c2 i hk2]
  by_cases hb : (slot c2 i).1 = true
  · rw [if_pos ⟨hc2, hb⟩, if_pos ⟨hc, h.1 ▸ hb⟩, h.2 hb]
  · rw [if_neg (fun x => hb x.2), if_neg (fun x => hb (h.1 ▸ x.2))]

end ColumnVerif.Store
