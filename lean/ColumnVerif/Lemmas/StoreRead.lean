import ColumnVerif.Lemmas.StoreCol
import ColumnVerif.Model.Snapshot
/-!
Lemmas for the store-level read-back (C01) and the snapshot round trip (C07).

* Numeric columns through `mainPass`, `commitUpdates`, `commitMarkers`, `commitChunk`, `commit` (`commit_readback`): each is
  the general lemma of `Lemmas/StoreCol` (`cuFold_ok`, `commitChunk_ok_full`, `commit_slot`) at kind `.num k`, where nothing
  is ever appended (`NoAppend_of_kind`) and the slot law is `slotEffect` (`slotLaw_num`).
* `snapshotOps` applied to a fresh column; the buffers `chunkState` writes.
* The fill list and the panic flag through a commit (`commit_fill`, `commit_no_panic`), what a commit keeps of the store
  invariants, markers on every data column.
* One chunk of a snapshot committed into another store (`restore_chunk_slot`), `readState` of a whole snapshot, any
  sequence of commits (`commits_readback`).

The registry and the steps a commit is cut into are in `Lemmas/StorePlumb`, what the lemmas here and in `Lemmas/StoreCol`
share in `Lemmas/StoreBase`.
-/
namespace ColumnVerif.Store
open ColumnVerif.Codec ColumnVerif.Bits

/-! ## numeric columns through a commit, R2 (`mainPass`) to R5 (`commit`): the `.num k` instances of `Lemmas/StoreCol` -/

theorem _root_.ColumnVerif.Codec.Buf.Inv.chunkOK {b : Buf} (h : b.Inv) : ChunkOK b := h.chunk_ok

theorem numKind_appends_nothing {c : Col} {k : NumKind} (hk : c.kind = .num k) : c.kind ≠ .str ∧ c.kind ≠ .record := by
  rw [hk]; exact ⟨Kind.noConfusion, Kind.noConfusion⟩

/-! ### R5 — `commitChunk` and `commit` -/

/-- one dirty chunk: markers first, then the column buffers — the numeric column `x`, the registry and the buffers -/
theorem commitChunk_read (s : Store) (chunk : Nat) (ups : List Buf) (x : String) (k : NumKind) (col : Col)
    (hxr : x ≠ rowColumn) (hf : s.findCol x = some col) (hk : col.kind = .num k) (hch : chunk < col.nchunks)
    (hcomp : ∀ v ∈ ups, ∀ c, s.findCol v.column = some c → x ∉ c.computed)
    (hinm : InBounds col (markerOps ups chunk))
    (hin : ∀ v ∈ ups, v.column = x → InBounds col (v.rangeOps chunk)) :
    RegSim s (s.commitChunk chunk (ups.find? isMarkerBuf).isSome ups).1 ∧
    (∃ col', (s.commitChunk chunk (ups.find? isMarkerBuf).isSome ups).1.findCol x = some col' ∧ SameShape col col' ∧
      ∀ i, slot col' i =
        ((markerOps ups chunk ++ opsFor ups x chunk).filter (fun o => o.idx = i)).foldl
          (slotEffect col.merge k.width) (slot col i)) ∧
    Rel2 (BufRel x [chunk]) ups (s.commitChunk chunk (ups.find? isMarkerBuf).isSome ups).2 := by
  obtain ⟨f, hreg, hrel, _⟩ := commitChunk_ok_full s chunk (ups.find? isMarkerBuf).isSome ups x col hxr hf
    (by rw [hk]; rfl) hcomp (BufsOK_of_noAppend s.hash x chunk ups _ (applyData_appended_nil_of_kind _ _ _ _
      (by rw [(applyData_sameShape _ _ _ _).kind]; exact numKind_appends_nothing hk)))
  rw [markerOpsCr_isSome] at f
  refine ⟨hreg, ⟨_, f, applyData_sameShape _ _ _ _, fun i => slotLaw_num s.hash k col.merge col chunk _ i hk rfl hch ?_⟩,
    hrel.toBufRel⟩
  intro o ho
  exact (List.mem_append.1 ho).elim (hinm o) (opsFor_forall ups x chunk (fun o => o.idx < col.bits.size ∧ o.idx < col.data.size) hin o)

theorem grow_num (c : Col) (k : NumKind) (hk : c.kind = .num k) (hw : ColWF c) (idx : Nat) :
    ColWF (c.grow idx) ∧ c.nchunks ≤ (c.grow idx).nchunks ∧ idx / 16384 < (c.grow idx).nchunks ∧
    ∀ i, slot (c.grow idx) i = slot c i := by
  obtain ⟨_, _, g3, g4, g5, g6, _⟩ := grow_data c (by rw [hk]; rfl) idx
  exact ⟨g6 hw, g3, g4, g5⟩

theorem capStore_num (s : Store) (t : Txn) (x : String) (k : NumKind) (col : Col)
    (hf : s.findCol x = some col) (hk : col.kind = .num k) (hw : ColWF col) (hcov : s.commits.size ≤ col.nchunks) :
    ∃ col1, (capStore s t).findCol x = some col1 ∧ col1.kind = .num k ∧ col1.merge = col.merge ∧ ColWF col1 ∧
      (∀ c ∈ t.dirtyChunks, c < col1.nchunks) ∧ ∀ i, slot col1 i = slot col i := by
  obtain ⟨_, m2, _, m4⟩ := capCol_meta s t col
  obtain ⟨_, _, _, d4, d5, d6⟩ := capCol_data s t col (by rw [hk]; rfl)
  exact ⟨capCol s t col, by rw [capStore_findCol_eq, hf]; rfl, m2.trans hk, m4, d5 hw, d6 hcov, d4⟩

/-- **R5 (`commit_readback`)**: after `s.commit t`, every slot of the numeric column `x` is the fold, over the slot's
    previous content, of the transaction's markers addressed to that offset (a `Delete` clears the presence bit, an
    `Insert` leaves the slot alone) followed by the ops issued for `x` at that offset, in issue order — for any number of
    dirty chunks, any merge function, any other buffers in the transaction -/
theorem commit_readback (s : Store) (t : Txn) (x : String) (k : NumKind) (col : Col)
    (hxr : x ≠ rowColumn) (hf : s.findCol x = some col) (hk : col.kind = .num k) (hw : ColWF col)
    (hcov : s.commits.size ≤ col.nchunks)
    (hcomp : ∀ v ∈ t.updates, ∀ c, s.findCol v.column = some c → x ∉ c.computed)
    (hinv : ∀ v ∈ t.updates, (v.column = x ∨ isMarkerBuf v = true) → ChunkOK v) :
    ∃ col', (s.commit t).findCol x = some col' ∧ col'.kind = .num k ∧ col'.merge = col.merge ∧ ColWF col' ∧
      col.nchunks ≤ col'.nchunks ∧ (∀ c ∈ t.dirtyChunks, c < col'.nchunks) ∧
      ∀ i, slot col' i =
        ((markerAll t.updates ++ allFor t.updates x).filter (fun o => o.idx = i)).foldl
          (slotEffect col.merge k.width) (slot col i) := by
  obtain ⟨col', f, k', m', w', n', d', _, sl⟩ := commit_slot s t x col (slotEffect col.merge k.width) hxr hf
    (by rw [hk]; rfl) hw hcov hcomp
    (NoAppend_of_kind s.hash t.updates x t.dirtyChunks _
      (by rw [(capCol_meta s t col).2.1]; exact numKind_appends_nothing hk))
    (by rw [hk]; exact slotLaw_num s.hash k col.merge) hinv
  exact ⟨col', f, k'.trans hk, m', w', n', d', sl⟩

/-! ## R6 — a chunk's snapshot applied to a fresh column -/

/-- the shape of every op list `Column.Snapshot` / `chunkState` writes: one op per `x < n` with `p x`, ascending -/
def snapList (typ lo n : Nat) (p : Nat → Bool) (g : Nat → Val) : List Op :=
  ((List.range n).filter p).map (fun x => (⟨typ, lo + x, g x⟩ : Op))


theorem snapList_succ (typ lo n : Nat) (p : Nat → Bool) (g : Nat → Val) :
    snapList typ lo (n + 1) p g = snapList typ lo n p g ++ (if p n = true then [⟨typ, lo + n, g n⟩] else []) := by
  unfold snapList
  rw [List.range_succ, List.filter_append, List.map_append]
  by_cases hp : p n = true
  · simp [hp]
  · simp [hp]


/-- at most one op of a snapshot addresses a given offset. Presence and value are given as functions of the offset itself,
    which is how every snapshot is written -/
theorem snapList_filter (typ lo n : Nat) (p : Nat → Bool) (g : Nat → Val) (i : Nat) :
    (snapList typ lo n (fun x => p (lo + x)) (fun x => g (lo + x))).filter (fun o => o.idx = i) =
      if lo ≤ i ∧ i < lo + n ∧ p i = true then [⟨typ, i, g i⟩] else [] := by
  induction n with
  | zero => rw [if_neg (by omega)]; rfl
  | succ n ih =>
    rw [snapList_succ, List.filter_append, ih]
    by_cases e : lo + n = i
    · subst e
      rw [if_neg (by omega), List.nil_append]
      by_cases hp : p (lo + n) = true
      · rw [if_pos hp, if_pos ⟨by omega, by omega, hp⟩]; simp
      · rw [if_neg hp, if_neg (fun h => hp h.2.2)]; rfl
    · have hlast : (if p (lo + n) = true then [(⟨typ, lo + n, g (lo + n)⟩ : Op)] else []).filter (fun o => o.idx = i) = [] := by
        split
        · simp [e]
        · rfl
      rw [hlast, List.append_nil]
      have hc : (lo ≤ i ∧ i < lo + n ∧ p i = true) ↔ (lo ≤ i ∧ i < lo + (n + 1) ∧ p i = true) :=
        ⟨fun h => ⟨h.1, by omega, h.2.2⟩, fun h => ⟨h.1, by omega, h.2.2⟩⟩
      simp only [hc]

theorem snapList_idx (typ lo n : Nat) (p : Nat → Bool) (g : Nat → Val) :
    ∀ o ∈ snapList typ lo n p g, lo ≤ o.idx ∧ o.idx < lo + n := by
  intro o ho
  unfold snapList at ho
  obtain ⟨x, hx, rfl⟩ := List.mem_map.1 ho
  have := (List.mem_filter.1 hx).1
  simp only [List.mem_range] at this
  simp only
  omega


theorem chunk_cond (ch i : Nat) : (16384 * ch ≤ i ∧ i < 16384 * ch + 16384) ↔ i / 16384 = ch := by omega


theorem snapList_filter_chunk (typ ch : Nat) (p : Nat → Bool) (g : Nat → Val) (i : Nat) :
    (snapList typ (16384 * ch) 16384 (fun x => p (16384 * ch + x)) (fun x => g (16384 * ch + x))).filter (fun o => o.idx = i) =
      if i / 16384 = ch ∧ p i = true then [⟨typ, i, g i⟩] else [] := by
  rw [snapList_filter]
  have hc : (16384 * ch ≤ i ∧ i < 16384 * ch + 16384 ∧ p i = true) ↔ (i / 16384 = ch ∧ p i = true) :=
    ⟨fun h => ⟨by omega, h.2.2⟩, fun h => ⟨by omega, by omega, h.2⟩⟩
  simp only [hc]

theorem snapList_chunk (typ ch : Nat) (p : Nat → Bool) (g : Nat → Val) :
    ∀ o ∈ snapList typ (16384 * ch) 16384 p g, chunkOf o.idx = ch := by
  intro o ho
  have := snapList_idx typ (16384 * ch) 16384 p g o ho
  unfold chunkOf chunkSize
  omega

/-! ### data columns whose `Put` stores the raw value: numeric, string, record, key -/

theorem effOf_put_raw (hash : Bytes → Nat) {k : Kind} (hk : k.storesRaw = true) (m : Bytes → Bytes → Bytes)
    (st : Bool × Bytes) {o : Op} (h : o.typ = opPut) : effOf hash k m st o = (true, valRaw o.val) := by
  cases k <;> first | exact slotEffect_put h | exact if_pos h | cases hk

theorem read_raw (c : Col) (hkd : c.kind.storesRaw = true) (i : Nat) :
    c.read i = if i / 16384 < c.nchunks ∧ (slot c i).1 = true then some (slot c i).2 else none :=
  read_slot c i (Kind.storesRaw_data hkd).1 (Kind.storesRaw_data hkd).2

/-- the value a snapshot writes for a present offset -/
def snapVal (c : Col) (i : Nat) : Val :=
  match c.kind with
  | .num k => .fixed k.code (padTo k.width (c.data.getD i []))
  | _ => .str (c.data.getD i [])


theorem snapshotOps_raw (c : Col) (hkd : c.kind.storesRaw = true) (ch : Nat) (hch : ch < c.nchunks) :
    c.snapshotOps ch =
      (snapList opPut (16384 * ch) 16384 (fun x => Bits.get c.bits (16384 * ch + x)) (fun x => snapVal c (16384 * ch + x)),
       false) := by
  unfold Col.snapshotOps snapList snapVal
  cases hk : c.kind <;> rw [hk] at hkd <;> simp only [Kind.storesRaw, Bool.false_eq_true] at hkd <;>
    simp only [if_neg (show ¬ ch ≥ c.nchunks by omega)]


/-- R6 (slots): the snapshot of chunk `ch` of `c`, applied to any column `c0` of the same (raw-storing) kind that has
    the chunk allocated: the present offsets of the chunk get the snapshotted value, every other slot is left alone -/
theorem snapshot_apply_slot (hash : Bytes → Nat) (c c0 : Col) (hkd : c.kind.storesRaw = true) (hk0 : c0.kind = c.kind)
    (ch : Nat) (hch : ch < c.nchunks) (hch0 : ch < c0.nchunks) (hw0 : ColWF c0) (i : Nat) :
    slot (applyData hash c0 ch (c.snapshotOps ch).1).col i =
      if i / 16384 = ch ∧ Bits.get c.bits i = true then (true, valRaw (snapVal c i)) else slot c0 i := by
  rw [snapshotOps_raw c hkd ch hch, applyData_slot hash c0 ch _ i hch0
      (inBounds_of_chunk c0 ch _ hw0 hch0 (snapList_chunk _ _ _ _)),
    snapList_filter_chunk opPut ch (fun j => Bits.get c.bits j) (fun j => snapVal c j) i]
  split
  · exact effOf_put_raw hash (hk0 ▸ hkd) _ _ rfl
  · rfl

theorem snapshot_apply_meta (hash : Bytes → Nat) (c c0 : Col) (hkd : c.kind.storesRaw = true) (_hk0 : c0.kind = c.kind)
    (ch : Nat) (hch : ch < c.nchunks) (hch0 : ch < c0.nchunks) :
    (applyData hash c0 ch (c.snapshotOps ch).1).col.kind = c0.kind ∧
    (applyData hash c0 ch (c.snapshotOps ch).1).col.nchunks = c0.nchunks ∧
    (applyData hash c0 ch (c.snapshotOps ch).1).col.name = c0.name ∧
    (applyData hash c0 ch (c.snapshotOps ch).1).panic = false ∧
    (c.snapshotOps ch).2 = false := by
  have hs := applyData_sameShape hash c0 ch (c.snapshotOps ch).1
  refine ⟨hs.kind, hs.nchunks, hs.name, ?_, by rw [snapshotOps_raw c hkd ch hch]⟩
  rw [applyData_panic]
  simp only [decide_eq_false_iff_not]
  omega

/-- R6 (reads), any raw-storing kind: a reader of the restored column finds, for every offset of the chunk, the value the
    snapshot wrote for it when the row is present in `c`, and nothing otherwise — provided the chunk of `c0` was empty -/
theorem snapshot_apply_read_raw (hash : Bytes → Nat) (c c0 : Col) (hkd : c.kind.storesRaw = true) (hk0 : c0.kind = c.kind)
    (ch : Nat) (hch : ch < c.nchunks) (hch0 : ch < c0.nchunks) (hw0 : ColWF c0)
    (hfresh : ∀ i, i / 16384 = ch → Bits.get c0.bits i = false) (i : Nat) (hi : i / 16384 = ch) :
    (applyData hash c0 ch (c.snapshotOps ch).1).col.read i =
      if Bits.get c.bits i = true then some (valRaw (snapVal c i)) else none := by
  obtain ⟨m1, m2, _⟩ := snapshot_apply_meta hash c c0 hkd hk0 ch hch hch0
  rw [read_raw _ (by rw [m1, hk0]; exact hkd) i, m2, snapshot_apply_slot hash c c0 hkd hk0 ch hch hch0 hw0 i]
  by_cases hb : Bits.get c.bits i = true
  · have hc : i / 16384 = ch ∧ Bits.get c.bits i = true := ⟨hi, hb⟩
    simp only [if_pos hc]
    rw [if_pos hb, if_pos ⟨by omega, trivial⟩]
  · have hc : ¬ (i / 16384 = ch ∧ Bits.get c.bits i = true) := fun h => hb h.2
    simp only [if_neg hc]
    have hf : ¬ (i / 16384 < c0.nchunks ∧ (slot c0 i).1 = true) := by
      intro h
      have := hfresh i hi
      unfold slot at h
      simp only at h
      rw [this] at h
      exact absurd h.2 (by decide)
    rw [if_neg hb, if_neg hf]


theorem snapVal_num (c : Col) (k : NumKind) (hk : c.kind = .num k) (i : Nat) :
    valRaw (snapVal c i) = padTo k.width (c.data.getD i []) := by
  unfold snapVal; rw [hk]; rfl


theorem snapVal_str (c : Col) (hk : c.kind = .str ∨ c.kind = .record ∨ c.kind = .key) (i : Nat) :
    valRaw (snapVal c i) = c.data.getD i [] := by
  unfold snapVal
  rcases hk with hk | hk | hk <;> rw [hk] <;> rfl


theorem read_data (c : Col) (hkd : c.kind.storesRaw = true) (i : Nat) :
    c.read i = if i / 16384 < c.nchunks ∧ Bits.get c.bits i = true then some (c.data.getD i []) else none := by
  rw [read_raw c hkd i, getD_eq]; rfl

theorem read_data_of_lt (c : Col) (hkd : c.kind.storesRaw = true) (i : Nat) (hi : i / 16384 < c.nchunks) :
    c.read i = if Bits.get c.bits i = true then some (c.data.getD i []) else none := by
  have e : (i / 16384 < c.nchunks ∧ Bits.get c.bits i = true) ↔ Bits.get c.bits i = true :=
    ⟨fun h => h.2, fun h => ⟨hi, h⟩⟩
  rw [read_data c hkd i]
  simp only [e]

/-! ### bool columns (`applyOther`) -/

/-- effect of one op on the bit of its own offset in a bool column / in the fill list -/
def flagEffect (setTyp : Nat) (b : Bool) (o : Op) : Bool :=
  if o.typ = setTyp then true else if o.typ = opDelete then false else b


theorem boolStep_get (acc : Col × Bool) (o : Op) (hb : o.idx < acc.1.bits.size) (j : Nat) :
    Bits.get (boolStep acc o).1.bits j =
      if j = o.idx then flagEffect opPut (Bits.get acc.1.bits j) o else Bits.get acc.1.bits j := by
  unfold boolStep flagEffect
  by_cases h1 : o.typ = opPut
  · rw [if_pos h1, if_pos hb, if_pos h1]
    exact get_setIfInBounds _ _ _ _ hb
  · rw [if_neg h1, if_neg h1]
    by_cases h3 : o.typ = opDelete
    · rw [if_pos h3, if_pos hb, if_pos h3]
      exact get_setIfInBounds _ _ _ _ hb
    · rw [if_neg h3, if_neg h3]
      exact (ite_self _).symm

theorem boolStep_panic (acc : Col × Bool) (o : Op) (hb : o.idx < acc.1.bits.size) : (boolStep acc o).2 = acc.2 := by
  unfold boolStep
  simp only [if_pos hb]
  split
  · rfl
  · split <;> rfl

theorem foldBool_get (ops : List Op) (acc : Col × Bool) (hin : ∀ o ∈ ops, o.idx < acc.1.bits.size) (j : Nat) :
    Bits.get (ops.foldl boolStep acc).1.bits j =
      (ops.filter (fun o => o.idx = j)).foldl (flagEffect opPut) (Bits.get acc.1.bits j) :=
  foldl_pointwise boolStep (fun a j => Bits.get a.1.bits j) (flagEffect opPut) (fun a o => o.idx < a.1.bits.size)
    (fun a o o' _ h' => by rw [boolStep_size]; exact h') (fun a o i h => boolStep_get a o h i) ops acc j hin

theorem foldBool_panic (ops : List Op) (acc : Col × Bool) (hin : ∀ o ∈ ops, o.idx < acc.1.bits.size) :
    (ops.foldl boolStep acc).2 = acc.2 := by
  induction ops generalizing acc with
  | nil => rfl
  | cons o os ih =>
    rw [List.foldl_cons, ih _ (fun x hx => by rw [boolStep_size]; exact hin x (by simp [hx])),
      boolStep_panic acc o (hin o (by simp))]

theorem snapshotOps_bool (c : Col) (hk : c.kind = .bool) (ch : Nat) :
    c.snapshotOps ch =
      (snapList opPut (16384 * ch) 16384 (fun x => Bits.get c.bits (16384 * ch + x)) (fun _ => .fixed 0 []), false) := by
  unfold Col.snapshotOps snapList
  rw [hk]


/-- R6 (bool): the snapshot of chunk `ch` of a bool column applied to a bool column that covers the chunk -/
theorem snapshot_apply_bool (c c0 : Col) (hk : c.kind = .bool) (hk0 : c0.kind = .bool) (ch : Nat)
    (hsz : 16384 * (ch + 1) ≤ c0.bits.size) (j : Nat) :
    Bits.get (applyOther c0 (c.snapshotOps ch).1).1.bits j =
      (if j / 16384 = ch ∧ Bits.get c.bits j = true then true else Bits.get c0.bits j) ∧
    (applyOther c0 (c.snapshotOps ch).1).2 = false ∧ (c.snapshotOps ch).2 = false ∧
    (applyOther c0 (c.snapshotOps ch).1).1.kind = .bool := by
  have hin : ∀ o ∈ snapList opPut (16384 * ch) 16384 (fun x => Bits.get c.bits (16384 * ch + x)) (fun _ => .fixed 0 []),
      o.idx < (c0, false).1.bits.size := by
    intro o ho
    have := snapList_idx _ _ _ _ _ o ho
    simp only
    omega
  refine ⟨?_, ?_, by rw [snapshotOps_bool c hk ch], (applyOther_sig c0 _).kind.trans hk0⟩
  · rw [snapshotOps_bool c hk ch, applyOther_bool c0 hk0, foldBool_get _ _ hin j,
      snapList_filter_chunk opPut ch (fun j => Bits.get c.bits j) (fun _ => .fixed 0 []) j]
    split
    · simp [flagEffect]
    · rfl
  · rw [snapshotOps_bool c hk ch, applyOther_bool c0 hk0, foldBool_panic _ _ hin]

theorem read_bool (c : Col) (hk : c.kind = .bool) (i : Nat) :
    c.read i = if Bits.get c.bits i = true then some [1] else none := by
  unfold Col.read; rw [hk]


/-! ### the `row` buffer of a chunk and the fill list -/

theorem fillStep_get (f : Bitmap) (o : Op) (j : Nat) :
    Bits.get (fillStep f o) j = if j = o.idx then flagEffect opInsert (Bits.get f j) o else Bits.get f j := by
  unfold fillStep flagEffect
  by_cases h1 : o.typ = opInsert
  · rw [if_pos h1, if_pos h1, get_set]
    by_cases e : j = o.idx <;> simp [e]
  · rw [if_neg h1, if_neg h1]
    by_cases h3 : o.typ = opDelete
    · rw [if_pos h3, if_pos h3, get_remove]
      by_cases e : j = o.idx <;> simp [e]
    · rw [if_neg h3, if_neg h3]
      split <;> rfl


/-- R4 (fill): after the markers, fill bit `j` is the fold of the markers addressed to `j` (`Insert` sets, `Delete` clears) -/
theorem foldFill_get (ops : List Op) (f : Bitmap) (j : Nat) :
    Bits.get (ops.foldl fillStep f) j = (ops.filter (fun o => o.idx = j)).foldl (flagEffect opInsert) (Bits.get f j) :=
  foldl_pointwise fillStep Bits.get (flagEffect opInsert) (fun _ _ => True) (fun _ _ _ _ _ => trivial)
    (fun f o i _ => fillStep_get f o i) ops f j (fun _ _ => trivial)

theorem setCol_rest (s : Store) (c : Col) :
    (s.setCol c).hash = s.hash ∧ (s.setCol c).fill = s.fill ∧ (s.setCol c).commits = s.commits ∧
    (s.setCol c).panicked = s.panicked := by
  rw [setCol_eq]
  exact ⟨rfl, rfl, rfl, rfl⟩

/-! ### buffers written by `putAll` from ops of a single chunk (snapshot buffers) -/

theorem putAll_one_chunk (ops : List Op) (c v : Nat) :
    ∀ (b : Buf) (r : List Op), b.cur = some c → b.rsecs = [⟨c, v, r⟩] → (∀ o ∈ ops, chunkOf o.idx = c) →
      (b.putAll ops).rsecs = [⟨c, v, ops.reverse ++ r⟩] ∧ (b.putAll ops).cur = some c := by
  induction ops with
  | nil => intro b r hb hr _; exact ⟨by simpa [Buf.putAll] using hr, hb⟩
  | cons o os ih =>
    intro b r hb hr ho
    have hoc : chunkOf o.idx = c := ho o (by simp)
    rw [Buf.putAll_cons]
    have hput := Buf.put_eq_same b o ⟨c, v, r⟩ [] hr (by rw [hb, hoc])
    obtain ⟨i1, i2⟩ := ih (b.put o) (o :: r) (by rw [hput]; exact hb) (by rw [hput]) (fun x hx => ho x (by simp [hx]))
    exact ⟨by rw [i1]; simp, i2⟩

theorem putAll_empty_one_chunk (name : String) (ops : List Op) (c : Nat) (ho : ∀ o ∈ ops, chunkOf o.idx = c) :
    ((Buf.empty name).putAll ops).rsecs = (if ops = [] then [] else [⟨c, 0, ops.reverse⟩]) ∧
    ((Buf.empty name).putAll ops).column = name := by
  refine ⟨?_, putAll_column _ _⟩
  cases ops with
  | nil => rfl
  | cons o os =>
    rw [if_neg (by simp), Buf.putAll_cons]
    have hoc : chunkOf o.idx = c := ho o (by simp)
    have hput := Buf.put_eq_new (Buf.empty name) o (by simp [Buf.empty])
    rw [hoc] at hput
    have := (putAll_one_chunk os c 0 ((Buf.empty name).put o) [o] (by rw [hput]) (by rw [hput]; rfl)
      (fun x hx => ho x (by simp [hx]))).1
    rw [this]; simp

theorem putAll_empty_rangeOps (name : String) (ops : List Op) (c : Nat) (ho : ∀ o ∈ ops, chunkOf o.idx = c) :
    ((Buf.empty name).putAll ops).rangeOps c = ops ∧ ((Buf.empty name).putAll ops).allOps = ops ∧
    ((Buf.empty name).putAll ops).chunks = (if ops = [] then [] else [c]) ∧
    ((Buf.empty name).putAll ops).isEmpty = ops.isEmpty ∧
    (∀ c2, c2 ≠ c → ((Buf.empty name).putAll ops).rangeOps c2 = []) := by
  obtain ⟨h1, _⟩ := putAll_empty_one_chunk name ops c ho
  unfold Buf.rangeOps Buf.range Buf.allOps Buf.chunks Buf.isEmpty Buf.secs
  rw [h1]
  by_cases he : ops = []
  · subst he; simp
  · simp only [if_neg he]
    refine ⟨by simp [Sec.ops], by simp [Sec.ops], by simp, ?_, ?_⟩
    · cases ops with
      | nil => exact absurd rfl he
      | cons o os => simp
    · intro c2 hc2
      have : ¬ c = c2 := fun e => hc2 e.symm
      simp [this]

/-- the `row` buffer `writeState` emits for a chunk: one `Insert` per occupied offset, ascending -/
def rowMarkers (s : Store) (ch : Nat) : List Op :=
  snapList opInsert (16384 * ch) 16384 (fun x => Bits.get s.fill (16384 * ch + x)) (fun _ => .fixed 0 [])

def rowBufOf (s : Store) (ch : Nat) : Buf := (Buf.empty rowColumn).putAll (rowMarkers s ch)

/-- the per-column buffers `writeState` emits for a chunk, in registry order (bitmap indexes skipped) -/
def colBufsOf (s : Store) (ch : Nat) : List Buf :=
  (s.cols.toList.filter (fun c => !c.kind.isIndex)).map (fun c => (Buf.empty c.name).putAll (c.snapshotOps ch).1)

theorem chunkState_fold (ch : Nat) (l : List Col) (acc : List Buf) (p : Bool) :
    (l.foldl (fun (acc : List Buf × Bool) c =>
      if c.kind.isIndex then acc
      else (acc.1 ++ [(Buf.empty c.name).putAll (c.snapshotOps ch).1], acc.2 || (c.snapshotOps ch).2)) (acc, p)).1 =
    acc ++ (l.filter (fun c => !c.kind.isIndex)).map (fun c => (Buf.empty c.name).putAll (c.snapshotOps ch).1) := by
  induction l generalizing acc p with
  | nil => simp
  | cons c cs ih =>
    simp only [List.foldl_cons]
    by_cases hi : c.kind.isIndex = true
    · rw [if_pos hi, ih]
      simp [hi]
    · rw [if_neg hi, ih]
      simp [hi]

theorem chunkState_buffers (s : Store) (ch : Nat) :
    (s.chunkState ch).1.buffers = rowBufOf s ch :: colBufsOf s ch := by
  have e : (s.chunkState ch).1.buffers = rowBufOf s ch ::
      (s.cols.foldl (fun (acc : List Buf × Bool) c =>
        if c.kind.isIndex then acc
        else (acc.1 ++ [(Buf.empty c.name).putAll (c.snapshotOps ch).1], acc.2 || (c.snapshotOps ch).2)) ([], false)).1 := rfl
  rw [e, ← Array.foldl_toList, chunkState_fold]
  rfl

/-- R6 (`snapshot_markers_roundtrip`, first half): the `row` buffer of a chunk's snapshot holds exactly one `Insert` per
    set fill bit of the chunk, all in one section of that chunk -/
theorem rowBuf_ops (s : Store) (ch : Nat) :
    (rowBufOf s ch).rangeOps ch = rowMarkers s ch ∧ (rowBufOf s ch).allOps = rowMarkers s ch ∧
    (rowBufOf s ch).column = rowColumn ∧ (∀ c2, c2 ≠ ch → (rowBufOf s ch).rangeOps c2 = []) := by
  obtain ⟨h1, h2, _, _, h5⟩ := putAll_empty_rangeOps rowColumn (rowMarkers s ch) ch (snapList_chunk _ _ _ _)
  exact ⟨h1, h2, putAll_column _ _, h5⟩

theorem rowMarkers_filter (s : Store) (ch i : Nat) :
    (rowMarkers s ch).filter (fun o => o.idx = i) =
      if i / 16384 = ch ∧ Bits.get s.fill i = true then [⟨opInsert, i, .fixed 0 []⟩] else [] :=
  snapList_filter_chunk opInsert ch (fun j => Bits.get s.fill j) (fun _ => .fixed 0 []) i

/-- a bit set where the source has it set, on an offset (`p`) whose bit was clear before: the source's bit -/
theorem ite_bit (p : Prop) [Decidable p] (b f : Bool) (hp : p) (hf : f = false) :
    (if p ∧ b = true then true else f) = b := by
  subst hf
  cases b <;> simp [hp]

theorem rowMarkers_flag (s : Store) (ch j : Nat) (b : Bool) :
    ((rowMarkers s ch).filter (fun o => o.idx = j)).foldl (flagEffect opInsert) b =
      if j / 16384 = ch ∧ Bits.get s.fill j = true then true else b := by
  rw [rowMarkers_filter]
  split
  · simp [flagEffect]
  · rfl

/-- the `row` markers of a snapshot are `Insert`s: no slot of a data column changes -/
theorem rowMarkers_slot (s : Store) (ch i : Nat) (m : Bytes → Bytes → Bytes) (w : Nat) (st : Bool × Bytes) :
    ((rowMarkers s ch).filter (fun o => o.idx = i)).foldl (slotEffect m w) st = st := by
  rw [rowMarkers_filter]
  split
  · have h : ∀ t : Nat, opInsert ≠ t → (⟨opInsert, i, .fixed 0 []⟩ : Op).typ ≠ t := fun _ h => h
    rw [List.foldl_cons, List.foldl_nil]
    exact slotEffect_other (h _ (by decide)) (h _ (by decide)) (h _ (by decide))
  · rfl

/-- R6 (`snapshot_markers_roundtrip`, second half): applying the markers of the chunk's `row` buffer to a fill list sets
    exactly the bits of the chunk that are set in the source; with no bit of the chunk set before, the chunk's bits are
    reproduced; the bits of the other chunks are left alone -/
theorem rowMarkers_fill (s : Store) (ch : Nat) (f0 : Bitmap) (j : Nat) :
    Bits.get ((rowMarkers s ch).foldl fillStep f0) j =
      if j / 16384 = ch ∧ Bits.get s.fill j = true then true else Bits.get f0 j := by
  rw [foldFill_get, rowMarkers_flag]

/-! ### buffer names are pairwise distinct (`bufferFor`) -/

theorem bufferFor_distinct (t : Txn) (name : String) (h : BufsDistinct t.updates) :
    BufsDistinct (t.bufferFor name).updates := by
  unfold Txn.bufferFor
  split
  · exact h
  · rename_i hany
    unfold BufsDistinct at *
    simp only [List.map_append, List.map_cons, List.map_nil]
    rw [List.nodup_append]
    refine ⟨h, by simp, ?_⟩
    intro a ha b hb
    simp only [List.mem_singleton] at hb
    subst hb
    intro e
    subst e
    apply hany
    obtain ⟨u, hu, hun⟩ := List.mem_map.1 ha
    exact List.any_eq_true.2 ⟨u, hu, by simpa [Buf.empty] using hun⟩

theorem putOp_columns (t : Txn) (name : String) (o : Op) :
    (t.putOp name o).updates.map (·.column) = (t.bufferFor name).updates.map (·.column) := by
  unfold Txn.putOp
  simp only [List.map_map]
  apply List.map_congr_left
  intro b _
  simp only [Function.comp_apply]
  split
  · exact Buf.column_put b o
  · rfl

theorem putOp_distinct (t : Txn) (name : String) (o : Op) (h : BufsDistinct t.updates) :
    BufsDistinct (t.putOp name o).updates := by
  unfold BufsDistinct
  rw [putOp_columns]
  exact bufferFor_distinct t name h

theorem allFor_none (ups : List Buf) (x : String) (h : ∀ v ∈ ups, v.column ≠ x) : allFor ups x = [] := by
  induction ups with
  | nil => rfl
  | cons u us ih =>
    rw [allFor_cons_other u us x (h u (by simp))]
    exact ih (fun v hv => h v (by simp [hv]))

theorem allFor_of_distinct (ups : List Buf) (h : BufsDistinct ups) (u : Buf) (hu : u ∈ ups) :
    allFor ups u.column = u.allOps := by
  induction ups with
  | nil => cases hu
  | cons v vs ih =>
    unfold BufsDistinct at h
    simp only [List.map_cons, List.nodup_cons] at h
    rcases List.mem_cons.1 hu with rfl | hu
    · rw [allFor_cons_self u vs u.column rfl, allFor_none vs u.column, List.append_nil]
      intro w hw e
      exact h.1 (List.mem_map.2 ⟨w, hw, e⟩)
    · have hne : v.column ≠ u.column := by
        intro e
        exact h.1 (List.mem_map.2 ⟨u, hu, e.symm⟩)
      rw [allFor_cons_other v vs u.column hne]
      exact ih h.2 hu

theorem isEmpty_allOps (u : Buf) (h : u.isEmpty = true) : u.allOps = [] := by
  unfold Buf.allOps
  rw [List.flatten_eq_nil_iff]
  intro l hl
  obtain ⟨sec, hsec, rfl⟩ := List.mem_map.1 hl
  have hmem : sec ∈ u.rsecs := by simpa [Buf.secs] using hsec
  unfold Buf.isEmpty at h
  have := List.all_eq_true.1 h sec hmem
  unfold Sec.ops
  have h2 : sec.rops = [] := by simpa using this
  rw [h2]; rfl

theorem markerAll_of_distinct (ups : List Buf) (h : BufsDistinct ups) : markerAll ups = allFor ups rowColumn := by
  induction ups with
  | nil => rfl
  | cons v vs ih =>
    unfold BufsDistinct at h
    simp only [List.map_cons, List.nodup_cons] at h
    by_cases hr : v.column = rowColumn
    · have hnone : ∀ w ∈ vs, w.column ≠ rowColumn := by
        intro w hw e
        exact h.1 (List.mem_map.2 ⟨w, hw, e.trans hr.symm⟩)
      rw [allFor_cons_self v vs rowColumn hr, allFor_none vs rowColumn hnone, List.append_nil]
      unfold markerAll
      by_cases he : v.isEmpty = true
      · have hm : isMarkerBuf v = false := by unfold isMarkerBuf; simp [he]
        rw [List.find?_cons, hm, isEmpty_allOps v he]
        have : vs.find? isMarkerBuf = none := by
          rw [List.find?_eq_none]
          intro w hw
          unfold isMarkerBuf
          have : (w.column == rowColumn) = false := by simpa using hnone w hw
          simp [this]
        rw [this]
      · have hm : isMarkerBuf v = true := by unfold isMarkerBuf; simp [he, hr]
        rw [List.find?_cons, hm]
    · have hm : isMarkerBuf v = false := by
        unfold isMarkerBuf
        have : (v.column == rowColumn) = false := by simpa using hr
        simp [this]
      rw [allFor_cons_other v vs rowColumn hr, ← ih h.2]
      unfold markerAll
      rw [List.find?_cons, hm]

/-! ## the panic flag: `Covered` stores never panic during a commit -/

/-- a column has what the passes of `chunk` index into: data columns the chunk, bool columns the chunk's bits -/
def ColCovers (chunk : Nat) (c : Col) : Prop :=
  (c.kind.isData = true → chunk < c.nchunks) ∧ (c.kind = .bool → 16384 * (chunk + 1) ≤ c.bits.size)

/-- `commitCapacity` + the `CreateColumn` repair: every registry column covers `chunk` -/
def Covered (s : Store) (chunk : Nat) : Prop := ∀ c ∈ s.cols, ColCovers chunk c

theorem ColKeeps.covers {c c' : Col} (h : ColKeeps c c') (chunk : Nat) (hc : ColCovers chunk c) : ColCovers chunk c' := by
  refine ⟨?_, ?_⟩
  · intro hd
    rw [h.sig.nchunks]
    exact hc.1 (by rw [← h.sig.kind]; exact hd)
  · intro hk
    have hk' : c.kind = .bool := h.sig.kind.symm.trans hk
    rw [h.bsize hk']
    exact hc.2 hk'

/-- only a bool column can panic outside a data pass (an offset beyond its bitmap) -/
theorem applyOther_panic_of_ne_bool (c : Col) (ops : List Op) (h : c.kind ≠ .bool) : (applyOther c ops).2 = false := by
  unfold applyOther
  split <;> first | rfl | contradiction

theorem applyAny_no_panic (hash : Bytes → Nat) (c : Col) (chunk : Nat) (ops : List Op) (hc : ColCovers chunk c)
    (hops : ∀ o ∈ ops, chunkOf o.idx = chunk) : (c.applyAny hash chunk ops).2 = false := by
  unfold Col.applyAny
  by_cases hd : c.kind.isData = true
  · rw [if_pos hd]
    simp only
    rw [applyData_panic]
    have := hc.1 hd
    simp only [decide_eq_false_iff_not]
    omega
  · rw [if_neg hd]
    by_cases hk : c.kind = .bool
    · rw [applyOther_bool c hk]
      refine foldBool_panic ops (c, false) (fun o ho => ?_)
      have hsz := hc.2 hk
      have := hops o ho
      unfold chunkOf chunkSize at this
      simp only
      omega
    · exact applyOther_panic_of_ne_bool c ops hk

theorem applyAny_computed_no_panic (hash : Bytes → Nat) (c : Col) (chunk : Nat) (ops : List Op)
    (hk : c.kind.isComputed = true) : (c.applyAny hash chunk ops).2 = false := by
  unfold Col.applyAny
  rw [if_neg (by cases hkk : c.kind <;> rw [hkk] at hk <;> first | exact Bool.false_ne_true | cases hk)]
  exact applyOther_panic_of_ne_bool c ops (fun e => by rw [e] at hk; cases hk)

theorem markPanic_false (hash : Bytes → Nat) (chunk : Nat) (secs : List (List Op)) (cols : Array Col)
    (hc : ∀ c ∈ cols, ColCovers chunk c) (hops : ∀ ops ∈ secs, ∀ o ∈ ops, chunkOf o.idx = chunk) :
    markPanic hash chunk secs cols = false := by
  induction secs generalizing cols with
  | nil => rfl
  | cons ops rest ih =>
    unfold markPanic
    have h1 : cols.any (fun c => (c.applyAny hash chunk ops).2) = false := by
      rw [Array.any_eq_false]
      intro i hi
      rw [applyAny_no_panic hash cols[i] chunk ops (hc _ (by simp)) (hops ops (by simp))]
      decide
    rw [h1, Bool.false_or]
    apply ih
    · intro c' hc'
      obtain ⟨c, hcm, rfl⟩ := Array.mem_map.1 hc'
      exact (applyAny_keeps hash c chunk ops).covers chunk (hc c hcm)
    · intro ops' ho'
      exact hops ops' (by simp [ho'])

/-- R4 (panic flag): under `Covered`, the markers of a well-formed `row` buffer raise no panic -/
theorem commitMarkers_no_panic (s : Store) (chunk : Nat) (m : Buf) (hcov : Covered s chunk)
    (hm : ∀ o ∈ m.rangeOps chunk, chunkOf o.idx = chunk) : (s.commitMarkers chunk m).panicked = s.panicked := by
  rw [(commitMarkers_cols s chunk m).2, markPanic_false s.hash chunk (m.range chunk) s.cols hcov, Bool.or_false]
  intro ops hops o ho
  exact hm o (List.mem_flatten.2 ⟨ops, hops, ho⟩)

/-! ### the panic flag through the passes -/

theorem covers_stable (cs : List Nat) : Stable (fun col => ∀ c ∈ cs, ColCovers c col) :=
  fun _ _ hk h c hc => hk.covers c (h c hc)


theorem ComputedKinds.of_regSim {s s' : Store} (h : RegSim s s') (hk : ComputedKinds s) : ComputedKinds s' := by
  intro n c hc m hm c' hc'
  obtain ⟨c0, h0, sg⟩ := h.sig_back hc
  obtain ⟨c0', h0', sg'⟩ := h.sig_back hc'
  rw [sg'.kind]
  exact hk n c0 h0 m (by rw [← sg.computed]; exact hm) c0' h0'


theorem applyNamed_panicked (chunk : Nat) (ops : List Op) (s : Store) (n : String)
    (h : ∀ c, s.findCol n = some c → (c.applyAny s.hash chunk ops).2 = false) :
    (applyNamed chunk ops s n).panicked = s.panicked := by
  unfold applyNamed
  cases hf : s.findCol n with
  | none => rfl
  | some c =>
    simp only
    rw [h c hf, Bool.or_false]

theorem computedPass_panicked (s : Store) (names : List String) (chunk : Nat) (u : Buf)
    (h : ∀ n ∈ names, ∀ c, s.findCol n = some c → c.kind.isComputed = true) :
    (computedPass s names chunk u).panicked = s.panicked := by
  rw [computedPass_eq]
  refine (foldl_invariant (fun s' => StorePlumb.Passes s s' ∧ s'.panicked = s.panicked) _ (u.range chunk) s
    ⟨.refl s, rfl⟩ (fun s1 ops _ h1 => ?_)).2
  refine foldl_invariant (fun s' => StorePlumb.Passes s s' ∧ s'.panicked = s.panicked) _ _ s1 h1 (fun s2 n hn h2 => ?_)
  refine ⟨h2.1.trans (StorePlumb.applyNamed_passes chunk ops s2 n), ?_⟩
  rw [applyNamed_panicked chunk ops s2 n, h2.2]
  intro c hc
  obtain ⟨c0, hc0, sg⟩ := h2.1.sim.sig_back hc
  exact applyAny_computed_no_panic _ c chunk ops (by rw [sg.kind]; exact h n hn c0 hc0)

theorem otherMain_panicked (s : Store) (chunk : Nat) (u : Buf) (hcov : AllCols (ColCovers chunk) s)
    (hops : ∀ o ∈ u.rangeOps chunk, chunkOf o.idx = chunk) : (otherMain s chunk u).panicked = s.panicked := by
  unfold otherMain
  refine (foldl_invariant (fun s' => AllCols (ColCovers chunk) s' ∧ s'.panicked = s.panicked) _ (u.range chunk) s
    ⟨hcov, rfl⟩ (fun s1 ops hops1 h1 => ?_)).2
  refine ⟨(StorePlumb.applyNamed_passes chunk ops s1 u.column).cols.allCols (fun c c' hk hc => hk.covers chunk hc) h1.1, ?_⟩
  rw [applyNamed_panicked chunk ops s1 u.column, h1.2]
  intro c hc
  exact applyAny_no_panic _ c chunk ops (h1.1 c (findCol_mem hc))
    (fun o ho => hops o (List.mem_flatten.2 ⟨ops, hops1, ho⟩))

theorem cuStep_panicked (chunk : Nat) (acc : Store × List Buf × Bool) (u : Buf)
    (hcov : AllCols (ColCovers chunk) acc.1) (hck : ComputedKinds acc.1)
    (hnd : ∀ c, acc.1.findCol u.column = some c → c.kind.isData = false → ∀ o ∈ u.rangeOps chunk, chunkOf o.idx = chunk) :
    (cuStep chunk acc u).1.panicked = acc.1.panicked := by
  rcases cuStep_cases chunk acc u with ⟨_, e⟩ | ⟨col, _, hf, ⟨hd, e⟩ | ⟨hd, e⟩⟩ <;> rw [e]
  · have hch : chunk < col.nchunks := (hcov col (findCol_mem hf)).1 hd
    have hp := StorePlumb.setCol_passes hf (mainPass_general acc.1.hash col chunk u).1.keeps
      (acc.1.panicked || (mainPass acc.1.hash col chunk u).2.2)
    rw [computedPass_panicked]
    · show (acc.1.panicked || (mainPass acc.1.hash col chunk u).2.2) = acc.1.panicked
      rw [(StorePlumb.mainPass_inv acc.1.hash col chunk u).2.2.2 hch, Bool.or_false]
    · intro n hn c hc
      obtain ⟨c0, hc0, sg⟩ := hp.sim.sig_back hc
      rw [sg.kind]
      exact hck u.column col hf n hn c0 hc0
  · rw [computedPass_panicked, otherMain_panicked acc.1 chunk u hcov (hnd col hf hd)]
    intro n hn c hc
    obtain ⟨c0, hc0, sg⟩ := (StorePlumb.otherMain_passes acc.1 chunk u).sim.sig_back hc
    rw [sg.kind]
    exact hck u.column col hf n hn c0 hc0

theorem cuFold_panicked (chunk : Nat) (ups : List Buf) :
    ∀ (acc : Store × List Buf × Bool), AllCols (ColCovers chunk) acc.1 → ComputedKinds acc.1 →
      (∀ v ∈ ups, ∀ c, acc.1.findCol v.column = some c → c.kind.isData = false →
        ∀ o ∈ v.rangeOps chunk, chunkOf o.idx = chunk) →
      (ups.foldl (cuStep chunk) acc).1.panicked = acc.1.panicked := by
  induction ups with
  | nil => intro acc _ _ _; rfl
  | cons u us ih =>
    intro acc hcov hck hnd
    have hp := StorePlumb.cuStep_passes chunk acc u
    rw [List.foldl_cons, ih _ (hp.cols.allCols (fun c c' hk hc => hk.covers chunk hc) hcov)
      (ComputedKinds.of_regSim hp.cols.reg hck), cuStep_panicked chunk acc u hcov hck (hnd u (by simp))]
    intro v hv c hc hd o ho
    obtain ⟨c0, hc0, sg⟩ := hp.sim.sig_back hc
    exact hnd v (by simp [hv]) c0 hc0 (by rw [← sg.kind]; exact hd) o ho

theorem markStore_panicked (s : Store) (chunk : Nat) (cr : Bool) (ups : List Buf) (hlt : chunk < s.commits.size)
    (hcov : AllCols (ColCovers chunk) s)
    (hm : ∀ m, ups.find? isMarkerBuf = some m → ∀ o ∈ m.rangeOps chunk, chunkOf o.idx = chunk) :
    (markStore s chunk cr ups).panicked = s.panicked := by
  have hp : (preStore s chunk).panicked = s.panicked := by
    unfold preStore
    simp only
    have : decide (chunk ≥ s.commits.size) = false := by simp only [decide_eq_false_iff_not]; omega
    rw [this, Bool.or_false]
  unfold markStore
  split
  · split
    · rename_i m hfm
      rw [commitMarkers_no_panic (preStore s chunk) chunk m hcov (hm m hfm), hp]
    · exact hp
  · exact hp

theorem markStore_fill (s : Store) (chunk : Nat) (ups : List Buf) :
    (markStore s chunk (ups.find? isMarkerBuf).isSome ups).fill = (markerOps ups chunk).foldl fillStep s.fill := by
  unfold markStore markerOps
  cases hm : ups.find? isMarkerBuf with
  | none => rfl
  | some m =>
    simp only [Option.isSome_some, if_true]
    rw [commitMarkers_fill]
    rfl


theorem commitChunk_panicked (s : Store) (chunk : Nat) (cr : Bool) (ups : List Buf) (hlt : chunk < s.commits.size)
    (hcov : AllCols (ColCovers chunk) s) (hck : ComputedKinds s)
    (hm : ∀ m, ups.find? isMarkerBuf = some m → ∀ o ∈ m.rangeOps chunk, chunkOf o.idx = chunk)
    (hnd : ∀ v ∈ ups, ∀ c, s.findCol v.column = some c → c.kind.isData = false →
      ∀ o ∈ v.rangeOps chunk, chunkOf o.idx = chunk) :
    (s.commitChunk chunk cr ups).1.panicked = s.panicked := by
  rw [commitChunk_def]
  have hc := markStore_colsRel s chunk cr ups
  rw [(finishChunk_fields _ _ _ _).2.2.2.1, commitUpdates_eq, cuFold_panicked chunk ups (markStore s chunk cr ups, [], false)
    (hc.allCols (fun c c' hk hc => hk.covers chunk hc) hcov)
    (ComputedKinds.of_regSim hc.reg hck), markStore_panicked s chunk cr ups hlt hcov hm]
  intro v hv c hc' hd o ho
  obtain ⟨c0, hc0, sg⟩ := hc.reg.sig_back hc'
  exact hnd v hv c0 hc0 (by rw [← sg.kind]; exact hd) o ho

theorem commitLoop_panicked (cr : Bool) (cs : List Nat) :
    ∀ (s : Store) (ups : List Buf), (∀ c ∈ cs, c < s.commits.size) → AllCols (fun col => ∀ c ∈ cs, ColCovers c col) s →
      ComputedKinds s →
      (∀ m, ups.find? isMarkerBuf = some m → ∀ c ∈ cs, ∀ o ∈ m.rangeOps c, chunkOf o.idx = c) →
      (∀ v ∈ ups, ∀ c0, s.findCol v.column = some c0 → c0.kind.isData = false →
        ∀ c ∈ cs, ∀ o ∈ v.rangeOps c, chunkOf o.idx = c) →
      (commitLoop cr cs s ups).1.panicked = s.panicked := by
  induction cs with
  | nil => intro s ups _ _ _ _ _; rfl
  | cons c cs ih =>
    intro s ups hlt hcov hck hm hnd
    have hp := commitChunk_panicked s c cr ups (hlt c (by simp)) (fun col hcol => hcov col hcol c (by simp)) hck
      (fun m hfm => hm m hfm c (by simp)) (fun v hv c0 hc0 hd => hnd v hv c0 hc0 hd c (by simp))
    obtain ⟨hreg, hrel, hsz, hall, _⟩ := commitChunk_gen s c cr ups
    rw [commitLoop_cons, ih _ _ (fun c' hc' => by rw [hsz]; exact hlt c' (by simp [hc']))
      (fun col hcol c' hc' => hall (fun col => ∀ c2 ∈ c :: cs, ColCovers c2 col) (covers_stable (c :: cs)) hcov col hcol c'
        (by simp [hc']))
      (ComputedKinds.of_regSim hreg hck)
      (fun m hfm c' hc' => hm m ((find_marker_of_rel2 (fun _ _ hab => ⟨hab.1, hab.2.1⟩) hrel) ▸ hfm) c' (by simp [hc']))
      ?_, hp]
    intro v' hv' c0 hc0 hd c' hc' o ho
    obtain ⟨v, hv, hb⟩ := hrel.mem_right v' hv'
    rw [hb.1] at hc0
    obtain ⟨c00, hc00, sg⟩ := hreg.sig_back hc0
    have hd0 : c00.kind.isData = false := by rw [← sg.kind]; exact hd
    have : v' = v := hb.2.2 c00 hc00 hd0
    subst this
    exact hnd v' hv c00 hc00 hd0 c' (by simp [hc']) o ho

/-! ### `commit`: panic flag and fill list -/

/-- every committed chunk is covered by every registry column (kept by `commitCapacity` and the `CreateColumn` repair) -/
def CoveredAll (s : Store) : Prop := ∀ chunk, chunk < s.commits.size → Covered s chunk

theorem grow_covers (c : Col) (last chunk : Nat) (h : chunk ≤ last) : ColCovers chunk (c.grow (16384 * last + 16383)) := by
  refine ⟨fun hd => ?_, fun hk => ?_⟩
  · rw [grow_kind] at hd
    have := (grow_data c hd (16384 * last + 16383)).2.2.2.1
    omega
  · rw [grow_kind] at hk
    rcases grow_cases c (16384 * last + 16383) with ⟨hd, _⟩ | ⟨_, b, e, hb⟩
    · rw [hk] at hd; cases hd
    · have := size_grow_gt c.bits (16384 * last + 16383)
      rw [e, hb hk]
      show _ ≤ (Bits.grow c.bits (16384 * last + 16383)).size
      omega

theorem commitCapacity_fields (s : Store) (last : Nat) :
    (s.commitCapacity last).commits.size = max s.commits.size (last + 1) ∧
    (∀ j, Bits.get (s.commitCapacity last).fill j = Bits.get s.fill j) ∧
    (s.commitCapacity last).panicked = s.panicked := by
  rcases commitCapacity_cases s last with ⟨h1, h2⟩ | ⟨h1, _, h3, h4, h5⟩
  · rw [h2]; exact ⟨by omega, fun _ => rfl, rfl⟩
  · rw [h3, h4]; exact ⟨by omega, fun j => get_grow _ _ j, h5⟩

theorem commitCapacity_coveredAll (s : Store) (last : Nat) (hcov : CoveredAll s) : CoveredAll (s.commitCapacity last) := by
  rcases commitCapacity_cases s last with ⟨_, h2⟩ | ⟨_, h2, h3, _, _⟩
  · rw [h2]; exact hcov
  · intro chunk hlt col hcol
    rw [h2] at hcol
    rw [h3] at hlt
    obtain ⟨c0, _, rfl⟩ := Array.mem_map.1 hcol
    exact grow_covers c0 last chunk (by omega)

theorem capStore_ready (s : Store) (t : Txn) (hcov : CoveredAll s) :
    (capStore s t).panicked = s.panicked ∧ (∀ c ∈ t.dirtyChunks, c < (capStore s t).commits.size) ∧
    AllCols (fun col => ∀ c ∈ t.dirtyChunks, ColCovers c col) (capStore s t) ∧
    ∀ j, Bits.get (capStore s t).fill j = Bits.get s.fill j := by
  refine capStore_induct (fun s' => s'.panicked = s.panicked ∧ (∀ c ∈ t.dirtyChunks, c < s'.commits.size) ∧
    AllCols (fun col => ∀ c ∈ t.dirtyChunks, ColCovers c col) s' ∧ ∀ j, Bits.get s'.fill j = Bits.get s.fill j) s t ?_ ?_
  · intro hnil
    rw [hnil]
    refine ⟨rfl, ?_, ?_, fun j => rfl⟩
    · intro c hc; cases hc
    · intro col _ c hc; cases hc
  · intro last hl
    obtain ⟨e1, e2, e3⟩ := commitCapacity_fields s last
    have hlt : ∀ c ∈ t.dirtyChunks, c < (s.commitCapacity last).commits.size := by
      intro c hc
      have := sorted_le_getLast _ (dirtyChunks_sorted t) last hl c hc
      rw [e1]; omega
    exact ⟨e3, hlt, fun col hcol c hc => commitCapacity_coveredAll s last hcov c (hlt c hc) col hcol, e2⟩

theorem capStore_computedKinds (s : Store) (t : Txn) (hck : ComputedKinds s) : ComputedKinds (capStore s t) := by
  intro n c hc m hm c' hc'
  obtain ⟨c0, h0, e1, _⟩ := capStore_back s t n c hc
  obtain ⟨c0', h0', _, e2⟩ := capStore_back s t m c' hc'
  rw [e2]
  exact hck n c0 h0 m (by rw [← e1]; exact hm) c0' h0'

/-- **R5 (panic flag)**: a transaction whose buffers keep every op in a section of its own chunk, committed to a store whose
    columns cover every committed chunk and whose computed columns are indexes / triggers / sorted indexes, raises no
    panic — for any number of buffers, chunks, column kinds -/
theorem commit_no_panic (s : Store) (t : Txn) (hcov : CoveredAll s) (hck : ComputedKinds s)
    (hinv : ∀ v ∈ t.updates, ChunkOK v) : (s.commit t).panicked = s.panicked := by
  rw [commit_eq']
  obtain ⟨r1, r2, r3, _⟩ := capStore_ready s t hcov
  rw [commitLoop_panicked t.markers.isSome t.dirtyChunks (capStore s t) t.updates r2 r3 (capStore_computedKinds s t hck), r1]
  · intro m hm c _ o ho
    exact rangeOps_chunk m (hinv m (List.mem_of_find?_eq_some hm)) c o ho
  · intro v hv _ _ _ c _ o ho
    exact rangeOps_chunk v (hinv v hv) c o ho

/-- the marker buffer is handed from chunk to chunk as it is: so are the markers of every chunk -/
theorem markerOps_commitChunk (s : Store) (c : Nat) (cr : Bool) (ups : List Buf) (c2 : Nat) :
    markerOps (s.commitChunk c cr ups).2 c2 = markerOps ups c2 := by
  have hfm : (s.commitChunk c cr ups).2.find? isMarkerBuf = ups.find? isMarkerBuf := StorePlumb.commitChunk_markers s c cr ups
  unfold markerOps; rw [hfm]

theorem commitLoop_fill (cs : List Nat) :
    ∀ (s : Store) (ups : List Buf) (cr : Bool), cs.Nodup → cr = (ups.find? isMarkerBuf).isSome →
      (∀ c ∈ cs, ∀ o ∈ markerOps ups c, chunkOf o.idx = c) →
      ∀ j, Bits.get (commitLoop cr cs s ups).1.fill j =
        if chunkOf j ∈ cs then
          ((markerOps ups (chunkOf j)).filter (fun o => o.idx = j)).foldl (flagEffect opInsert) (Bits.get s.fill j)
        else Bits.get s.fill j := by
  induction cs with
  | nil => intro s ups cr _ _ _ j; simp [commitLoop]
  | cons c cs ih =>
    intro s ups cr hnd hcr hm j
    have hc_notin : c ∉ cs := (List.nodup_cons.1 hnd).1
    subst hcr
    have hfm : (s.commitChunk c (ups.find? isMarkerBuf).isSome ups).2.find? isMarkerBuf = ups.find? isMarkerBuf :=
      StorePlumb.commitChunk_markers s c _ ups
    rw [commitLoop_cons, ih _ _ _ (List.nodup_cons.1 hnd).2 (congrArg Option.isSome hfm).symm
      (fun c' hc' => by rw [markerOps_commitChunk]; exact hm c' (by simp [hc'])) j, markerOps_commitChunk,
      (commitChunk_gen s c _ ups).2.2.2.2, markStore_fill, foldFill_get]
    have hnone : chunkOf j ≠ c →
        ((markerOps ups c).filter (fun o => o.idx = j)).foldl (flagEffect opInsert) (Bits.get s.fill j) = Bits.get s.fill j :=
      fun hjc => foldl_filter_none _ _ _ _ (fun o ho e => hjc (by rw [← e]; exact hm c (by simp) o ho))
    by_cases hq : chunkOf j ∈ cs
    · rw [if_pos hq, if_pos (List.mem_cons_of_mem _ hq), hnone (fun e => hc_notin (e ▸ hq))]
    · rw [if_neg hq]
      by_cases hjc : chunkOf j = c
      · rw [if_pos (by rw [hjc]; exact List.mem_cons_self ..), hjc]
      · rw [if_neg (fun h => (List.mem_cons.1 h).elim hjc hq), hnone hjc]

/-- **R4 at commit level (fill list)**: after `s.commit t`, fill bit `j` is the fold of the transaction's markers addressed
    to `j`, in issue order (`Insert` sets, `Delete` clears), over its previous value -/
theorem commit_fill (s : Store) (t : Txn) (hinv : ∀ m ∈ t.updates, isMarkerBuf m = true → ChunkOK m) (j : Nat) :
    Bits.get (s.commit t).fill j =
      ((markerAll t.updates).filter (fun o => o.idx = j)).foldl (flagEffect opInsert) (Bits.get s.fill j) := by
  rw [commit_eq']
  have hm : ∀ c ∈ t.dirtyChunks, ∀ o ∈ markerOps t.updates c, chunkOf o.idx = c := by
    intro c _
    unfold markerOps
    cases hfm : t.updates.find? isMarkerBuf with
    | none => intro o ho; cases ho
    | some m => exact rangeOps_chunk m (hinv m (List.mem_of_find?_eq_some hfm) (List.find?_some hfm)) c
  rw [commitLoop_fill t.dirtyChunks (capStore s t) t.updates t.markers.isSome (sorted_nodup _ (dirtyChunks_sorted t)) rfl hm j]
  have hcap : Bits.get (capStore s t).fill j = Bits.get s.fill j :=
    capStore_induct (fun s' => Bits.get s'.fill j = Bits.get s.fill j) s t (fun _ => rfl)
      (fun last _ => (commitCapacity_fields s last).2.1 j)
  rw [hcap]
  by_cases hd : chunkOf j ∈ t.dirtyChunks
  · rw [if_pos hd, markerOps_filter_idx t.updates j hinv]
  · rw [if_neg hd]
    symm
    apply foldl_filter_none
    intro o ho e
    apply hd
    rw [← e, mem_dirtyChunks]
    right
    unfold markerAll at ho
    cases hfm : t.updates.find? isMarkerBuf with
    | none => rw [hfm] at ho; cases ho
    | some m =>
      rw [hfm] at ho
      have hmem := List.mem_of_find?_eq_some hfm
      exact ⟨m, hmem, allOps_chunk_mem m (hinv m hmem (List.find?_some hfm)) o ho⟩

/-! ### R4 for every data column (markers are `Insert` / `Delete` ops) -/

def isMarkerOp (o : Op) : Prop := o.typ = opInsert ∨ o.typ = opDelete

instance (o : Op) : Decidable (isMarkerOp o) := by unfold isMarkerOp; exact inferInstance

/-! ## C07 at store level: one chunk of a snapshot committed into another store -/

theorem snapshotOps_chunk (c : Col) (ch : Nat) : ∀ o ∈ (c.snapshotOps ch).1, chunkOf o.idx = ch := by
  intro o ho
  unfold Col.snapshotOps at ho
  simp only at ho
  split at ho
  all_goals (try split at ho)
  all_goals first
    | (simp only at ho
       obtain ⟨x, hx, rfl⟩ := List.mem_map.1 ho
       have := (List.mem_filter.1 hx).1
       simp only [List.mem_range] at this
       simp only [chunkOf, chunkSize]
       omega)
    | (simp only [List.not_mem_nil] at ho)

theorem putAll_empty_chunkOK (name : String) (ops : List Op) (c : Nat) (ho : ∀ o ∈ ops, chunkOf o.idx = c) :
    ChunkOK ((Buf.empty name).putAll ops) := by
  intro sec hsec o hos
  rw [(putAll_empty_one_chunk name ops c ho).1] at hsec
  split at hsec
  · cases hsec
  · simp only [List.mem_singleton] at hsec
    subst hsec
    simp only at hos ⊢
    exact ho o (by simpa using hos)

theorem rowMarkers_chunk (s : Store) (ch : Nat) : ∀ o ∈ rowMarkers s ch, chunkOf o.idx = ch :=
  snapList_chunk opInsert ch (fun x => Bits.get s.fill (16384 * ch + x)) (fun _ => .fixed 0 [])

theorem rowBuf_chunkOK (s : Store) (ch : Nat) : ChunkOK (rowBufOf s ch) :=
  putAll_empty_chunkOK rowColumn (rowMarkers s ch) ch (rowMarkers_chunk s ch)

theorem chunkState_chunkOK (s : Store) (ch : Nat) : ∀ v ∈ (s.chunkState ch).1.buffers, ChunkOK v := by
  intro v hv
  rw [chunkState_buffers] at hv
  rcases List.mem_cons.1 hv with hv | hv
  · rw [hv]
    exact rowBuf_chunkOK s ch
  · unfold colBufsOf at hv
    obtain ⟨c, _, hc⟩ := List.mem_map.1 hv
    rw [← hc]
    exact putAll_empty_chunkOK c.name (c.snapshotOps ch).1 ch (snapshotOps_chunk c ch)

theorem findCol_none_names {s : Store} {n : String} (h : s.findCol n = none) : ∀ c ∈ s.cols.toList, c.name ≠ n := by
  unfold Store.findCol at h
  rw [← Array.find?_toList, List.find?_eq_none] at h
  intro c hc e
  exact h c hc (by simpa using e)

theorem chunkState_distinct (s : Store) (ch : Nat) (hn : NamesDistinct s) (hr : s.findCol rowColumn = none) :
    BufsDistinct (s.chunkState ch).1.buffers := by
  rw [chunkState_buffers]
  unfold BufsDistinct colBufsOf
  simp only [List.map_cons, List.map_map]
  have hcols : (List.map ((fun b => b.column) ∘ fun c => (Buf.empty c.name).putAll (c.snapshotOps ch).1)
      (s.cols.toList.filter (fun c => !c.kind.isIndex))) = (s.cols.toList.filter (fun c => !c.kind.isIndex)).map (·.name) := by
    apply List.map_congr_left
    intro c _
    simp only [Function.comp_apply]
    exact putAll_column _ _
  rw [hcols, List.nodup_cons]
  constructor
  · rw [(rowBuf_ops s ch).2.2.1]
    intro hmem
    obtain ⟨c, hc, hcn⟩ := List.mem_map.1 hmem
    exact findCol_none_names hr c (List.mem_filter.1 hc).1 hcn
  · exact List.Nodup.sublist (List.Sublist.map _ List.filter_sublist) hn

theorem findCol_of_distinct {s : Store} (hn : NamesDistinct s) {c : Col} (hc : c ∈ s.cols) : s.findCol c.name = some c := by
  unfold Store.findCol
  rw [← Array.find?_toList]
  unfold NamesDistinct at hn
  have hc' : c ∈ s.cols.toList := by simpa using hc
  generalize s.cols.toList = l at hn hc'
  induction l with
  | nil => cases hc'
  | cons x xs ih =>
    simp only [List.map_cons, List.nodup_cons] at hn
    rcases List.mem_cons.1 hc' with rfl | hmem
    · simp
    · have hne : x.name ≠ c.name := by
        intro e
        exact hn.1 (List.mem_map.2 ⟨c, hmem, e.symm⟩)
      have : (x.name == c.name) = false := by simpa using hne
      rw [List.find?_cons, this]
      exact ih hn.2 hmem

theorem chunkState_markers (s : Store) (ch : Nat) (hn : NamesDistinct s) (hr : s.findCol rowColumn = none) :
    markerAll (s.chunkState ch).1.buffers = rowMarkers s ch := by
  have hd := chunkState_distinct s ch hn hr
  rw [markerAll_of_distinct _ hd]
  have hmem : rowBufOf s ch ∈ (s.chunkState ch).1.buffers := by
    rw [chunkState_buffers]; simp
  have := allFor_of_distinct _ hd _ hmem
  rw [(rowBuf_ops s ch).2.2.1] at this
  rw [this, (rowBuf_ops s ch).2.1]

theorem chunkState_ops (s : Store) (ch : Nat) (hn : NamesDistinct s) (hr : s.findCol rowColumn = none)
    (x : String) (c : Col) (hf : s.findCol x = some c) (hni : c.kind.isIndex = false) :
    allFor (s.chunkState ch).1.buffers x = (c.snapshotOps ch).1 ∧
    markerAll (s.chunkState ch).1.buffers = rowMarkers s ch := by
  have hd := chunkState_distinct s ch hn hr
  constructor
  · have hmem : (Buf.empty c.name).putAll (c.snapshotOps ch).1 ∈ (s.chunkState ch).1.buffers := by
      rw [chunkState_buffers]
      apply List.mem_cons_of_mem
      unfold colBufsOf
      exact List.mem_map.2 ⟨c, List.mem_filter.2 ⟨by simpa using findCol_mem hf, by simp [hni]⟩, rfl⟩
    have := allFor_of_distinct _ hd _ hmem
    have e : ((Buf.empty c.name).putAll (c.snapshotOps ch).1).column = x := by
      rw [putAll_column]; exact findCol_name hf
    rw [e] at this
    rw [this, Buf.allOps_putAll]
    rfl
  · exact chunkState_markers s ch hn hr

/-- the transaction `readState` commits for chunk `ch` of a snapshot of `s` -/
def chunkTxn (s : Store) (ch : Nat) : Txn := { dirty := [ch], updates := (s.chunkState ch).1.buffers }

/-- **C07, one chunk, store level**: commit the chunk's snapshot of `s` into a store `s0` that has a numeric column `x` of the
    same kind. Afterwards the slots of chunk `ch` that are present in `s` hold the snapshotted value (present), every other
    slot of `x` is what it was in `s0` -/
theorem restore_chunk_slot (s s0 : Store) (ch : Nat) (x : String) (k : NumKind) (c c0 : Col)
    (hn : NamesDistinct s) (hr : s.findCol rowColumn = none)
    (hf : s.findCol x = some c) (hk : c.kind = .num k) (hch : ch < c.nchunks)
    (hf0 : s0.findCol x = some c0) (hk0 : c0.kind = .num k) (hw0 : ColWF c0) (hcov0 : s0.commits.size ≤ c0.nchunks)
    (hcomp0 : ∀ n c', s0.findCol n = some c' → x ∉ c'.computed) :
    ∃ col', (s0.commit (chunkTxn s ch)).findCol x = some col' ∧ col'.kind = .num k ∧ col'.merge = c0.merge ∧ ColWF col' ∧
      c0.nchunks ≤ col'.nchunks ∧ ch < col'.nchunks ∧
      ∀ i, slot col' i =
        if i / 16384 = ch ∧ Bits.get c.bits i = true then (true, padTo k.width (c.data.getD i [])) else slot c0 i := by
  have hxr : x ≠ rowColumn := by
    intro e; rw [e, hr] at hf; cases hf
  have hni : c.kind.isIndex = false := by rw [hk]; rfl
  obtain ⟨col', f', k', m', w', n', d', sl'⟩ := commit_readback s0 (chunkTxn s ch) x k c0 hxr hf0 hk0 hw0 hcov0
    (fun v _ c' hc' => hcomp0 v.column c' hc') (fun v hv _ => chunkState_chunkOK s ch v hv)
  refine ⟨col', f', k', m', w', n', d' ch (by rw [mem_dirtyChunks]; left; simp [chunkTxn]), ?_⟩
  intro i
  obtain ⟨ha, hm⟩ := chunkState_ops s ch hn hr x c hf hni
  rw [sl' i]
  show ((markerAll (s.chunkState ch).1.buffers ++ allFor (s.chunkState ch).1.buffers x).filter _).foldl _ _ = _
  rw [ha, hm, List.filter_append, List.foldl_append, rowMarkers_slot, snapshotOps_raw c (by rw [hk]; rfl) ch hch,
    snapList_filter_chunk opPut ch (fun j => Bits.get c.bits j) (fun j => snapVal c j) i]
  split
  · rw [List.foldl_cons, List.foldl_nil, slotEffect_put rfl, snapVal_num c k hk]
  · rfl

/-! ### what `commit` keeps of the store invariants (so that the read-back theorems chain over any sequence of commits) -/

theorem commit_back (s : Store) (t : Txn) (n : String) (c : Col) (h : (s.commit t).findCol n = some c) :
    ∃ c0, s.findCol n = some c0 ∧ c.computed = c0.computed ∧ c.kind = c0.kind := by
  rw [commit_eq'] at h
  obtain ⟨c1, h1, sg⟩ := (commitLoop_gen _ _ _ _).1.sig_back h
  obtain ⟨c0, h0, e1, e2⟩ := capStore_back s t n c1 h1
  exact ⟨c0, h0, sg.computed.trans e1, sg.kind.trans e2⟩

theorem commit_computedKinds (s : Store) (t : Txn) (hck : ComputedKinds s) : ComputedKinds (s.commit t) := by
  rw [commit_eq']
  exact ComputedKinds.of_regSim (commitLoop_gen _ _ _ _).1 (capStore_computedKinds s t hck)

theorem commit_coveredAll (s : Store) (t : Txn) (hcov : CoveredAll s) : CoveredAll (s.commit t) := by
  intro chunk hlt col hcol
  rw [commit_eq'] at hcol hlt
  obtain ⟨_, hsz, hall⟩ := commitLoop_gen t.markers.isSome t.dirtyChunks (capStore s t) t.updates
  rw [hsz] at hlt
  exact hall (ColCovers chunk) (fun c c' hk hc => hk.covers chunk hc)
    (capStore_induct CoveredAll s t (fun _ => hcov) (fun last _ => commitCapacity_coveredAll s last hcov) chunk hlt) col hcol

theorem commit_cov (s : Store) (t : Txn) (col col' : Col) (hcov : s.commits.size ≤ col.nchunks)
    (h1 : col.nchunks ≤ col'.nchunks) (h2 : ∀ c ∈ t.dirtyChunks, c < col'.nchunks) :
    (s.commit t).commits.size ≤ col'.nchunks := by
  rcases commit_commits_size s t with h | ⟨last, hl, _, h⟩
  · rw [h]; omega
  · rw [h]; have := h2 last hl; omega

/-! ### the whole snapshot: `readState (snapshot s)` -/

theorem zipIdx_map_range {α : Type} (f : Nat → α) (n : Nat) :
    ((List.range n).map f).zipIdx = (List.range n).map (fun i => (f i, i)) := by
  induction n with
  | zero => rfl
  | succ n ih =>
    rw [List.range_succ, List.map_append, List.zipIdx_append, ih]
    simp

theorem snapshot_fold (s : Store) (l : List Nat) (acc : List ChunkState) (p : Bool) :
    (l.foldl (fun (acc : List ChunkState × Bool) c =>
      (acc.1 ++ [(s.chunkState c).1], acc.2 || (s.chunkState c).2)) (acc, p)).1 =
      acc ++ l.map (fun ch => (s.chunkState ch).1) := by
  induction l generalizing acc p with
  | nil => simp
  | cons c cs ih => simp only [List.foldl_cons]; rw [ih]; simp

theorem snapshot_chunks (s : Store) :
    (s.snapshot).1.chunks = (List.range s.nChunks).map (fun ch => (s.chunkState ch).1) := by
  have e : (s.snapshot).1.chunks = ((List.range s.nChunks).foldl (fun (acc : List ChunkState × Bool) c =>
      (acc.1 ++ [(s.chunkState c).1], acc.2 || (s.chunkState c).2)) ([], false)).1 := rfl
  rw [e, snapshot_fold]
  rfl

theorem readState_snapshot (s0 s : Store) :
    s0.readState (s.snapshot).1 = (List.range s.nChunks).foldl (fun s0 ch => s0.commit (chunkTxn s ch)) s0 := by
  unfold Store.readState
  rw [snapshot_chunks, zipIdx_map_range, List.foldl_map]
  rfl

/-- chunk `n` done after the chunks below `n` -/
theorem ite_upTo_succ {α : Type} (q n : Nat) (p : Prop) [Decidable p] (a b : α) :
    (if q = n ∧ p then a else if q < n ∧ p then a else b) = if q < n + 1 ∧ p then a else b := by
  by_cases h1 : q = n
  · by_cases hp : p
    · rw [if_pos ⟨h1, hp⟩, if_pos ⟨by omega, hp⟩]
    · rw [if_neg (fun h => hp h.2), if_neg (fun h => hp h.2), if_neg (fun h => hp h.2)]
  · rw [if_neg (fun h => h1 h.1)]
    have e : (q < n ∧ p) ↔ (q < n + 1 ∧ p) := ⟨fun h => ⟨by omega, h.2⟩, fun h => ⟨by omega, h.2⟩⟩
    simp only [e]

/-- induction over the chunks read so far; the step is stated with the commit spelt out so that no proof has to unfold
    the fold on a goal that mentions `chunkTxn` -/
theorem readChunks_induct (s s0 : Store) (P : Nat → Store → Prop) (n : Nat) (h0 : P 0 s0)
    (hs : ∀ k st, k < n → P k st → P (k + 1) (st.commit (chunkTxn s k))) :
    P n ((List.range n).foldl (fun s0 ch => s0.commit (chunkTxn s ch)) s0) :=
  foldl_range_induct _ s0 P n h0 hs

theorem putAll_empty_chunks (name : String) (ops : List Op) (c : Nat) (ho : ∀ o ∈ ops, chunkOf o.idx = c) :
    ∀ c' ∈ ((Buf.empty name).putAll ops).chunks, c' = c := by
  intro c' hc'
  rw [(putAll_empty_rangeOps name ops c ho).2.2.1] at hc'
  split at hc'
  · cases hc'
  · simpa using hc'

theorem chunkState_chunks (s : Store) (ch : Nat) : ∀ b ∈ (s.chunkState ch).1.buffers, ∀ c' ∈ b.chunks, c' = ch := by
  intro b hb
  rw [chunkState_buffers] at hb
  rcases List.mem_cons.1 hb with hb | hb
  · rw [hb]; exact putAll_empty_chunks rowColumn (rowMarkers s ch) ch (rowMarkers_chunk s ch)
  · unfold colBufsOf at hb
    obtain ⟨cc, _, hcc⟩ := List.mem_map.1 hb
    rw [← hcc]
    exact putAll_empty_chunks cc.name (cc.snapshotOps ch).1 ch (snapshotOps_chunk cc ch)

theorem chunkTxn_dirty (s : Store) (n : Nat) : ∀ c ∈ (chunkTxn s n).dirtyChunks, c = n := by
  intro c hc
  rw [mem_dirtyChunks] at hc
  rcases hc with hc | ⟨b, hb, hcb⟩
  · simpa [chunkTxn] using hc
  · exact chunkState_chunks s n b hb c hcb

theorem readState_upTo (s s0 : Store) (x : String) (k : NumKind) (c c0 : Col)
    (hn : NamesDistinct s) (hr : s.findCol rowColumn = none)
    (hf : s.findCol x = some c) (hk : c.kind = .num k) (hcovc : s.commits.size ≤ c.nchunks)
    (hf0 : s0.findCol x = some c0) (hk0 : c0.kind = .num k) (hw0 : ColWF c0) (hcov0 : s0.commits.size ≤ c0.nchunks)
    (hcomp0 : ∀ n c', s0.findCol n = some c' → x ∉ c'.computed) (n : Nat) (hle : n ≤ s.nChunks) :
    ∃ col', ((List.range n).foldl (fun s0 ch => s0.commit (chunkTxn s ch)) s0).findCol x = some col' ∧
      col'.kind = .num k ∧ col'.merge = c0.merge ∧ ColWF col' ∧
      ((List.range n).foldl (fun s0 ch => s0.commit (chunkTxn s ch)) s0).commits.size ≤ col'.nchunks ∧
      n ≤ col'.nchunks ∧ c0.nchunks ≤ col'.nchunks ∧
      (∀ m c', ((List.range n).foldl (fun s0 ch => s0.commit (chunkTxn s ch)) s0).findCol m = some c' → x ∉ c'.computed) ∧
      ∀ i, slot col' i =
        if i / 16384 < n ∧ Bits.get c.bits i = true then (true, padTo k.width (c.data.getD i [])) else slot c0 i := by
  refine readChunks_induct s s0 (fun n st => ∃ col', st.findCol x = some col' ∧ col'.kind = .num k ∧
    col'.merge = c0.merge ∧ ColWF col' ∧ st.commits.size ≤ col'.nchunks ∧ n ≤ col'.nchunks ∧ c0.nchunks ≤ col'.nchunks ∧
    (∀ m c', st.findCol m = some c' → x ∉ c'.computed) ∧
    ∀ i, slot col' i =
      if i / 16384 < n ∧ Bits.get c.bits i = true then (true, padTo k.width (c.data.getD i [])) else slot c0 i) n ?_ ?_
  · refine ⟨c0, hf0, hk0, rfl, hw0, hcov0, Nat.zero_le _, Nat.le_refl _, hcomp0, fun i => ?_⟩
    rw [if_neg (by omega)]
  · intro n s1 hlt ⟨col1, f1, k1, m1, w1, cv1, n1, g1, cp1, sl1⟩
    have hnc : n < c.nchunks := by unfold Store.nChunks at hle; omega
    obtain ⟨col2, f2, k2, m2, w2, n2, d2, sl2⟩ := restore_chunk_slot s s1 n x k c col1 hn hr hf hk hnc f1 k1 w1 cv1 cp1
    refine ⟨col2, f2, k2, m2.trans m1, w2, ?_, by omega, by omega, ?_, ?_⟩
    · exact commit_cov s1 (chunkTxn s n) col1 col2 cv1 n2 (fun ch hch => by rw [chunkTxn_dirty s n ch hch]; exact d2)
    · intro m c' hc'
      obtain ⟨c00, h00, e1, _⟩ := commit_back s1 (chunkTxn s n) m c' hc'
      rw [e1]; exact cp1 m c00 h00
    · intro i
      rw [sl2 i, sl1 i, ite_upTo_succ]

theorem readState_fill_upTo (s s0 : Store) (hn : NamesDistinct s) (hr : s.findCol rowColumn = none) (n : Nat) (j : Nat) :
    Bits.get ((List.range n).foldl (fun s0 ch => s0.commit (chunkTxn s ch)) s0).fill j =
      if j / 16384 < n ∧ Bits.get s.fill j = true then true else Bits.get s0.fill j := by
  refine readChunks_induct s s0 (fun n st => Bits.get st.fill j =
    if j / 16384 < n ∧ Bits.get s.fill j = true then true else Bits.get s0.fill j) n ?_ ?_
  · rw [if_neg (by omega)]
  · intro n st _ ih
    have hm : markerAll (chunkTxn s n).updates = rowMarkers s n := chunkState_markers s n hn hr
    rw [commit_fill _ (chunkTxn s n) (fun m hm _ => chunkState_chunkOK s n m hm) j, ih, hm, rowMarkers_flag,
      ite_upTo_succ]

theorem readState_no_panic_upTo (s s0 : Store) (hcov : CoveredAll s0) (hck : ComputedKinds s0) (n : Nat) :
    ((List.range n).foldl (fun s0 ch => s0.commit (chunkTxn s ch)) s0).panicked = s0.panicked ∧
    CoveredAll ((List.range n).foldl (fun s0 ch => s0.commit (chunkTxn s ch)) s0) ∧
    ComputedKinds ((List.range n).foldl (fun s0 ch => s0.commit (chunkTxn s ch)) s0) := by
  refine readChunks_induct s s0 (fun _ st => st.panicked = s0.panicked ∧ CoveredAll st ∧ ComputedKinds st) n
    ⟨rfl, hcov, hck⟩ ?_
  intro n st _ ⟨i1, i2, i3⟩
  refine ⟨?_, commit_coveredAll _ _ i2, commit_computedKinds _ _ i3⟩
  rw [commit_no_panic _ (chunkTxn s n) i2 i3 (fun v hv => chunkState_chunkOK s n v hv), i1]

/-! ### any sequence of commits -/

/-- everything a transaction issues that can touch column `x`: its markers, then the ops of the buffer(s) of `x` -/
def issued (t : Txn) (x : String) : List Op := markerAll t.updates ++ allFor t.updates x

/-- **C01 over any sequence of committed transactions** (fixed schema): after committing `ts` one after the other, every slot
    of the numeric column `x` is the fold, over what it held at the start, of everything the transactions issued for that
    offset — transaction after transaction, each in issue order (markers of a transaction before its column ops) -/
theorem commits_readback (x : String) (k : NumKind) (hxr : x ≠ rowColumn) (ts : List Txn) :
    ∀ (s : Store) (col : Col), s.findCol x = some col → col.kind = .num k → ColWF col → s.commits.size ≤ col.nchunks →
      (∀ t ∈ ts, ∀ v ∈ t.updates, ∀ c, s.findCol v.column = some c → x ∉ c.computed) →
      (∀ t ∈ ts, ∀ v ∈ t.updates, (v.column = x ∨ isMarkerBuf v = true) → ChunkOK v) →
      ∃ col', (ts.foldl Store.commit s).findCol x = some col' ∧ col'.kind = .num k ∧ col'.merge = col.merge ∧ ColWF col' ∧
        (ts.foldl Store.commit s).commits.size ≤ col'.nchunks ∧ col.nchunks ≤ col'.nchunks ∧
        ∀ i, slot col' i =
          ((ts.flatMap (fun t => issued t x)).filter (fun o => o.idx = i)).foldl
            (slotEffect col.merge k.width) (slot col i) := by
  induction ts with
  | nil =>
    intro s col hf hk hw hcov _ _
    exact ⟨col, hf, hk, rfl, hw, hcov, Nat.le_refl _, fun i => rfl⟩
  | cons t ts ih =>
    intro s col hf hk hw hcov hcomp hinv
    simp only [List.foldl_cons]
    obtain ⟨col1, f1, k1, m1, w1, n1, d1, sl1⟩ := commit_readback s t x k col hxr hf hk hw hcov
      (hcomp t (by simp)) (hinv t (by simp))
    have hcov1 := commit_cov s t col col1 hcov n1 d1
    obtain ⟨col2, f2, k2, m2, w2, c2, n2, sl2⟩ := ih (s.commit t) col1 f1 k1 w1 hcov1
      (by
        intro t' ht' v hv c hc
        obtain ⟨c0, h0, e, _⟩ := commit_back s t v.column c hc
        rw [e]; exact hcomp t' (by simp [ht']) v hv c0 h0)
      (fun t' ht' => hinv t' (by simp [ht']))
    refine ⟨col2, f2, k2, m2.trans m1, w2, c2, by omega, ?_⟩
    intro i
    rw [sl2 i, sl1 i, m1]
    simp only [List.flatMap_cons, issued, List.filter_append, List.foldl_append]

end ColumnVerif.Store
