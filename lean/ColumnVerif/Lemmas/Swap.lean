import ColumnVerif.Model.Swap
import ColumnVerif.Lemmas.Buffer
/-!
Helper lemmas for `Buf.swapAt` (`Model/Swap`): what `locate` finds, what rewriting one op of one
section does to the flattened ops of a chunk, that the buffer invariant survives, and the
per-offset views.
-/
namespace ColumnVerif.Codec

/-! ### `rewriteNth` is `List.modify` -/

theorem mapIdx_ite_eq_modify {α} (l : List α) (k : Nat) (g : α → α) :
    l.mapIdx (fun j a => if j = k then g a else a) = l.modify k g := by
  apply List.ext_getElem?
  intro j
  rw [List.getElem?_mapIdx, List.getElem?_modify]
  by_cases h : j = k
  · simp [h]
  · simp [h, Ne.symm h]

theorem modify_mid {α} (pre post : List α) (x : α) (g : α → α) :
    (pre ++ x :: post).modify pre.length g = pre ++ g x :: post :=
  List.modifyTailIdx_add (List.modifyHead g) 0 pre (x :: post)

theorem rewriteNth_eq_modify (ops : List Op) (k : Nat) (f : Op → Op) :
    rewriteNth ops k f = ops.modify k f :=
  mapIdx_ite_eq_modify ops k f

theorem rewriteNth_nil (k : Nat) (f : Op → Op) : rewriteNth [] k f = [] := rfl

theorem length_rewriteNth (ops : List Op) (k : Nat) (f : Op → Op) :
    (rewriteNth ops k f).length = ops.length := by
  rw [rewriteNth_eq_modify, List.length_modify]

theorem rewriteNth_of_le (ops : List Op) (k : Nat) (f : Op → Op) (h : ops.length ≤ k) :
    rewriteNth ops k f = ops := by
  rw [rewriteNth_eq_modify, List.modify_eq_self h]

theorem rewriteNth_mid (pre post : List Op) (o : Op) (f : Op → Op) :
    rewriteNth (pre ++ o :: post) pre.length f = pre ++ f o :: post := by
  rw [rewriteNth_eq_modify, modify_mid]

theorem split_at_getElem? (ops : List Op) (k : Nat) (o : Op) (h : ops[k]? = some o) :
    ∃ pre post, ops = pre ++ o :: post ∧ pre.length = k := by
  obtain ⟨hk, rfl⟩ := List.getElem?_eq_some_iff.1 h
  exact ⟨ops.take k, ops.drop (k+1),
    by rw [← List.drop_eq_getElem_cons hk, List.take_append_drop], List.length_take_of_le (Nat.le_of_lt hk)⟩

theorem rewriteNth_append3 (a m c : List Op) (pos : Nat) (f : Op → Op) (hp : pos < m.length) :
    rewriteNth (a ++ m ++ c) (a.length + pos) f = a ++ rewriteNth m pos f ++ c := by
  obtain ⟨o, ho⟩ : ∃ o, m[pos]? = some o := ⟨_, List.getElem?_eq_getElem hp⟩
  obtain ⟨pre, post, rfl, rfl⟩ := split_at_getElem? m pos o ho
  rw [rewriteNth_mid, ← List.length_append, ← List.append_assoc, List.append_assoc _ _ c,
    List.cons_append, rewriteNth_mid]
  simp only [List.append_assoc, List.cons_append]

theorem map_idx_rewriteNth (ops : List Op) (k : Nat) (f : Op → Op) (hf : ∀ o, (f o).idx = o.idx) :
    (rewriteNth ops k f).map Op.idx = ops.map Op.idx := by
  apply List.ext_getElem?
  intro j
  rw [List.getElem?_map, List.getElem?_map, rewriteNth, List.getElem?_mapIdx]
  cases ops[j]? with
  | none => rfl
  | some o => by_cases h : j = k <;> simp [h, hf]

theorem forall_mem_rewriteNth {P : Op → Prop} (ops : List Op) (k : Nat) (f : Op → Op)
    (h : ∀ o ∈ ops, P o) (hf : ∀ o ∈ ops, P (f o)) : ∀ x ∈ rewriteNth ops k f, P x := by
  intro x hx
  obtain ⟨j, hj, rfl⟩ := List.mem_mapIdx.1 hx
  split
  · exact hf _ (List.getElem_mem hj)
  · exact h _ (List.getElem_mem hj)

theorem lastIdx_eq_foldl (v : Nat) (xs : List Op) :
    lastIdx v xs = (xs.map Op.idx).foldl (fun _ i => i) v := by
  induction xs generalizing v with
  | nil => rfl
  | cons x xs ih => exact ih x.idx

/-! ### the ops of one chunk, section-wise (`Buf.range`) and flattened (`Buf.rangeOps`) -/

/-- the per-section op lists of the sections of chunk `c` (what `Buf.range` is on `b.secs`) -/
def secRange (secs : List Sec) (c : Nat) : List (List Op) :=
  (secs.filter (fun s => s.chunk = c)).map Sec.ops

/-- the flattened ops of the sections of chunk `c` (what `Buf.rangeOps` is on `b.secs`) -/
def secOps (secs : List Sec) (c : Nat) : List Op :=
  ((secs.filter (fun s => s.chunk = c)).map Sec.ops).flatten

theorem range_eq_secRange (b : Buf) (c : Nat) : b.range c = secRange b.secs c := rfl

theorem rangeOps_eq_secOps (b : Buf) (c : Nat) : b.rangeOps c = secOps b.secs c := rfl

theorem secOps_nil (c : Nat) : secOps [] c = [] := rfl

theorem secRange_cons (s : Sec) (rest : List Sec) (c : Nat) :
    secRange (s :: rest) c = (if s.chunk = c then [s.ops] else []) ++ secRange rest c := by
  unfold secRange
  by_cases h : s.chunk = c <;> simp [h]

theorem secRange_append (xs ys : List Sec) (c : Nat) :
    secRange (xs ++ ys) c = secRange xs c ++ secRange ys c := by
  simp only [secRange, List.filter_append, List.map_append]

theorem secOps_cons (s : Sec) (rest : List Sec) (c : Nat) :
    secOps (s :: rest) c = (if s.chunk = c then s.ops else []) ++ secOps rest c := by
  show (secRange (s :: rest) c).flatten = _
  rw [secRange_cons]
  by_cases h : s.chunk = c <;> simp only [h, if_true, if_false] <;> rfl

theorem secOps_append (xs ys : List Sec) (c : Nat) :
    secOps (xs ++ ys) c = secOps xs c ++ secOps ys c := by
  show (secRange (xs ++ ys) c).flatten = _
  rw [secRange_append, List.flatten_append]; rfl

/-! ### `locate` -/

theorem locate_append (pre rest : List Sec) (chunk k i : Nat) :
    locate (pre ++ rest) chunk ((secOps pre chunk).length + k) i = locate rest chunk k (i + pre.length) := by
  induction pre generalizing i with
  | nil => simp [secOps_nil]
  | cons s pre ih =>
    rw [List.cons_append, locate, secOps_cons, List.length_cons, ← Nat.add_assoc i, Nat.add_right_comm i]
    by_cases hs : s.chunk = chunk
    · rw [if_pos hs, if_pos hs, List.length_append, Nat.add_assoc,
        if_neg (Nat.not_lt.2 (Nat.le_add_right _ _)), Nat.add_sub_cancel_left, ih]
    · rw [if_neg hs, if_neg hs, List.nil_append, ih]

theorem locate_of_le (secs : List Sec) (chunk k i : Nat) (h : (secOps secs chunk).length ≤ k) :
    locate secs chunk k i = none := by
  have := locate_append secs [] chunk (k - (secOps secs chunk).length) i
  rwa [List.append_nil, Nat.add_sub_cancel' h] at this

theorem locate_mid (pre post : List Sec) (sec : Sec) (chunk pos i : Nat) (hc : sec.chunk = chunk)
    (hp : pos < sec.ops.length) :
    locate (pre ++ sec :: post) chunk ((secOps pre chunk).length + pos) i =
      some (i + pre.length, pos) := by
  rw [locate_append, locate, if_pos hc, if_pos hp]

theorem secOps_getElem?_split (secs : List Sec) (chunk k : Nat) (o : Op)
    (h : (secOps secs chunk)[k]? = some o) :
    ∃ pre sec post pos, secs = pre ++ sec :: post ∧ sec.chunk = chunk ∧ sec.ops[pos]? = some o ∧
      k = (secOps pre chunk).length + pos := by
  induction secs generalizing k with
  | nil => cases h
  | cons s rest ih =>
    rw [secOps_cons] at h
    by_cases hk : k < (if s.chunk = chunk then s.ops else []).length
    · rw [List.getElem?_append_left hk] at h
      by_cases hc : s.chunk = chunk
      · rw [if_pos hc] at h
        exact ⟨[], s, rest, k, rfl, hc, h, (Nat.zero_add k).symm⟩
      · rw [if_neg hc] at hk; cases hk
    · rw [List.getElem?_append_right (Nat.le_of_not_lt hk)] at h
      obtain ⟨pre, sec, post, pos, rfl, hsc, hop, hkk⟩ := ih _ h
      refine ⟨s :: pre, sec, post, pos, rfl, hsc, hop, ?_⟩
      rw [secOps_cons, List.length_append, Nat.add_assoc, ← hkk, Nat.add_sub_cancel' (Nat.le_of_not_lt hk)]

/-! ### unfolding `swapAt` -/

/-- `b` with its sections (write order) replaced -/
def Buf.withSecs (b : Buf) (secs : List Sec) : Buf := { b with rsecs := secs.reverse }

/-- a section with its ops (write order) replaced; header (`chunk`, `value`) kept -/
def Sec.withOps (s : Sec) (ops : List Op) : Sec := { s with rops := ops.reverse }

@[simp] theorem Buf.secs_withSecs (b : Buf) (secs : List Sec) : (b.withSecs secs).secs = secs :=
  List.reverse_reverse secs

@[simp] theorem Sec.ops_withOps (s : Sec) (ops : List Op) : (s.withOps ops).ops = ops :=
  List.reverse_reverse ops

@[simp] theorem Sec.chunk_withOps (s : Sec) (ops : List Op) : (s.withOps ops).chunk = s.chunk := rfl
@[simp] theorem Sec.value_withOps (s : Sec) (ops : List Op) : (s.withOps ops).value = s.value := rfl

/-- the located section, with everything `swapAt` needs to know about it -/
structure Located (b : Buf) (chunk k : Nat) (o : Op) (pre : List Sec) (sec : Sec) (post : List Sec)
    (pos : Nat) : Prop where
  secs_eq : b.secs = pre ++ sec :: post
  chunk_eq : sec.chunk = chunk
  op_eq : sec.ops[pos]? = some o
  k_eq : k = (secOps pre chunk).length + pos

section
variable {b : Buf} {chunk k : Nat} {o : Op} {pre : List Sec} {sec : Sec} {post : List Sec} {pos : Nat}

theorem Located.pos_lt (h : Located b chunk k o pre sec post pos) : pos < sec.ops.length :=
  (List.getElem?_eq_some_iff.1 h.op_eq).1

theorem Located.mem_ops (h : Located b chunk k o pre sec post pos) : o ∈ sec.ops :=
  List.mem_iff_getElem?.2 ⟨pos, h.op_eq⟩

theorem Located.mem_rsecs (h : Located b chunk k o pre sec post pos) : sec ∈ b.rsecs := by
  have : sec ∈ b.secs := by rw [h.secs_eq]; exact List.mem_append_right pre List.mem_cons_self
  exact List.mem_reverse.1 this

theorem Located.chunkOf_idx (h : Located b chunk k o pre sec post pos) (hinv : b.Inv) :
    chunkOf o.idx = sec.chunk :=
  hinv.chunk_ok sec h.mem_rsecs o (List.mem_reverse.1 h.mem_ops)

theorem Located.op_wf (h : Located b chunk k o pre sec post pos) (hinv : b.Inv) : o.WF :=
  (hinv.lt_ok.2 sec h.mem_rsecs).2 o (List.mem_reverse.1 h.mem_ops)

theorem Located.swapAt_eq (h : Located b chunk k o pre sec post pos) (v : Val) :
    b.swapAt chunk k v =
      if sameShape o.val v then
        some (b.withSecs (pre ++ sec.withOps (rewriteNth sec.ops pos fun o => swapInPlace o v) :: post))
      else match v with
        | .str _ => some ((b.withSecs (pre ++ sec.withOps (rewriteNth sec.ops pos markSkip) :: post)).put
            ⟨opPut, o.idx, v⟩)
        | _ => none := by
  have hl : locate b.secs chunk k 0 = some (pre.length, pos) := by
    rw [h.secs_eq, h.k_eq, locate_mid pre post sec chunk pos 0 h.chunk_eq h.pos_lt, Nat.zero_add]
  have hsec : b.secs[pre.length]? = some sec := by
    rw [h.secs_eq, List.getElem?_append_right (Nat.le_refl _), Nat.sub_self]; rfl
  have hset : ∀ ops : List Op,
      b.secs.mapIdx (fun j s => if j = pre.length then { s with rops := ops.reverse } else s)
        = pre ++ sec.withOps ops :: post := fun ops => by
    rw [mapIdx_ite_eq_modify, h.secs_eq, modify_mid]; rfl
  simp only [Buf.swapAt, hl, hsec, h.op_eq, hset]
  cases v <;> rfl

end

theorem located_of_getElem? (b : Buf) (chunk k : Nat) (o : Op)
    (ho : (b.rangeOps chunk)[k]? = some o) : ∃ pre sec post pos, Located b chunk k o pre sec post pos := by
  obtain ⟨pre, sec, post, pos, he, hc, hop, hk⟩ := secOps_getElem?_split b.secs chunk k o ho
  exact ⟨pre, sec, post, pos, he, hc, hop, hk⟩

theorem Buf.inv_withSecs (b : Buf) (h : b.Inv) (pre post : List Sec) (sec : Sec) (ops' : List Op)
    (he : b.secs = pre ++ sec :: post)
    (hidx : ops'.map Op.idx = sec.ops.map Op.idx) (hwf : ∀ o ∈ ops', o.WF) :
    (b.withSecs (pre ++ sec.withOps ops' :: post)).Inv := by
  obtain ⟨h1, h2, h3, h4, h5, h6⟩ := h
  have hr : b.rsecs = post.reverse ++ sec :: pre.reverse := by
    rw [← List.reverse_reverse b.rsecs, ← Buf.secs, he]; simp
  have hr' : (b.withSecs (pre ++ sec.withOps ops' :: post)).rsecs =
      post.reverse ++ sec.withOps ops' :: pre.reverse := by simp [Buf.withSecs]
  -- the first section of `rsecs` is the rewritten one or an old one, with the same header and `lastIdx`
  have hhead : ∀ s rest, post.reverse ++ sec.withOps ops' :: pre.reverse = s :: rest →
      ∃ s0 rest0, b.rsecs = s0 :: rest0 ∧ s.chunk = s0.chunk ∧
        lastIdx s.value s.ops = lastIdx s0.value s0.ops := by
    intro s rest hsr
    rw [hr]
    rcases List.append_eq_cons_iff.1 hsr with ⟨hp, hh⟩ | ⟨l, hp, _⟩ <;> rw [hp]
    · cases hh
      refine ⟨sec, _, rfl, rfl, ?_⟩
      rw [lastIdx_eq_foldl, lastIdx_eq_foldl, Sec.ops_withOps, hidx]; rfl
    · exact ⟨s, _, rfl, rfl, rfl⟩
  rw [hr, List.forall_mem_append, List.forall_mem_cons] at h1 h6
  refine ⟨?_, ?_, ?_, ?_, h5, ?_⟩ <;> rw [hr']
  · refine List.forall_mem_append.2 ⟨h1.1, List.forall_mem_cons.2 ⟨fun o ho => ?_, h1.2.2⟩⟩
    have : ∀ i ∈ ops'.map Op.idx, chunkOf i = sec.chunk := by
      rw [hidx]
      exact List.forall_mem_map.2 fun o' ho' => h1.2.1 o' (List.mem_reverse.1 ho')
    exact this _ (List.mem_map_of_mem (List.mem_reverse.1 ho))
  · intro s rest hsr c hc
    obtain ⟨s0, rest0, h0, hch, _⟩ := hhead s rest hsr
    exact hch ▸ h2 s0 rest0 h0 c hc
  · intro hnil; simp at hnil
  · intro s rest hsr
    obtain ⟨s0, rest0, h0, _, hl⟩ := hhead s rest hsr
    exact hl ▸ h4 s0 rest0 h0
  · exact List.forall_mem_append.2 ⟨h6.1, List.forall_mem_cons.2
      ⟨⟨h6.2.1.1, fun o ho => hwf o (List.mem_reverse.1 ho)⟩, h6.2.2⟩⟩

/-! ### `put`, seen on the sections in write order -/

theorem Buf.secs_put (b : Buf) (o : Op) (h : b.Inv) :
    (b.cur = some (chunkOf o.idx) ∧ ∃ init s, b.secs = init ++ [s] ∧ s.chunk = chunkOf o.idx ∧
      (b.put o).secs = init ++ [s.withOps (s.ops ++ [o])]) ∨
    (b.cur ≠ some (chunkOf o.idx) ∧ (b.put o).secs = b.secs ++ [⟨chunkOf o.idx, b.last, [o]⟩]) := by
  rcases Buf.put_cases b o h with ⟨s, rest, hr, hc, hsc, he⟩ | ⟨hc, he⟩
  · exact Or.inl ⟨hc, rest.reverse, s, by simp [Buf.secs, hr], hsc,
      by rw [he]; simp [Buf.secs, Sec.withOps, Sec.ops]⟩
  · exact Or.inr ⟨hc, by rw [he]; simp [Buf.secs]⟩

theorem Buf.range_put (b : Buf) (o : Op) (c : Nat) (h : b.Inv) :
    (chunkOf o.idx ≠ c → (b.put o).range c = b.range c) ∧
    (b.put o).rangeOps c = b.rangeOps c ++ (if chunkOf o.idx = c then [o] else []) := by
  rcases Buf.secs_put b o h with ⟨_, init, s, he, hsc, he'⟩ | ⟨_, he'⟩
  · simp only [range_eq_secRange, rangeOps_eq_secOps, he, he', secRange_append, secOps_append,
      secRange_cons, secOps_cons, Sec.chunk_withOps, Sec.ops_withOps, hsc]
    by_cases hcc : chunkOf o.idx = c <;> simp [hcc, secOps, secRange]
  · simp only [range_eq_secRange, rangeOps_eq_secOps, he', secRange_append, secOps_append,
      secRange_cons, secOps_cons]
    by_cases hcc : chunkOf o.idx = c <;> simp [hcc, secOps, secRange, Sec.ops]

/-! ### rewriting the located section, seen on the chunks -/

theorem swapInPlace_idx (v : Val) (o : Op) : (swapInPlace o v).idx = o.idx := rfl
theorem markSkip_idx (o : Op) : (markSkip o).idx = o.idx := rfl

theorem swapInPlace_WF (o : Op) (v : Val) (ho : o.WF) (hv : v.WF) : (swapInPlace o v).WF :=
  ⟨(by decide : opPut < 16), ho.2.1, hv⟩

theorem markSkip_WF (o : Op) (ho : o.WF) : (markSkip o).WF :=
  ⟨(by decide : opSkip < 16), ho.2.1, ho.2.2⟩


theorem secOps_rewrite_other (pre post : List Sec) (sec : Sec) (c : Nat) (ops' : List Op)
    (hc : sec.chunk ≠ c) :
    secOps (pre ++ sec.withOps ops' :: post) c = secOps (pre ++ sec :: post) c := by
  rw [secOps_append, secOps_append, secOps_cons, secOps_cons, Sec.chunk_withOps, if_neg hc, if_neg hc]

section
variable {b : Buf} {chunk k : Nat} {o : Op} {pre : List Sec} {sec : Sec} {post : List Sec} {pos : Nat}

theorem Located.inv_rewrite (h : Located b chunk k o pre sec post pos) (hinv : b.Inv)
    (f : Op → Op) (hf : ∀ o, (f o).idx = o.idx) (hw : ∀ o, o.WF → (f o).WF) :
    (b.withSecs (pre ++ sec.withOps (rewriteNth sec.ops pos f) :: post)).Inv := by
  have hsw : ∀ y ∈ sec.ops, y.WF := fun y hy =>
    (hinv.lt_ok.2 sec h.mem_rsecs).2 y (List.mem_reverse.1 hy)
  exact Buf.inv_withSecs b hinv pre post sec _ h.secs_eq (map_idx_rewriteNth _ _ _ hf)
    (forall_mem_rewriteNth _ _ _ hsw fun y hy => hw y (hsw y hy))

theorem Located.rangeOps_rewrite (h : Located b chunk k o pre sec post pos) (f : Op → Op) :
    (b.withSecs (pre ++ sec.withOps (rewriteNth sec.ops pos f) :: post)).rangeOps chunk =
      rewriteNth (b.rangeOps chunk) k f := by
  rw [rangeOps_eq_secOps, rangeOps_eq_secOps, Buf.secs_withSecs, h.secs_eq, h.k_eq,
    secOps_append, secOps_append, secOps_cons, secOps_cons, Sec.chunk_withOps, if_pos h.chunk_eq,
    if_pos h.chunk_eq, Sec.ops_withOps, ← List.append_assoc, ← List.append_assoc,
    rewriteNth_append3 _ _ _ _ _ h.pos_lt]

theorem Located.range_rewrite_other (h : Located b chunk k o pre sec post pos) (ops' : List Op)
    (c : Nat) (hc : c ≠ chunk) :
    (b.withSecs (pre ++ sec.withOps ops' :: post)).range c = b.range c := by
  rw [range_eq_secRange, range_eq_secRange, Buf.secs_withSecs, h.secs_eq, secRange_append,
    secRange_append, secRange_cons, secRange_cons, Sec.chunk_withOps,
    if_neg (h.chunk_eq ▸ fun e => hc e.symm), if_neg (h.chunk_eq ▸ fun e => hc e.symm)]

theorem Located.range_rewrite_lengths (h : Located b chunk k o pre sec post pos) (f : Op → Op)
    (c : Nat) :
    ((b.withSecs (pre ++ sec.withOps (rewriteNth sec.ops pos f) :: post)).range c).map List.length =
      (b.range c).map List.length := by
  rw [range_eq_secRange, range_eq_secRange, Buf.secs_withSecs, h.secs_eq, secRange_append,
    secRange_append, secRange_cons, secRange_cons, Sec.chunk_withOps, Sec.ops_withOps]
  by_cases hc : sec.chunk = c <;> simp [hc, length_rewriteNth]

end

theorem swapAt_resize_secs (b : Buf) (chunk k : Nat) (v : Val) (b' : Buf) (o : Op) (bs : Bytes)
    (hinv : b.Inv) (ho : (b.rangeOps chunk)[k]? = some o) (hs : sameShape o.val v = false)
    (hv : v = .str bs) (h : b.swapAt chunk k v = some b') :
    ∃ pre sec post pos, Located b chunk k o pre sec post pos ∧ chunkOf o.idx = chunk ∧
      (b.withSecs (pre ++ sec.withOps (rewriteNth sec.ops pos markSkip) :: post)).Inv ∧
      b' = (b.withSecs (pre ++ sec.withOps (rewriteNth sec.ops pos markSkip) :: post)).put
            ⟨opPut, o.idx, v⟩ := by
  obtain ⟨pre, sec, post, pos, hl⟩ := located_of_getElem? b chunk k o ho
  subst hv
  rw [hl.swapAt_eq, hs] at h
  exact ⟨pre, sec, post, pos, hl, hl.chunk_eq ▸ hl.chunkOf_idx hinv,
    hl.inv_rewrite hinv markSkip markSkip_idx markSkip_WF, (Option.some.inj h).symm⟩

/-! ### per-offset views -/

/-- the ops on offset `i`, in order -/
def atIdx (ops : List Op) (i : Nat) : List Op := ops.filter (fun o => o.idx = i)

/-- the ops on offset `i` a later reader acts on: `Skip`-marked ones are passed over -/
def visible (ops : List Op) (i : Nat) : List Op :=
  ops.filter (fun o => o.idx = i ∧ o.typ ≠ opSkip)

/-- no op after position `k` is on offset `i` -/
def NoLater (ops : List Op) (k i : Nat) : Prop := ∀ o' ∈ ops.drop (k + 1), o'.idx ≠ i

instance (ops : List Op) (k i : Nat) : Decidable (NoLater ops k i) := by
  unfold NoLater; exact inferInstance

theorem atIdx_append (xs ys : List Op) (i : Nat) : atIdx (xs ++ ys) i = atIdx xs i ++ atIdx ys i :=
  List.filter_append ..

theorem atIdx_rewriteNth_ne (ops : List Op) (k : Nat) (f : Op → Op) (o : Op) (i : Nat)
    (ho : ops[k]? = some o) (hf : ∀ o, (f o).idx = o.idx) (hi : o.idx ≠ i) :
    atIdx (rewriteNth ops k f) i = atIdx ops i := by
  obtain ⟨pre, post, rfl, rfl⟩ := split_at_getElem? ops k o ho
  rw [rewriteNth_mid]
  simp [atIdx, hf, hi]

theorem atIdx_rewriteNth_eq (ops : List Op) (k : Nat) (f : Op → Op) (o : Op)
    (ho : ops[k]? = some o) (hf : ∀ o, (f o).idx = o.idx) :
    atIdx (rewriteNth ops k f) o.idx =
      rewriteNth (atIdx ops o.idx) (atIdx (ops.take k) o.idx).length f := by
  obtain ⟨pre, post, rfl, rfl⟩ := split_at_getElem? ops k o ho
  have h1 : atIdx (pre ++ f o :: post) o.idx = atIdx pre o.idx ++ f o :: atIdx post o.idx := by
    simp [atIdx, hf]
  have h2 : atIdx (pre ++ o :: post) o.idx = atIdx pre o.idx ++ o :: atIdx post o.idx := by
    simp [atIdx]
  rw [rewriteNth_mid, List.take_left, h1, h2, rewriteNth_mid]

/-- `Skip` + appended `Put` is, per offset, the merge turned into a put — provided nothing later in
    the chunk is on that offset -/
theorem visible_resize (ops : List Op) (k : Nat) (o : Op) (v : Val) (i : Nat)
    (ho : ops[k]? = some o) (hno : NoLater ops k o.idx) :
    visible (rewriteNth ops k markSkip ++ [⟨opPut, o.idx, v⟩]) i =
      visible (rewriteNth ops k (fun o => ⟨opPut, o.idx, v⟩)) i := by
  obtain ⟨pre, post, rfl, rfl⟩ := split_at_getElem? ops k o ho
  have hpost : ∀ o' ∈ post, o'.idx ≠ o.idx := fun o' ho' => hno o' (by simpa using ho')
  rw [rewriteNth_mid, rewriteNth_mid]
  by_cases hi : o.idx = i
  · -- nothing of `post` is on the offset, so the appended put follows `pre` directly
    have hp : visible post i = [] :=
      List.filter_eq_nil_iff.2 fun o' ho' => by simp [← hi, hpost o' ho']
    have hs : visible [markSkip o] i = [] := by simp [visible, markSkip]
    have hq : visible [⟨opPut, o.idx, v⟩] i = [⟨opPut, o.idx, v⟩] := by
      simp [visible, hi, opPut, opSkip]
    have ha : ∀ xs ys, visible (xs ++ ys) i = visible xs i ++ visible ys i :=
      fun _ _ => List.filter_append ..
    show visible (pre ++ ([markSkip o] ++ post) ++ [⟨opPut, o.idx, v⟩]) i =
      visible (pre ++ ([⟨opPut, o.idx, v⟩] ++ post)) i
    simp only [ha, hp, hs, hq, List.append_nil, List.nil_append]
  · simp [visible, markSkip, hi]

theorem visible_resize_other (ops : List Op) (k : Nat) (o : Op) (v : Val) (i : Nat)
    (ho : ops[k]? = some o) (hi : o.idx ≠ i) :
    visible (rewriteNth ops k markSkip ++ [⟨opPut, o.idx, v⟩]) i = visible ops i := by
  obtain ⟨pre, post, rfl, rfl⟩ := split_at_getElem? ops k o ho
  rw [rewriteNth_mid]
  simp [visible, markSkip, hi]

end ColumnVerif.Codec
