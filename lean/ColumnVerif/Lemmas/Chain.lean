import ColumnVerif.Lemmas.Filter
/-!
Lemmas for whole filter chains: every operator leaves the transaction set up, and the length of
the selection after an operator is either unchanged or `0` (the operator ran into `Clear()`).
-/
namespace ColumnVerif.Store
open ColumnVerif.Bits ColumnVerif.Codec

/-- the operator runs into `txn.index.Clear()`: `With` of a missing column, a typed value filter on a
    missing column or a column of the wrong kind, `WithValue` on a missing column, and the
    single-name `WithUnion` (which is `With`) of a missing column -/
def FilterOp.clears (s : Store) : FilterOp → Bool
  | .with_ ns => ns.any (fun n => (s.findCol n).isNone)
  | .without _ => false
  | .union _ => false
  | .withUnion ns =>
    match ns with
    | [n] => (s.findCol n).isNone
    | _ => false
  | .withNum col _ =>
    match s.findCol col with
    | some c => !c.kind.isNumeric
    | none => true
  | .withString col _ =>
    match s.findCol col with
    | some c => !c.kind.isTextual
    | none => true
  | .withValue col _ => (s.findCol col).isNone

/-- `Union` / `WithUnion`: the operators whose first-call behaviour differs -/
def FilterOp.isUnion : FilterOp → Bool
  | .union _ | .withUnion _ => true
  | _ => false

theorem initialize_setup (s : Store) (t : Txn) : (t.initialize s).setup = true := by
  unfold Txn.initialize
  cases h : t.setup <;> simp [h]

theorem initialize_of_setup (s : Store) (t : Txn) (h : t.setup = true) : t.initialize s = t := by
  unfold Txn.initialize; simp [h]

theorem initialize_initialize (s : Store) (t : Txn) : (t.initialize s).initialize s = t.initialize s :=
  initialize_of_setup s _ (initialize_setup s t)

theorem foldl_setup_size {β : Type} (π : β → Txn) (g : β → String → β) (z : String → Bool)
    (hg : ∀ b n, (π (g b n)).setup = (π b).setup ∧ (π (g b n)).sel.size = if z n then 0 else (π b).sel.size)
    (b : β) (names : List String) (h0 : (π b).setup = true) :
    (π (names.foldl g b)).setup = true ∧
      (π (names.foldl g b)).sel.size = if names.any z then 0 else (π b).sel.size := by
  induction names generalizing b with
  | nil => exact ⟨h0, rfl⟩
  | cons n rest ih =>
    obtain ⟨h3, h4⟩ := hg b n
    obtain ⟨h1, h2⟩ := ih (g b n) (h3.trans h0)
    refine ⟨h1, ?_⟩
    rw [List.foldl_cons, h2, h4, List.any_cons]
    cases z n <;> simp

theorem with_spec (s : Store) (t : Txn) (names : List String) :
    (t.with_ s names).setup = true ∧ (t.with_ s names).sel.size =
      if names.any (fun n => (s.findCol n).isNone) then 0 else (t.initialize s).sel.size :=
  foldl_setup_size id _ _ (fun t n => by cases s.findCol n <;> simp [size_mapChunks]) _ names
    (initialize_setup s t)

theorem without_spec (s : Store) (t : Txn) (names : List String) :
    (t.without s names).setup = true ∧ (t.without s names).sel.size = (t.initialize s).sel.size :=
  (foldl_setup_size id _ (fun _ => false) (fun t n => by cases s.findCol n <;> simp [size_mapChunks]) _ names
    (initialize_setup s t)).imp_right (·.trans (if_neg (by simp)))

theorem union_spec (s : Store) (t : Txn) (names : List String) :
    (t.union s names).setup = true ∧ (t.union s names).sel.size = (t.initialize s).sel.size :=
  (foldl_setup_size Prod.fst (unionStep s) (fun _ => false) (fun acc n => by
    unfold unionStep; cases s.findCol n <;> cases acc.2 <;> simp [size_mapChunks]) _ names
    (initialize_setup s t)).imp_right (·.trans (if_neg (by simp)))

theorem withUnion_fresh (s : Store) (t : Txn) (h : t.setup = false) (names : List String) :
    t.withUnion s names = t.union s names := by
  unfold Txn.withUnion; simp [h]

theorem withPred_spec (s : Store) (t : Txn) (col : String) (kindOk : Kind → Bool) (pred : Bytes → Bool) :
    (t.withPred s col kindOk pred).setup = true ∧ (t.withPred s col kindOk pred).sel.size =
      if (match s.findCol col with | some c => !kindOk c.kind | none => true) then 0
      else (t.initialize s).sel.size := by
  have h0 := initialize_setup s t
  unfold Txn.withPred
  cases s.findCol col with
  | none => exact ⟨h0, rfl⟩
  | some c => cases h : kindOk c.kind <;> simp [h, h0, size_mapChunks]

/-- every operator leaves the transaction set up (so no later operator re-reads the fill list); on a set-up
    transaction (where `t.initialize s` is `t`) the selection keeps its length, or is truncated to length `0` by
    `Clear()`. Only `WithUnion` needs the hypothesis: its first call is a `Union`, which never clears. -/
theorem applyOp_spec (s : Store) (t : Txn) (op : FilterOp) :
    (t.applyOp s op).setup = true ∧
      (t.setup = true → (t.applyOp s op).sel.size = if op.clears s then 0 else (t.initialize s).sel.size) := by
  cases op with
  | with_ ns => exact (with_spec s t ns).imp_right fun h _ => h
  | without ns => exact (without_spec s t ns).imp_right fun h _ => h
  | union ns => exact (union_spec s t ns).imp_right fun h _ => h
  | withUnion ns =>
    show (t.withUnion s ns).setup = true ∧ (_ → (t.withUnion s ns).sel.size = _)
    cases h : t.setup with
    | false => rw [withUnion_fresh s t h]; exact ⟨(union_spec s t ns).1, nofun⟩
    | true =>
      rw [initialize_of_setup s t h]
      unfold Txn.withUnion
      simp only [h, Bool.not_true, Bool.false_eq_true, if_false]
      match ns with
      | [n] => simpa [FilterOp.clears, initialize_of_setup s t h] using with_spec s t [n]
      | [] | _ :: _ :: _ => rw [if_neg (by simp)]; exact ⟨rfl, fun _ => size_mapChunks _ _⟩
  | withNum col pred | withString col pred => exact (withPred_spec s t col _ pred).imp_right fun h _ => h
  | withValue col pred =>
    show (t.withValue s col pred).setup = true ∧ (_ → (t.withValue s col pred).sel.size = _)
    have h0 := initialize_setup s t
    unfold Txn.withValue
    cases hc : s.findCol col <;> simp only [FilterOp.clears, hc]
    · exact ⟨h0, fun _ => rfl⟩
    · exact ⟨h0, fun _ => size_mapChunks _ _⟩

theorem applyOp_setup (s : Store) (t : Txn) (op : FilterOp) : (t.applyOp s op).setup = true :=
  (applyOp_spec s t op).1

theorem applyOp_size (s : Store) (t : Txn) (h : t.setup = true) (op : FilterOp) :
    (t.applyOp s op).sel.size = if op.clears s then 0 else t.sel.size := by
  rw [(applyOp_spec s t op).2 h, initialize_of_setup s t h]

theorem chain_setup (s : Store) (t : Txn) (ops : List FilterOp) (h : t.setup = true) :
    (t.chain s ops).setup = true :=
  foldl_invariant (fun t : Txn => t.setup = true) _ ops t h fun t op _ _ => applyOp_setup s t op

theorem chain_cons_setup (s : Store) (t : Txn) (op : FilterOp) (rest : List FilterOp) :
    (t.chain s (op :: rest)).setup = true :=
  chain_setup s (t.applyOp s op) rest (applyOp_setup s t op)

theorem applyOp_initialize (s : Store) (t : Txn) (op : FilterOp) (h : op.isUnion = false) :
    t.applyOp s op = (t.initialize s).applyOp s op := by
  cases op with
  | union ns | withUnion ns => cases h
  | _ => dsimp only [Txn.applyOp, Txn.with_, Txn.without, Txn.withPred, Txn.withValue]; rw [initialize_initialize]

end ColumnVerif.Store
