import ColumnVerif.Model.Filter
import ColumnVerif.Lemmas.Bits
/-! Lemmas: the per-chunk loops of the filters are pointwise maps over the whole selection. -/
namespace ColumnVerif.Store
open ColumnVerif.Bits

theorem size_mapChunk (sel : Bitmap) (c : Nat) (f : Nat → Bool → Bool) : (mapChunk sel c f).size = sel.size :=
  Array.size_mapIdx

theorem size_mapChunksUpTo (sel : Bitmap) (f : Nat → Bool → Bool) (n : Nat) :
    (mapChunksUpTo sel f n).size = sel.size := by
  induction n with
  | zero => rfl
  | succ k ih => rw [mapChunksUpTo, size_mapChunk, ih]

theorem getElem?_mapChunksUpTo (sel : Bitmap) (f : Nat → Bool → Bool) (n i : Nat) :
    (mapChunksUpTo sel f n)[i]? = sel[i]?.map (fun b => if i / 16384 < n then f i b else b) := by
  induction n with
  | zero => simp [mapChunksUpTo]
  | succ k ih =>
    rw [mapChunksUpTo, mapChunk, Array.getElem?_mapIdx, ih, Option.map_map]
    congr 1; funext b
    by_cases h : i / 16384 = k <;> simp [h, Nat.lt_succ_iff_lt_or_eq]

theorem size_mapChunks (sel : Bitmap) (f : Nat → Bool → Bool) : (mapChunks sel f).size = sel.size :=
  size_mapChunksUpTo sel f _

/-- the chunk loop `0 … len>>8` reaches every bit of the selection, whatever its length -/
theorem get_mapChunks (sel : Bitmap) (f : Nat → Bool → Bool) (i : Nat) :
    Bits.get (mapChunks sel f) i = if i < sel.size then f i (Bits.get sel i) else false := by
  unfold mapChunks Bits.get
  rw [getElem?_mapChunksUpTo]
  by_cases hi : i < sel.size
  · rw [Array.getElem?_eq_getElem hi, if_pos hi, Option.map_some, if_pos (by unfold selLimit Bits.words; omega)]; rfl
  · rw [Array.getElem?_eq_none (Nat.le_of_not_lt hi), if_neg hi]; rfl

theorem get_mapChunks_of_false (sel : Bitmap) (f : Nat → Bool → Bool) (hf : ∀ i, f i false = false)
    (i : Nat) : Bits.get (mapChunks sel f) i = f i (Bits.get sel i) := by
  rw [get_mapChunks]
  by_cases hi : i < sel.size
  · rw [if_pos hi]
  · rw [if_neg hi, get_of_ge sel i (Nat.le_of_not_lt hi), hf]

end ColumnVerif.Store
