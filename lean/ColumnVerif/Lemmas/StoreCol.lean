import ColumnVerif.Lemmas.StoreBase
import ColumnVerif.Lemmas.ApplyStr
/-!
Store-level plumbing for **every data column** (numeric, string, record, enum, key): what `Store.commit` leaves in the
registry under a data column's name, as an equality of `Col` records, in terms of the column-level function `applyData`
alone.

* the marker step of `commitChunk` on a data column (`markStore_cases`, `markStore_col`); the ops of a chunk pass and the
  column after the chunk loop (`chunkOps`, `colChunks`); what stays unattached along a commit (`RegSim.notComputed`);
* what the passes need of a buffer (`BufOK`, `put` / `putAll`), the main pass over a chunk that has a single section in
  the buffer, where appended puts land behind everything the loop still visits (`OneSec`, `mainPass_one`);
* the guard of one pass (`PassOK`: nothing appended, or one section in a well-formed buffer), of one chunk (`BufsOK`), of a
  commit (`ChunksOK`), and the plumbing under it: `commitChunk_ok_full`, `commit_col_ok`; sufficient conditions
  (`ChunksOK_of_noAppend`, `ChunksOK_of_nodup`, …); `NoAppend` (no resizing string merge) as the special case
  (`commitChunk_col_full`, `commit_col`);
* frame lemmas, `capCol_cases`, the store configuration through `commit`, `keyInv_transfer`;
* slot-level reading of a commit for every kind (`SlotLaw`, `commit_slot_ok`, `commit_slot`); the numeric read-back of
  `Lemmas/StoreRead` is its instance at `slotLaw_num`.

`opsFor`, `markerOps`, `markStore`, `capCol`, `BufRel` and the frame of one round of `commitUpdates` are in `Lemmas/StoreBase`.
-/
namespace ColumnVerif.Store
open ColumnVerif.Codec ColumnVerif.Bits

/-! ## the marker pass on a data column -/

theorem applyData_appended_nil_of_no_merge (hash : Bytes → Nat) (c : Col) (chunk : Nat) (ops : List Op)
    (hm : ∀ o ∈ ops, o.typ ≠ opMerge) : (applyData hash c chunk ops).appended = [] :=
  (applyData_of_no_merge hash c chunk ops hm).2

/-- the marker ops `commitChunk` applies: those of the marker buffer for the chunk, when rows changed -/
def markerOpsCr (cr : Bool) (ups : List Buf) (chunk : Nat) : List Op := if cr then markerOps ups chunk else []

theorem markerOpsCr_isSome (ups : List Buf) (chunk : Nat) :
    markerOpsCr (ups.find? isMarkerBuf).isSome ups chunk = markerOps ups chunk := by
  unfold markerOpsCr markerOps
  cases ups.find? isMarkerBuf <;> rfl

theorem markStore_cases (s : Store) (chunk : Nat) (cr : Bool) (ups : List Buf) :
    (markStore s chunk cr ups = preStore s chunk ∧ markerOpsCr cr ups chunk = []) ∨
    ∃ m, markStore s chunk cr ups = (preStore s chunk).commitMarkers chunk m ∧
      markerOpsCr cr ups chunk = (m.range chunk).flatten := by
  unfold markStore markerOpsCr markerOps
  cases cr with
  | false => exact .inl ⟨rfl, rfl⟩
  | true =>
    cases ups.find? isMarkerBuf with
    | none => exact .inl ⟨rfl, rfl⟩
    | some m => exact .inr ⟨m, rfl, rfl⟩

theorem markStore_hash (s : Store) (chunk : Nat) (cr : Bool) (ups : List Buf) : (markStore s chunk cr ups).hash = s.hash := by
  rcases markStore_cases s chunk cr ups with ⟨e, _⟩ | ⟨m, e, _⟩ <;> rw [e] <;> rfl

theorem markStore_col (s : Store) (chunk : Nat) (cr : Bool) (ups : List Buf) (x : String) (col : Col)
    (hf : s.findCol x = some col) (hd : col.kind.isData = true) :
    (markStore s chunk cr ups).findCol x = some (applyData s.hash col chunk (markerOpsCr cr ups chunk)).col := by
  have hp : (preStore s chunk).findCol x = some col := hf
  rcases markStore_cases s chunk cr ups with ⟨e, e2⟩ | ⟨m, e, e2⟩ <;> rw [e, e2]
  · rw [hp, applyData_col_nil]
  · rw [commitMarkers_findCol, hp, Option.map_some, markCol_data _ _ _ col hd]
    rfl

instance (b : Buf) : Decidable (ChunkOK b) :=
  inferInstanceAs (Decidable (∀ s ∈ b.rsecs, ∀ o ∈ s.rops, chunkOf o.idx = s.chunk))

/-! ## the ops of a chunk pass, the column after the chunk loop -/

theorem commitChunk_hash (s : Store) (chunk : Nat) (cr : Bool) (ups : List Buf) :
    (s.commitChunk chunk cr ups).1.hash = s.hash := by
  rw [commitChunk_def]
  obtain ⟨_, _, _, _, _, f6, _⟩ := finishChunk_fields (s.nextId + 1) chunk cr
    ((markStore s chunk cr ups).commitUpdates chunk ups)
  rw [f6, (commitUpdates_eq _ _ _), (cuFold_sim chunk ups (markStore s chunk cr ups) [] false).hash, markStore_hash]

/-- the ops `commit` applies to the column `x` in the pass of chunk `ch`: the markers of the chunk, then the ops the
    buffer(s) of `x` hold for the chunk -/
def chunkOps (ups : List Buf) (x : String) (ch : Nat) : List Op := markerOps ups ch ++ opsFor ups x ch

/-- the column after the passes of the chunks `cs`, by the column-level function `applyData` alone -/
def colChunks (hash : Bytes → Nat) (ups : List Buf) (x : String) (cs : List Nat) (col : Col) : Col :=
  cs.foldl (fun c ch => (applyData hash c ch (chunkOps ups x ch)).col) col

/-- no buffer pass of the chunks `cs` appends a put (resizing string merge), each in the state in which it runs -/
def NoAppend (hash : Bytes → Nat) (ups : List Buf) (x : String) : List Nat → Col → Prop
  | [], _ => True
  | ch :: cs, c =>
    (applyData hash (applyData hash c ch (markerOps ups ch)).col ch (opsFor ups x ch)).appended = [] ∧
    NoAppend hash ups x cs (applyData hash c ch (chunkOps ups x ch)).col

instance decNoAppend (hash : Bytes → Nat) (ups : List Buf) (x : String) :
    (cs : List Nat) → (c : Col) → Decidable (NoAppend hash ups x cs c)
  | [], _ => isTrue trivial
  | ch :: cs, c =>
    have := decNoAppend hash ups x cs (applyData hash c ch (chunkOps ups x ch)).col
    inferInstanceAs (Decidable (_ ∧ _))

theorem colChunks_cons (hash : Bytes → Nat) (ups : List Buf) (x : String) (ch : Nat) (cs : List Nat) (col : Col) :
    colChunks hash ups x (ch :: cs) col = colChunks hash ups x cs (applyData hash col ch (chunkOps ups x ch)).col := rfl

theorem colChunks_shape (hash : Bytes → Nat) (ups : List Buf) (x : String) (cs : List Nat) (col : Col) :
    SameShape col (colChunks hash ups x cs col) := by
  unfold colChunks
  exact foldl_invariant (fun c => SameShape col c) _ cs col (SameShape.refl col)
    (fun b a _ hb => SameShape.trans hb (applyData_sameShape hash b a _))

theorem colChunks_congr (hash : Bytes → Nat) (ups ups' : List Buf) (x : String) (cs : List Nat)
    (h : ∀ c ∈ cs, chunkOps ups' x c = chunkOps ups x c) (col : Col) :
    colChunks hash ups' x cs col = colChunks hash ups x cs col := by
  induction cs generalizing col with
  | nil => rfl
  | cons c cs ih =>
    rw [colChunks_cons, colChunks_cons, h c (by simp)]
    exact ih (fun c' hc' => h c' (by simp [hc'])) _

theorem NoAppend_congr (hash : Bytes → Nat) (ups ups' : List Buf) (x : String) (cs : List Nat)
    (hm : ∀ c ∈ cs, markerOps ups' c = markerOps ups c) (ho : ∀ c ∈ cs, opsFor ups' x c = opsFor ups x c) (col : Col)
    (h : NoAppend hash ups x cs col) : NoAppend hash ups' x cs col := by
  induction cs generalizing col with
  | nil => trivial
  | cons c cs ih =>
    obtain ⟨h1, h2⟩ := h
    refine ⟨?_, ?_⟩
    · rw [hm c (by simp), ho c (by simp)]; exact h1
    · have : chunkOps ups' x c = chunkOps ups x c := by unfold chunkOps; rw [hm c (by simp), ho c (by simp)]
      rw [this]
      exact ih (fun c' hc' => hm c' (by simp [hc'])) (fun c' hc' => ho c' (by simp [hc'])) _ h2

theorem NoAppend_of_shape (hash : Bytes → Nat) (ups : List Buf) (x : String) (P : Col → Prop)
    (hsh : ∀ c c', SameShape c c' → P c → P c') (happ : ∀ c ch ops, P c → (applyData hash c ch ops).appended = [])
    (cs : List Nat) (col : Col) (h : P col) : NoAppend hash ups x cs col := by
  induction cs generalizing col with
  | nil => trivial
  | cons c cs ih =>
    exact ⟨happ _ c _ (hsh _ _ (applyData_sameShape hash col c _) h), ih _ (hsh _ _ (applyData_sameShape hash col c _) h)⟩

/-- numeric, enum and key columns: nothing is ever appended -/
theorem NoAppend_of_kind (hash : Bytes → Nat) (ups : List Buf) (x : String) (cs : List Nat) (col : Col)
    (hk : col.kind ≠ .str ∧ col.kind ≠ .record) : NoAppend hash ups x cs col :=
  NoAppend_of_shape hash ups x (fun c => c.kind ≠ .str ∧ c.kind ≠ .record) (fun _ _ s h => by rw [s.kind]; exact h)
    (fun c ch ops h => applyData_appended_nil_of_kind hash c ch ops h) cs col hk

theorem NoAppend_of_len (hash : Bytes → Nat) (ups : List Buf) (x : String) (cs : List Nat) (col : Col)
    (hm : ∀ v d, (col.merge v d).length = d.length) : NoAppend hash ups x cs col :=
  NoAppend_of_shape hash ups x (fun c => ∀ v d, (c.merge v d).length = d.length) (fun _ _ s h => by rw [s.merge]; exact h)
    (fun c ch ops h => applyData_appended_nil_of_len hash c ch ops h) cs col hm

theorem NoAppend_of_no_merge (hash : Bytes → Nat) (ups : List Buf) (x : String) (cs : List Nat) (col : Col)
    (hm : ∀ c ∈ cs, ∀ o ∈ opsFor ups x c, o.typ ≠ opMerge) : NoAppend hash ups x cs col := by
  induction cs generalizing col with
  | nil => trivial
  | cons c cs ih =>
    exact ⟨applyData_appended_nil_of_no_merge hash _ c _ (hm c (by simp)), ih _ (fun c' hc' => hm c' (by simp [hc']))⟩

/-! ## what stays unattached to a column along the commit -/

theorem RegSim.notComputed {s s' : Store} (h : RegSim s s') {n x : String}
    (hn : ∀ c, s.findCol n = some c → x ∉ c.computed) : ∀ c, s'.findCol n = some c → x ∉ c.computed := by
  intro c hc
  obtain ⟨c0, hc0, sg⟩ := h.sig_back hc
  rw [sg.computed]
  exact hn c0 hc0

theorem capStore_notComputed (s : Store) (t : Txn) {n x : String}
    (hn : ∀ c, s.findCol n = some c → x ∉ c.computed) : ∀ c, (capStore s t).findCol n = some c → x ∉ c.computed := by
  intro c hc
  obtain ⟨c0, hc0, e⟩ := capStore_computed s t n c hc
  rw [e]
  exact hn c0 hc0

/-! ## the part of `Buf.Inv` the passes need; `put` / `putAll` -/

structure BufOK (b : Buf) : Prop where
  chunk_ok : ChunkOK b
  cur_ok : ∀ s rest, b.rsecs = s :: rest → ∀ c, b.cur = some c → s.chunk = c

theorem BufOK.of_inv {b : Buf} (h : b.Inv) : BufOK b := ⟨h.chunk_ok, h.cur_ok⟩

/-- the two things `put` can do: extend the head section (the buffer is "in" the op's chunk), or open a new section -/
theorem put_forms (b : Buf) (o : Op) :
    (∃ s rest, b.rsecs = s :: rest ∧ b.cur = some (chunkOf o.idx) ∧
      b.put o = { b with last := o.idx, rsecs := { s with rops := o :: s.rops } :: rest }) ∨
    (b.put o = { b with last := o.idx, cur := some (chunkOf o.idx),
                        rsecs := ⟨chunkOf o.idx, b.last, [o]⟩ :: b.rsecs }) := by
  by_cases hc : b.cur = some (chunkOf o.idx)
  · cases hr : b.rsecs with
    | nil =>
      right
      unfold Buf.put
      simp only [hc, if_true, hr]
    | cons s rest =>
      left
      exact ⟨s, rest, rfl, hc, Buf.put_eq_same b o s rest hr hc⟩
  · right
    exact Buf.put_eq_new b o hc

theorem put_bufOK (b : Buf) (o : Op) (h : BufOK b) : BufOK (b.put o) := by
  rcases put_forms b o with ⟨s, rest, hr, hc, he⟩ | he
  · rw [he]
    have hsc : s.chunk = chunkOf o.idx := h.cur_ok s rest hr _ hc
    refine ⟨?_, ?_⟩
    · intro s' hs' x hx
      simp only [List.mem_cons] at hs'
      rcases hs' with rfl | hs'
      · simp only [List.mem_cons] at hx
        rcases hx with rfl | hx
        · exact hsc.symm
        · exact h.chunk_ok s (by rw [hr]; simp) x hx
      · exact h.chunk_ok s' (by rw [hr]; simp [hs']) x hx
    · intro s' rest' hsr c hcc
      simp only [List.cons.injEq] at hsr
      rw [← hsr.1]
      exact h.cur_ok s rest hr c hcc
  · rw [he]
    refine ⟨?_, ?_⟩
    · intro s' hs' x hx
      simp only [List.mem_cons] at hs'
      rcases hs' with rfl | hs'
      · simp only [List.mem_singleton] at hx; subst hx; rfl
      · exact h.chunk_ok s' hs' x hx
    · intro s' rest' hsr c hcc
      simp only [List.cons.injEq] at hsr
      simp only [Option.some.injEq] at hcc
      rw [← hsr.1]; exact hcc

theorem put_range_other (b : Buf) (o : Op) (h : BufOK b) (c2 : Nat) (hne : c2 ≠ chunkOf o.idx) :
    (b.put o).range c2 = b.range c2 := by
  rcases put_forms b o with ⟨s, rest, hr, hc, he⟩ | he
  · rw [he]
    have hsc : s.chunk = chunkOf o.idx := h.cur_ok s rest hr _ hc
    have hf : ¬ s.chunk = c2 := by rw [hsc]; exact fun e => hne e.symm
    unfold Buf.range Buf.secs
    simp only [hr, List.reverse_cons, List.filter_append, List.filter_cons, List.filter_nil, hf, decide_false,
      Bool.false_eq_true, if_false]
  · rw [he]
    have hf : ¬ chunkOf o.idx = c2 := fun e => hne e.symm
    unfold Buf.range Buf.secs
    simp only [List.reverse_cons, List.filter_append, List.filter_cons, List.filter_nil, hf, decide_false,
      Bool.false_eq_true, if_false, List.append_nil]

theorem put_chunks (b : Buf) (o : Op) :
    (b.put o).chunks = b.chunks ∨ (b.put o).chunks = b.chunks ++ [chunkOf o.idx] := by
  rcases put_forms b o with ⟨s, rest, hr, _, he⟩ | he
  · left
    rw [he]
    unfold Buf.chunks Buf.secs
    simp [hr]
  · right
    rw [he]
    unfold Buf.chunks Buf.secs
    simp

theorem putAll_bufOK (b : Buf) (ops : List Op) (h : BufOK b) : BufOK (b.putAll ops) := by
  induction ops generalizing b with
  | nil => exact h
  | cons o os ih => rw [Buf.putAll_cons]; exact ih _ (put_bufOK b o h)

theorem putAll_range_other (b : Buf) (ops : List Op) (h : BufOK b) (ch c2 : Nat) (hne : c2 ≠ ch)
    (hops : ∀ o ∈ ops, chunkOf o.idx = ch) : (b.putAll ops).range c2 = b.range c2 := by
  induction ops generalizing b with
  | nil => rfl
  | cons o os ih =>
    rw [Buf.putAll_cons, ih _ (put_bufOK b o h) (fun x hx => hops x (by simp [hx])),
      put_range_other b o h c2 (by rw [hops o (by simp)]; exact hne)]

theorem putAll_chunks (b : Buf) (ops : List Op) (ch : Nat) (hops : ∀ o ∈ ops, chunkOf o.idx = ch) :
    ∃ k, (b.putAll ops).chunks = b.chunks ++ List.replicate k ch := by
  induction ops generalizing b with
  | nil => exact ⟨0, by simp [Buf.putAll]⟩
  | cons o os ih =>
    rw [Buf.putAll_cons]
    obtain ⟨k, hk⟩ := ih (b.put o) (fun x hx => hops x (by simp [hx]))
    rcases put_chunks b o with e | e
    · exact ⟨k, by rw [hk, e]⟩
    · refine ⟨k + 1, ?_⟩
      rw [hk, e, hops o (by simp), List.append_assoc]
      congr 1

/-! ## the main pass over a chunk that has a single section in the buffer -/

/-- at most one section of the buffer belongs to chunk `ch` -/
def OneSec (u : Buf) (ch : Nat) : Prop := ∀ i j : Nat, u.chunks[i]? = some ch → u.chunks[j]? = some ch → i = j

theorem OneSec_of_nodup (u : Buf) (h : u.chunks.Nodup) (ch : Nat) : OneSec u ch := by
  unfold OneSec
  intro i j hi hj
  have hlt : i < u.chunks.length := by
    have := List.getElem?_eq_some_iff.1 hi
    exact this.1
  exact (List.getElem?_inj hlt h).1 (hi.trans hj.symm)

theorem secs_chunks (u : Buf) (i : Nat) (s : Sec) (h : u.secs[i]? = some s) : u.chunks[i]? = some s.chunk := by
  unfold Buf.chunks
  rw [List.getElem?_map, h]; rfl

theorem mpStep_skip (hash : Bytes → Nat) (ch : Nat) (acc : Col × Buf × Bool) (i : Nat)
    (h : ∀ sec, acc.2.1.secs[i]? = some sec → sec.chunk ≠ ch) : mpStep hash ch acc i = acc := by
  unfold mpStep
  cases hs : acc.2.1.secs[i]? with
  | none => rfl
  | some sec =>
    simp only
    rw [if_pos (h sec hs)]

theorem getElem?_append_replicate_ne {α : Type} (l : List α) (k : Nat) (a b : α) (i : Nat)
    (h : (l ++ List.replicate k a)[i]? = some b) (hne : b ≠ a) : l[i]? = some b := by
  by_cases hi : i < l.length
  · rwa [List.getElem?_append_left hi] at h
  · rw [List.getElem?_append_right (by omega)] at h
    have := List.mem_of_getElem? h
    rw [List.mem_replicate] at this
    exact absurd this.2 hne

theorem bufOK_of_secs (u : Buf) (X : List Sec) (hmap : X.map Sec.chunk = u.secs.map Sec.chunk)
    (hok : ∀ s ∈ X, ∀ o ∈ s.rops, chunkOf o.idx = s.chunk) (h : BufOK u) :
    BufOK ({ u with rsecs := X.reverse } : Buf) := by
  refine ⟨?_, ?_⟩
  · intro s hs o ho
    exact hok s (by simpa using hs) o ho
  · intro s rest hsr c hcc
    simp only at hsr hcc
    have hm : (X.reverse).map Sec.chunk = u.rsecs.map Sec.chunk := by
      rw [List.map_reverse, hmap]
      unfold Buf.secs
      rw [List.map_reverse, List.reverse_reverse]
    rw [hsr] at hm
    cases hr : u.rsecs with
    | nil => rw [hr] at hm; simp at hm
    | cons s0 rest0 =>
      rw [hr] at hm
      simp only [List.map_cons, List.cons.injEq] at hm
      rw [hm.1]
      exact h.cur_ok s0 rest0 hr c hcc

theorem secOps_chunk (u : Buf) (hok : BufOK u) (sec : Sec) (hm : sec ∈ u.secs) : ∀ o ∈ sec.ops, chunkOf o.idx = sec.chunk :=
  fun o ho => hok.chunk_ok sec (by simpa [Buf.secs] using hm) o (by simpa [Sec.ops] using ho)

theorem oneSec_split (u : Buf) (ch : Nat) (hone : OneSec u ch) (j : Nat) (sec : Sec) (hs : u.secs[j]? = some sec)
    (hc : sec.chunk = ch) :
    ∃ P T, u.secs = P ++ sec :: T ∧ P.length = j ∧ (∀ s ∈ P, s.chunk ≠ ch) ∧ (∀ s ∈ T, s.chunk ≠ ch) := by
  obtain ⟨hj, rfl⟩ := List.getElem?_eq_some_iff.1 hs
  have huniq : ∀ i b, u.secs[i]? = some b → b.chunk = ch → i = j := fun i b hi hb =>
    hone i j (by rw [secs_chunks u i b hi, hb]) (by rw [secs_chunks u j _ hs, hc])
  refine ⟨u.secs.take j, u.secs.drop (j + 1), ?_, by rw [List.length_take]; omega, fun s hs' e => ?_, fun s hs' e => ?_⟩
  · rw [← List.drop_eq_getElem_cons hj, List.take_append_drop]
  · obtain ⟨i, hi, rfl⟩ := List.mem_take_iff_getElem.1 hs'
    have := huniq i _ (List.getElem?_eq_getElem _) e
    omega
  · obtain ⟨i, hi, rfl⟩ := List.mem_drop_iff_getElem.1 hs'
    have := huniq (j + 1 + i) _ (List.getElem?_eq_getElem _) e
    omega

theorem filter_chunk_nil {l : List Sec} {ch : Nat} (h : ∀ s ∈ l, s.chunk ≠ ch) : l.filter (fun s => s.chunk = ch) = [] :=
  List.filter_eq_nil_iff.2 (fun s hs => by simpa using h s hs)

theorem split_rangeOps (u : Buf) (P T : List Sec) (sec : Sec) (hsecs : u.secs = P ++ sec :: T)
    (hP : ∀ s ∈ P, s.chunk ≠ sec.chunk) (hT : ∀ s ∈ T, s.chunk ≠ sec.chunk) : u.rangeOps sec.chunk = sec.ops := by
  unfold Buf.rangeOps Buf.range
  rw [hsecs, List.filter_append, filter_chunk_nil hP, List.filter_cons_of_pos (by simp), filter_chunk_nil hT]
  simp

theorem replaced_facts (u : Buf) (P T : List Sec) (sec : Sec) (ops' : List Op) (hsecs : u.secs = P ++ sec :: T)
    (hops : ∀ o ∈ ops', chunkOf o.idx = sec.chunk) :
    ({ u with rsecs := (P ++ { sec with rops := ops'.reverse } :: T).reverse } : Buf).chunks = u.chunks ∧
    (BufOK u → BufOK ({ u with rsecs := (P ++ { sec with rops := ops'.reverse } :: T).reverse } : Buf)) ∧
    ∀ c2, c2 ≠ sec.chunk →
      ({ u with rsecs := (P ++ { sec with rops := ops'.reverse } :: T).reverse } : Buf).range c2 = u.range c2 := by
  have hmap : (P ++ { sec with rops := ops'.reverse } :: T).map Sec.chunk = u.secs.map Sec.chunk := by
    rw [hsecs, List.map_append, List.map_append]; rfl
  refine ⟨?_, fun h => bufOK_of_secs u _ hmap (fun s hs o ho => ?_) h, fun c2 hne => ?_⟩
  · unfold Buf.chunks; rw [secs_set, hmap]
  · have hmem : ∀ x ∈ u.secs, ∀ o ∈ x.rops, chunkOf o.idx = x.chunk := fun x hx =>
      h.chunk_ok x (by simpa [Buf.secs] using hx)
    rw [List.mem_append, List.mem_cons] at hs
    rcases hs with hs | rfl | hs
    · exact hmem s (by rw [hsecs]; simp [hs]) o ho
    · exact hops o (by simpa using ho)
    · exact hmem s (by rw [hsecs]; simp [hs]) o ho
  · have hf : ¬ sec.chunk = c2 := fun e => hne e.symm
    unfold Buf.range
    rw [secs_set, hsecs, List.filter_append, List.filter_append, List.filter_cons_of_neg (by simpa using hf),
      List.filter_cons_of_neg (by simpa using hf)]

theorem range_split {j n : Nat} (h : j < n) : List.range n = List.range j ++ j :: List.range' (j + 1) (n - (j + 1)) := by
  have e : n = j + ((n - (j + 1)) + 1) := by omega
  rw [List.range_eq_range', List.range_eq_range', ← List.range'_succ]
  conv => lhs; rw [e]
  rw [← List.range'_append_1]
  simp

theorem foldl_mpStep_skip (hash : Bytes → Nat) (ch : Nat) (l : List Nat) (acc : Col × Buf × Bool)
    (h : ∀ i ∈ l, ∀ sec, acc.2.1.secs[i]? = some sec → sec.chunk ≠ ch) : l.foldl (mpStep hash ch) acc = acc :=
  foldl_invariant (fun a => a = acc) _ l acc rfl (fun a i hi ha => by rw [ha]; exact mpStep_skip hash ch acc i (h i hi))

/-- the loop of `mainPass` when at most one section belongs to the chunk: a single round, at that section — nothing
    before it; after it the appended puts sit in sections of this chunk behind everything the loop still visits -/
theorem mainPass_one_eq (hash : Bytes → Nat) (col : Col) (u : Buf) (hok : BufOK u) (P T : List Sec) (sec : Sec)
    (hone : OneSec u sec.chunk) (hsecs : u.secs = P ++ sec :: T) (hP : ∀ s ∈ P, s.chunk ≠ sec.chunk) :
    mainPass hash col sec.chunk u = mpStep hash sec.chunk (col, u, false) P.length := by
  have hlen : u.rsecs.length = u.secs.length := by simp [Buf.secs]
  have hjlt : P.length < u.secs.length := by rw [hsecs]; simp
  have hs : u.secs[P.length]? = some sec := by rw [hsecs]; exact getElem?_append_length P sec T
  rw [mainPass_eq, hlen, range_split hjlt, List.foldl_append, List.foldl_cons,
    foldl_mpStep_skip hash sec.chunk (List.range P.length) _ (fun i hi s0 hs0 => by
      rw [hsecs, List.getElem?_append_left (List.mem_range.1 hi)] at hs0
      exact hP s0 (List.mem_of_getElem? hs0))]
  apply foldl_mpStep_skip
  intro m hm s0 hs0 hch
  rw [mpStep_at hash sec.chunk col u false P sec T hsecs, if_pos rfl] at hs0
  obtain ⟨hro, hra⟩ := applyData_idx hash col sec.chunk sec.ops (fun i => chunkOf i = sec.chunk)
    (secOps_chunk u hok sec (by rw [hsecs]; simp))
  obtain ⟨b1, _, _⟩ := replaced_facts u P T sec (applyData hash col sec.chunk sec.ops).ops hsecs hro
  generalize ({ u with rsecs := (P ++ { sec with rops := (applyData hash col sec.chunk sec.ops).ops.reverse } :: T).reverse } :
    Buf) = B at hs0 b1
  obtain ⟨k, hk⟩ := putAll_chunks B (applyData hash col sec.chunk sec.ops).appended sec.chunk hra
  have h3 := secs_chunks _ m s0 hs0
  rw [List.mem_range'_1] at hm
  rw [hk, b1, hch, List.getElem?_append_left (by unfold Buf.chunks; rw [List.length_map]; omega)] at h3
  have := hone m P.length h3 (secs_chunks u P.length sec hs)
  omega

theorem mainPass_none_eq (hash : Bytes → Nat) (col : Col) (ch : Nat) (u : Buf)
    (hex : ¬ ∃ (j : Nat) (sec : Sec), u.secs[j]? = some sec ∧ sec.chunk = ch) :
    mainPass hash col ch u = (col, u, false) ∧ u.rangeOps ch = [] := by
  refine ⟨?_, ?_⟩
  · rw [mainPass_eq]
    exact foldl_mpStep_skip hash ch _ _ (fun i _ s0 hs0 hch => hex ⟨i, s0, hs0, hch⟩)
  · unfold Buf.rangeOps Buf.range
    have : u.secs.filter (fun s => decide (s.chunk = ch)) = [] := by
      rw [List.filter_eq_nil_iff]
      intro s0 hs0 hch
      obtain ⟨i, hi⟩ := List.mem_iff_getElem?.1 hs0
      exact hex ⟨i, s0, hi, by simpa using hch⟩
    rw [this]; rfl

/-- **main pass, one section for the chunk** (resizing merges allowed): the column is `applyData` over the chunk's ops; the
    sections of the other chunks are untouched, the buffer stays well-formed, the other chunks keep their number of
    sections -/
theorem mainPass_one (hash : Bytes → Nat) (col : Col) (ch : Nat) (u : Buf) (hok : BufOK u) (hone : OneSec u ch) :
    (mainPass hash col ch u).1 = (applyData hash col ch (u.rangeOps ch)).col ∧
    (∀ c2, c2 ≠ ch → (mainPass hash col ch u).2.1.range c2 = u.range c2) ∧
    BufOK (mainPass hash col ch u).2.1 ∧
    (∀ c2, c2 ≠ ch → OneSec u c2 → OneSec (mainPass hash col ch u).2.1 c2) := by
  by_cases hex : ∃ (j : Nat) (sec : Sec), u.secs[j]? = some sec ∧ sec.chunk = ch
  · obtain ⟨j, sec, hs, rfl⟩ := hex
    obtain ⟨P, T, hsecs, _, hP, hT⟩ := oneSec_split u sec.chunk hone j sec hs rfl
    obtain ⟨hro, hra⟩ := applyData_idx hash col sec.chunk sec.ops (fun i => chunkOf i = sec.chunk)
      (secOps_chunk u hok sec (by rw [hsecs]; simp))
    obtain ⟨b1, b2, b3⟩ := replaced_facts u P T sec (applyData hash col sec.chunk sec.ops).ops hsecs hro
    rw [mainPass_one_eq hash col u hok P T sec hone hsecs hP, mpStep_at hash sec.chunk col u false P sec T hsecs,
      if_pos rfl, split_rangeOps u P T sec hsecs hP hT]
    generalize ({ u with rsecs := (P ++ { sec with rops := (applyData hash col sec.chunk sec.ops).ops.reverse } :: T).reverse } :
      Buf) = B at b1 b2 b3
    obtain ⟨k, hk⟩ := putAll_chunks B (applyData hash col sec.chunk sec.ops).appended sec.chunk hra
    rw [b1] at hk
    refine ⟨rfl, fun c2 hne => ?_, putAll_bufOK B _ (b2 hok), fun c2 hne h2 i i' hi hi' => ?_⟩
    · exact (putAll_range_other B _ (b2 hok) sec.chunk c2 hne hra).trans (b3 c2 hne)
    · rw [hk] at hi hi'
      exact h2 i i' (getElem?_append_replicate_ne _ k sec.chunk c2 i hi hne)
        (getElem?_append_replicate_ne _ k sec.chunk c2 i' hi' hne)
  · obtain ⟨h1, h2⟩ := mainPass_none_eq hash col ch u hex
    rw [h1, h2]
    exact ⟨(applyData_col_nil hash col ch).symm, fun _ _ => rfl, hok, fun _ _ h => h⟩

/-! ## the pass that appends nothing keeps the buffer well-formed too -/

theorem mpSpecG_map_chunk (hash : Bytes → Nat) (ch : Nat) (S : List Sec) (c : Col) :
    (mpSpecG hash ch c S).2.map Sec.chunk = S.map Sec.chunk := by
  induction S generalizing c with
  | nil => rfl
  | cons x xs ih =>
    simp only [mpSpecG]
    split <;> simp [ih]

theorem mpSpecG_chunk_ok (hash : Bytes → Nat) (ch : Nat) (S : List Sec) (c : Col)
    (hS : ∀ s ∈ S, ∀ o ∈ s.rops, chunkOf o.idx = s.chunk) :
    ∀ s ∈ (mpSpecG hash ch c S).2, ∀ o ∈ s.rops, chunkOf o.idx = s.chunk := by
  induction S generalizing c with
  | nil => intro s hs; cases hs
  | cons x xs ih =>
    simp only [mpSpecG]
    have ihx := fun c => ih c (fun s hs => hS s (by simp [hs]))
    by_cases hx : x.chunk = ch
    · rw [if_pos hx]
      intro s hs o ho
      simp only [List.mem_cons] at hs
      rcases hs with rfl | hs
      · simp only at ho ⊢
        have hxo : ∀ o ∈ x.ops, chunkOf o.idx = x.chunk := fun o ho => hS x (by simp) o (by simpa [Sec.ops] using ho)
        exact (applyData_idx hash c ch x.ops (fun i => chunkOf i = x.chunk) hxo).1 o (by simpa using ho)
      · exact ihx _ s hs o ho
    · rw [if_neg hx]
      intro s hs o ho
      simp only [List.mem_cons] at hs
      rcases hs with rfl | hs
      · exact hS s (by simp) o ho
      · exact ihx _ s hs o ho

/-! ## a pass is clean when it appends nothing, or when its chunk has one section in a well-formed buffer -/

def PassOK (hash : Bytes → Nat) (c : Col) (ch : Nat) (u : Buf) : Prop :=
  (applyData hash c ch (u.rangeOps ch)).appended = [] ∨ (BufOK u ∧ OneSec u ch)

theorem pass_clean (hash : Bytes → Nat) (c : Col) (ch : Nat) (u : Buf) (h : PassOK hash c ch u) :
    (mainPass hash c ch u).1 = (applyData hash c ch (u.rangeOps ch)).col ∧
    (∀ c2, c2 ≠ ch → (mainPass hash c ch u).2.1.range c2 = u.range c2) ∧
    (BufOK u → BufOK (mainPass hash c ch u).2.1) ∧
    (∀ c2, c2 ≠ ch → OneSec u c2 → OneSec (mainPass hash c ch u).2.1 c2) := by
  rcases h with hna | ⟨hok, hone⟩
  · obtain ⟨m1, m2, _⟩ := mainPassG hash c ch u hna
    refine ⟨m1, fun c2 hne => mainPassG_range_other hash c ch u hna c2 hne, ?_, ?_⟩
    · intro hok
      rw [m2]
      exact bufOK_of_secs u _ (mpSpecG_map_chunk hash ch u.secs c)
        (mpSpecG_chunk_ok hash ch u.secs c (fun s hs => hok.chunk_ok s (by simpa [Buf.secs] using hs))) hok
    · intro c2 _ h2
      have : (mainPass hash c ch u).2.1.chunks = u.chunks := by
        rw [m2]
        unfold Buf.chunks
        rw [secs_set, mpSpecG_map_chunk]
      unfold OneSec
      intro i j hi hj
      rw [this] at hi hj
      exact h2 i j hi hj
  · obtain ⟨p1, p2, p3, p4⟩ := mainPass_one hash c ch u hok hone
    exact ⟨p1, p2, fun _ => p3, p4⟩

/-! ## the plumbing of a commit under `PassOK` -/

/-- `BufRel` plus what the passes keep of the buffers of `x` -/
def BufRel1 (x : String) (ch : Nat) (u u' : Buf) : Prop :=
  BufRel x [ch] u u' ∧ (u.column = x → (BufOK u → BufOK u') ∧ ∀ c2, c2 ≠ ch → OneSec u c2 → OneSec u' c2)

theorem BufRel1.refl (x : String) (ch : Nat) (u : Buf) : BufRel1 x ch u u :=
  ⟨BufRel.refl x _ u, fun _ => ⟨fun h => h, fun _ _ h => h⟩⟩

theorem Rel2.mono {α β : Type} {R S : α → β → Prop} (h : ∀ a b, R a b → S a b) {l1 : List α} {l2 : List β}
    (hr : Rel2 R l1 l2) : Rel2 S l1 l2 := by
  induction hr with
  | nil => exact Rel2.nil
  | cons hab _ ih => exact Rel2.cons (h _ _ hab) ih

theorem Rel2.toBufRel {x : String} {ch : Nat} {ups ups' : List Buf} (h : Rel2 (BufRel1 x ch) ups ups') :
    Rel2 (BufRel x [ch]) ups ups' := Rel2.mono (fun _ _ hab => hab.1) h

theorem cuStep_data (chunk : Nat) (s : Store) (done : List Buf) (b : Bool) (u : Buf) (col : Col)
    (hr : u.column ≠ rowColumn) (hf : s.findCol u.column = some col) (hd : col.kind.isData = true) :
    (cuStep chunk (s, done, b) u = (s, done ++ [u], b) ∧ u.rangeOps chunk = []) ∨
    cuStep chunk (s, done, b) u =
      (computedPass { (s.setCol (mainPass s.hash col chunk u).1) with
          panicked := s.panicked || (mainPass s.hash col chunk u).2.2 } col.computed chunk (mainPass s.hash col chunk u).2.1,
       done ++ [(mainPass s.hash col chunk u).2.1], true) := by
  unfold cuStep
  by_cases he : u.isEmpty = true
  · exact .inl ⟨if_pos (by simp [he]), isEmpty_range u he chunk⟩
  · right
    rw [if_neg (by simpa [he] using hr)]
    dsimp only
    rw [hf]
    exact if_pos hd

theorem cuStep_self_ok (chunk : Nat) (s : Store) (done : List Buf) (b : Bool) (u : Buf) (x : String) (col : Col)
    (hxr : x ≠ rowColumn) (hux : u.column = x) (hf : s.findCol x = some col) (hd : col.kind.isData = true)
    (hcomp : x ∉ col.computed) (hok : PassOK s.hash col chunk u) :
    (cuStep chunk (s, done, b) u).1.findCol x = some (applyData s.hash col chunk (u.rangeOps chunk)).col ∧
    ∃ u', (cuStep chunk (s, done, b) u).2.1 = done ++ [u'] ∧ BufRel1 x chunk u u' ∧
      ((applyData s.hash col chunk (u.rangeOps chunk)).appended = [] →
        u'.rangeOps chunk = (applyData s.hash col chunk (u.rangeOps chunk)).ops) := by
  subst hux
  rcases cuStep_data chunk s done b u col hxr hf hd with ⟨e, hr⟩ | e <;> rw [e]
  · exact ⟨by rw [hr, applyData_col_nil]; exact hf, u, rfl, BufRel1.refl _ _ u, fun _ => by rw [hr, applyData_ops_nil]⟩
  · obtain ⟨p1, p2, p3, p4⟩ := pass_clean s.hash col chunk u hok
    obtain ⟨g1, g2⟩ := mainPass_general s.hash col chunk u
    refine ⟨?_, _, rfl, ⟨⟨g2, fun e => absurd e hxr, fun _ c2 hc2 => p2 c2 (by simpa using hc2)⟩, fun _ => ⟨p3, p4⟩⟩,
      mainPassG_rangeOps s.hash col chunk u⟩
    rw [computedPass_frame _ _ _ _ _ hcomp, findCol_with_panicked, setCol_found s col _ _ hf g1.name _, if_pos rfl, p1]

theorem cuStep_other_ok (chunk : Nat) (s : Store) (done : List Buf) (b : Bool) (u : Buf) (x : String)
    (hux : u.column ≠ x) (hcomp : ∀ c, s.findCol u.column = some c → x ∉ c.computed) :
    (cuStep chunk (s, done, b) u).1.findCol x = s.findCol x ∧
    ∃ u', (cuStep chunk (s, done, b) u).2.1 = done ++ [u'] ∧ BufRel1 x chunk u u' := by
  obtain ⟨u', h1, h2, h3, _⟩ := cuStep_relP chunk s s done b u (RegSim.refl s)
  exact ⟨cuStep_frame chunk s done b u x hux hcomp, u', h1, ⟨h2, h3, fun e => absurd e hux⟩, fun e => absurd e hux⟩

/-- the guard of `commitUpdates` for one chunk: every buffer of `x` passes cleanly, each in the state in which it runs -/
def BufsOK (hash : Bytes → Nat) (x : String) (ch : Nat) : List Buf → Col → Prop
  | [], _ => True
  | u :: us, c =>
    if u.column = x then PassOK hash c ch u ∧ BufsOK hash x ch us (applyData hash c ch (u.rangeOps ch)).col
    else BufsOK hash x ch us c

theorem BufsOK_cons (hash : Bytes → Nat) (x : String) (ch : Nat) (u : Buf) (us : List Buf) (c : Col) :
    BufsOK hash x ch (u :: us) c =
      (if u.column = x then PassOK hash c ch u ∧ BufsOK hash x ch us (applyData hash c ch (u.rangeOps ch)).col
       else BufsOK hash x ch us c) := rfl

/-- **`commitUpdates`, any data column, guard `PassOK`**: the column, the buffers handed on, and — when nothing is appended —
    the ops these hold for the chunk (every `Merge` replaced by the `Put` of its result) -/
theorem cuFold_ok (x : String) (chunk : Nat) (hxr : x ≠ rowColumn) (ups : List Buf) :
    ∀ (acc : Store × List Buf × Bool) (col : Col), acc.1.findCol x = some col → col.kind.isData = true →
      (∀ v ∈ ups, ∀ c, acc.1.findCol v.column = some c → x ∉ c.computed) → BufsOK acc.1.hash x chunk ups col →
      (ups.foldl (cuStep chunk) acc).1.findCol x =
        some (applyData acc.1.hash col chunk (opsFor ups x chunk)).col ∧
      ∃ ups', (ups.foldl (cuStep chunk) acc).2.1 = acc.2.1 ++ ups' ∧ Rel2 (BufRel1 x chunk) ups ups' ∧
        ((applyData acc.1.hash col chunk (opsFor ups x chunk)).appended = [] →
          opsFor ups' x chunk = (applyData acc.1.hash col chunk (opsFor ups x chunk)).ops) := by
  induction ups with
  | nil =>
    intro acc col hf _ _ _
    have e : opsFor [] x chunk = [] := rfl
    exact ⟨hf.trans (by rw [e, applyData_col_nil]), [], by simp, Rel2.nil, fun _ => by rw [e, applyData_ops_nil]⟩
  | cons u us ih =>
    intro acc col hf hd hcomp hok
    have hsim := cuStep_sim chunk acc.1 acc.2.1 acc.2.2 u
    have hcomp' : ∀ v ∈ us, ∀ c, (cuStep chunk acc u).1.findCol v.column = some c → x ∉ c.computed :=
      fun v hv => hsim.reg.notComputed (hcomp v (by simp [hv]))
    have hhash : (cuStep chunk acc u).1.hash = acc.1.hash := hsim.hash
    rw [BufsOK_cons] at hok
    rw [List.foldl_cons]
    by_cases hux : u.column = x
    · rw [if_pos hux] at hok
      obtain ⟨f1, u', e1, r1, o1⟩ := cuStep_self_ok chunk acc.1 acc.2.1 acc.2.2 u x col hxr hux hf hd
        (hcomp u (by simp) col (hux ▸ hf)) hok.1
      obtain ⟨f2, us', e2, r2', o2⟩ := ih (cuStep chunk acc u) _ f1
        (by rw [(applyData_sameShape acc.1.hash col chunk (u.rangeOps chunk)).kind]; exact hd) hcomp'
        (by rw [hhash]; exact hok.2)
      rw [hhash] at f2 o2
      rw [opsFor_cons_self u us x chunk hux]
      refine ⟨by rw [f2, applyData_col_append], u' :: us', ?_, Rel2.cons r1 r2', fun hna => ?_⟩
      · rw [e2]; exact (congrArg (· ++ us') e1).trans (by simp)
      · rw [applyData_appended_append, List.append_eq_nil_iff] at hna
        rw [opsFor_cons_self u' us' x chunk (r1.1.1.trans hux), o1 hna.1, o2 hna.2, applyData_ops_append]
    · rw [if_neg hux] at hok
      obtain ⟨f1, u', e1, r1⟩ := cuStep_other_ok chunk acc.1 acc.2.1 acc.2.2 u x hux (hcomp u (by simp))
      obtain ⟨f2, us', e2, r2', o2⟩ := ih (cuStep chunk acc u) col (f1.trans hf) hd hcomp' (by rw [hhash]; exact hok)
      rw [hhash] at f2 o2
      rw [opsFor_cons_other u us x chunk hux]
      refine ⟨f2, u' :: us', ?_, Rel2.cons r1 r2', fun hna => ?_⟩
      · rw [e2]; exact (congrArg (· ++ us') e1).trans (by simp)
      · rw [opsFor_cons_other u' us' x chunk (by rw [r1.1.1]; exact hux)]; exact o2 hna

/-- **one dirty chunk, any data column, guard `BufsOK`**; the last clause is what the logger is handed for `x` -/
theorem commitChunk_ok_full (s : Store) (chunk : Nat) (cr : Bool) (ups : List Buf) (x : String) (col : Col)
    (hxr : x ≠ rowColumn) (hf : s.findCol x = some col) (hd : col.kind.isData = true)
    (hcomp : ∀ v ∈ ups, ∀ c, s.findCol v.column = some c → x ∉ c.computed)
    (hok : BufsOK s.hash x chunk ups (applyData s.hash col chunk (markerOpsCr cr ups chunk)).col) :
    (s.commitChunk chunk cr ups).1.findCol x =
      some (applyData s.hash col chunk (markerOpsCr cr ups chunk ++ opsFor ups x chunk)).col ∧
    RegSim s (s.commitChunk chunk cr ups).1 ∧
    Rel2 (BufRel1 x chunk) ups (s.commitChunk chunk cr ups).2 ∧
    ((applyData s.hash (applyData s.hash col chunk (markerOpsCr cr ups chunk)).col chunk (opsFor ups x chunk)).appended = [] →
      opsFor (s.commitChunk chunk cr ups).2 x chunk =
        (applyData s.hash (applyData s.hash col chunk (markerOpsCr cr ups chunk)).col chunk (opsFor ups x chunk)).ops) := by
  rw [commitChunk_def]
  obtain ⟨f1, f2, _⟩ := finishChunk_fields (s.nextId + 1) chunk cr
    ((markStore s chunk cr ups).commitUpdates chunk ups)
  have hreg := markStore_regSim s chunk cr ups
  have fm := markStore_col s chunk cr ups x col hf hd
  have hh := markStore_hash s chunk cr ups
  generalize markStore s chunk cr ups = ms at f1 f2 hreg fm hh
  have hcomp' : ∀ v ∈ ups, ∀ c, ms.findCol v.column = some c → x ∉ c.computed :=
    fun v hv => hreg.notComputed (hcomp v hv)
  obtain ⟨fu, ups', hu1, hrel, ho⟩ := cuFold_ok x chunk hxr ups (ms, [], false) _ fm
    (by rw [(applyData_sameShape s.hash col chunk _).kind]; exact hd) hcomp' (by rw [hh]; exact hok)
  rw [← commitUpdates_eq] at fu hu1
  rw [List.nil_append] at hu1
  have hsim := commitUpdates_eq ms chunk ups ▸ cuFold_sim chunk ups ms [] false
  rw [hh] at fu ho
  rw [f1, hu1]
  exact ⟨by rw [findCol_congr f2, fu, applyData_col_append],
    RegSim.trans hreg (RegSim.trans hsim.reg (RegSim.of_cols f2)), hrel, ho⟩

/-- the guard of a whole commit: for every dirty chunk, in order, `BufsOK` in the state the markers of the chunk leave -/
def ChunksOK (hash : Bytes → Nat) (ups : List Buf) (x : String) : List Nat → Col → Prop
  | [], _ => True
  | ch :: cs, c =>
    BufsOK hash x ch ups (applyData hash c ch (markerOps ups ch)).col ∧
    ChunksOK hash ups x cs (applyData hash c ch (chunkOps ups x ch)).col

theorem BufsOK_transfer (hash : Bytes → Nat) (x : String) (c c2 : Nat) (hne : c2 ≠ c) {ups ups1 : List Buf}
    (hrel : Rel2 (BufRel1 x c) ups ups1) : ∀ col, BufsOK hash x c2 ups col → BufsOK hash x c2 ups1 col := by
  induction hrel with
  | nil => intro col h; exact h
  | @cons u u1 us us1 hab _ ih =>
    intro col h
    obtain ⟨⟨h1, _, h3⟩, h4⟩ := hab
    rw [BufsOK_cons] at h ⊢
    by_cases hx : u.column = x
    · rw [if_pos hx] at h
      rw [if_pos (h1.trans hx)]
      have hr : u1.rangeOps c2 = u.rangeOps c2 := by
        unfold Buf.rangeOps
        rw [h3 hx c2 (by simpa using hne)]
      rw [hr]
      refine ⟨?_, ih _ h.2⟩
      rcases h.1 with a | ⟨a1, a2⟩
      · left; rw [hr]; exact a
      · right; exact ⟨(h4 hx).1 a1, (h4 hx).2 c2 hne a2⟩
    · rw [if_neg hx] at h
      rw [if_neg (by rw [h1]; exact hx)]
      exact ih _ h

theorem ChunksOK_transfer (hash : Bytes → Nat) (x : String) (c : Nat) {ups ups1 : List Buf}
    (hrel : Rel2 (BufRel1 x c) ups ups1) (cs : List Nat) (hc : c ∉ cs)
    (hm : ∀ c2 ∈ cs, markerOps ups1 c2 = markerOps ups c2) (ho : ∀ c2 ∈ cs, opsFor ups1 x c2 = opsFor ups x c2) :
    ∀ col, ChunksOK hash ups x cs col → ChunksOK hash ups1 x cs col := by
  induction cs with
  | nil => intro col _; trivial
  | cons c2 cs ih =>
    intro col h
    obtain ⟨h1, h2⟩ := h
    have hne : c2 ≠ c := fun e => hc (by rw [e]; simp)
    have hco : chunkOps ups1 x c2 = chunkOps ups x c2 := by
      unfold chunkOps; rw [hm c2 (by simp), ho c2 (by simp)]
    refine ⟨?_, ?_⟩
    · rw [hm c2 (by simp)]
      exact BufsOK_transfer hash x c c2 hne hrel _ h1
    · rw [hco]
      exact ih (fun e => hc (by simp [e])) (fun c' hc' => hm c' (by simp [hc'])) (fun c' hc' => ho c' (by simp [hc'])) _ h2

theorem rel2_next {x : String} {c : Nat} {ups ups1 : List Buf} (hrel : Rel2 (BufRel x [c]) ups ups1) (cs : List Nat)
    (hc : c ∉ cs) :
    ups1.find? isMarkerBuf = ups.find? isMarkerBuf ∧ (∀ c2 ∈ cs, markerOps ups1 c2 = markerOps ups c2) ∧
    (∀ c2 ∈ cs, opsFor ups1 x c2 = opsFor ups x c2) ∧ (∀ c2 ∈ cs, chunkOps ups1 x c2 = chunkOps ups x c2) := by
  have hmo : ∀ c2 ∈ cs, markerOps ups1 c2 = markerOps ups c2 := fun c2 _ => by unfold markerOps; rw [hrel.find_marker]
  have hof : ∀ c2 ∈ cs, opsFor ups1 x c2 = opsFor ups x c2 := fun c2 hc2 =>
    hrel.opsFor c2 (fun e => hc (List.mem_singleton.1 e ▸ hc2))
  exact ⟨hrel.find_marker, hmo, hof, fun c2 hc2 => by unfold chunkOps; rw [hmo c2 hc2, hof c2 hc2]⟩

theorem rel2_notComputed {x y : String} {D : List Nat} {ups ups1 : List Buf} (hrel : Rel2 (BufRel x D) ups ups1)
    {s s1 : Store} (hreg : RegSim s s1) (hcomp : ∀ v ∈ ups, ∀ c, s.findCol v.column = some c → y ∉ c.computed) :
    ∀ v ∈ ups1, ∀ c, s1.findCol v.column = some c → y ∉ c.computed := by
  intro v' hv'
  obtain ⟨v, hv, hb⟩ := hrel.columns v' hv'
  rw [hb.1]
  exact hreg.notComputed (hcomp v hv)

theorem commitLoop_ok (x : String) (hxr : x ≠ rowColumn) (cs : List Nat) :
    ∀ (s : Store) (ups : List Buf) (col : Col) (cr : Bool), cs.Nodup → cr = (ups.find? isMarkerBuf).isSome →
      s.findCol x = some col → col.kind.isData = true →
      (∀ v ∈ ups, ∀ c, s.findCol v.column = some c → x ∉ c.computed) → ChunksOK s.hash ups x cs col →
      (commitLoop cr cs s ups).1.findCol x = some (colChunks s.hash ups x cs col) := by
  induction cs with
  | nil =>
    intro s ups col cr _ _ hf _ _ _
    exact hf
  | cons c cs ih =>
    intro s ups col cr hnd hcr hf hd hcomp hok
    obtain ⟨hc_notin, hnd'⟩ := List.nodup_cons.1 hnd
    subst hcr
    obtain ⟨f1, hreg, hrel1, _⟩ := commitChunk_ok_full s c (ups.find? isMarkerBuf).isSome ups x col hxr hf hd hcomp
      (by rw [markerOpsCr_isSome]; exact hok.1)
    obtain ⟨hfm, hmo, hof, hco⟩ := rel2_next hrel1.toBufRel cs hc_notin
    have hh := commitChunk_hash s c (ups.find? isMarkerBuf).isSome ups
    rw [markerOpsCr_isSome] at f1
    rw [commitLoop_cons, ih _ _ _ _ hnd' (by rw [hfm]) f1
      (by rw [(applyData_sameShape s.hash col c _).kind]; exact hd) (rel2_notComputed hrel1.toBufRel hreg hcomp)
      (by rw [hh]; exact ChunksOK_transfer s.hash x c hrel1 cs hc_notin hmo hof _ hok.2),
      hh, colChunks_congr s.hash ups _ x cs hco, colChunks_cons]
    rfl

theorem commit_col_ok (s : Store) (t : Txn) (x : String) (col : Col)
    (hxr : x ≠ rowColumn) (hf : s.findCol x = some col) (hd : col.kind.isData = true)
    (hcomp : ∀ v ∈ t.updates, ∀ c, s.findCol v.column = some c → x ∉ c.computed)
    (hok : ChunksOK s.hash t.updates x t.dirtyChunks (capCol s t col)) :
    (s.commit t).findCol x = some (colChunks s.hash t.updates x t.dirtyChunks (capCol s t col)) := by
  rw [commit_eq']
  have f1 : (capStore s t).findCol x = some (capCol s t col) := by rw [capStore_findCol_eq, hf]; rfl
  have hcomp1 : ∀ v ∈ t.updates, ∀ c, (capStore s t).findCol v.column = some c → x ∉ c.computed :=
    fun v hv => capStore_notComputed s t (hcomp v hv)
  have := commitLoop_ok x hxr t.dirtyChunks (capStore s t) t.updates (capCol s t col) t.markers.isSome
    (sorted_nodup _ (dirtyChunks_sorted t)) rfl f1 (by rw [(capCol_meta s t col).2.1]; exact hd) hcomp1
    (by rw [capStore_hash]; exact hok)
  rw [this, capStore_hash]

/-! ### sufficient conditions for the guard -/

theorem BufsOK_of_noAppend (hash : Bytes → Nat) (x : String) (ch : Nat) (ups : List Buf) :
    ∀ col, (applyData hash col ch (opsFor ups x ch)).appended = [] → BufsOK hash x ch ups col := by
  induction ups with
  | nil => intro col _; trivial
  | cons u us ih =>
    intro col h
    rw [BufsOK_cons]
    by_cases hux : u.column = x
    · rw [if_pos hux]
      rw [opsFor_cons_self u us x ch hux, applyData_appended_append, List.append_eq_nil_iff] at h
      exact ⟨Or.inl h.1, ih _ h.2⟩
    · rw [if_neg hux]
      rw [opsFor_cons_other u us x ch hux] at h
      exact ih _ h

/-- `NoAppend` (no resizing merge) is one way to meet the guard … -/
theorem ChunksOK_of_noAppend (hash : Bytes → Nat) (ups : List Buf) (x : String) (cs : List Nat) :
    ∀ col, NoAppend hash ups x cs col → ChunksOK hash ups x cs col := by
  induction cs with
  | nil => intro col _; trivial
  | cons c cs ih =>
    intro col h
    exact ⟨BufsOK_of_noAppend hash x c ups _ h.1, ih _ h.2⟩

theorem BufsOK_of_one (hash : Bytes → Nat) (x : String) (ch : Nat) (ups : List Buf)
    (h : ∀ v ∈ ups, v.column = x → BufOK v ∧ OneSec v ch) : ∀ col, BufsOK hash x ch ups col := by
  induction ups with
  | nil => intro col; trivial
  | cons u us ih =>
    intro col
    rw [BufsOK_cons]
    have ih' := ih (fun v hv => h v (by simp [hv]))
    by_cases hux : u.column = x
    · rw [if_pos hux]
      exact ⟨Or.inr (h u (by simp) hux), ih' _⟩
    · rw [if_neg hux]
      exact ih' _

/-- … well-formed buffers with one section per dirty chunk are another (resizing merges allowed, no condition on the ops) -/
theorem ChunksOK_of_one (hash : Bytes → Nat) (ups : List Buf) (x : String) (cs : List Nat)
    (h : ∀ v ∈ ups, v.column = x → BufOK v ∧ ∀ ch ∈ cs, OneSec v ch) : ∀ col, ChunksOK hash ups x cs col := by
  induction cs with
  | nil => intro col; trivial
  | cons c cs ih =>
    intro col
    exact ⟨BufsOK_of_one hash x c ups (fun v hv hx => ⟨(h v hv hx).1, (h v hv hx).2 c (by simp)⟩) _,
      ih (fun v hv hx => ⟨(h v hv hx).1, fun ch hch => (h v hv hx).2 ch (by simp [hch])⟩) _⟩

theorem ChunksOK_of_nodup (hash : Bytes → Nat) (ups : List Buf) (x : String) (cs : List Nat)
    (h : ∀ v ∈ ups, v.column = x → BufOK v ∧ v.chunks.Nodup) (col : Col) : ChunksOK hash ups x cs col :=
  ChunksOK_of_one hash ups x cs (fun v hv hx => ⟨(h v hv hx).1, fun ch _ => OneSec_of_nodup v (h v hv hx).2 ch⟩) col

theorem BufsOK_of_none (hash : Bytes → Nat) (x : String) (ch : Nat) (ups : List Buf) (h : ∀ v ∈ ups, v.column ≠ x) :
    ∀ col, BufsOK hash x ch ups col :=
  BufsOK_of_one hash x ch ups (fun v hv hx => absurd hx (h v hv))

theorem BufsOK_of_distinct (hash : Bytes → Nat) (ch : Nat) (ups : List Buf) (hd : BufsDistinct ups) (u : Buf)
    (hu : u ∈ ups) (col : Col) (hok : PassOK hash col ch u) : BufsOK hash u.column ch ups col := by
  induction ups with
  | nil => cases hu
  | cons v vs ih =>
    unfold BufsDistinct at hd
    simp only [List.map_cons, List.nodup_cons] at hd
    rw [BufsOK_cons]
    rcases List.mem_cons.1 hu with rfl | hu
    · rw [if_pos rfl]
      refine ⟨hok, BufsOK_of_none hash _ ch vs ?_ _⟩
      intro w hw e
      exact hd.1 (List.mem_map.2 ⟨w, hw, e⟩)
    · have hne : v.column ≠ u.column := fun e => hd.1 (List.mem_map.2 ⟨u, hu, e.symm⟩)
      rw [if_neg hne]
      exact ih hd.2 hu

/-! ### a checker for `BufOK` -/

/-- executable check of `BufOK` (for concrete buffers: `bufOK_of_check b (by decide)`) -/
def bufOKb (b : Buf) : Bool :=
  b.rsecs.all (fun s => s.rops.all (fun o => chunkOf o.idx == s.chunk)) &&
    (match b.rsecs, b.cur with
     | s :: _, some c => s.chunk == c
     | _, _ => true)

theorem bufOK_of_check (b : Buf) (h : bufOKb b = true) : BufOK b := by
  unfold bufOKb at h
  rw [Bool.and_eq_true] at h
  refine ⟨?_, ?_⟩
  · intro s hs o ho
    have h1 := List.all_eq_true.1 h.1 s hs
    have h2 := List.all_eq_true.1 h1 o ho
    simpa using h2
  · intro s rest hsr c hc
    have h2 := h.2
    rw [hsr, hc] at h2
    simpa using h2

/-! ## `NoAppend` (no resizing string merge): the special case -/

/-- **one dirty chunk, any data column** (`commitChunk`): markers first, then the column's buffer(s). The column `x`
    resolves to afterwards is `applyData` over the marker ops of the chunk followed by the ops issued for `x` in the
    chunk — an equality of `Col` records. `hna`: the buffer pass appends nothing (automatic for numeric / enum / key
    columns, `applyData_appended_nil_of_kind`; for strings: no resizing merge). Also: the registry keeps its shape,
    the buffers of `x` keep the sections of the other chunks, and what the logger is handed for `x` in the chunk is the
    ops as `applyData` rewrote them in the column state the markers leave — every `Merge` replaced by the `Put` of its
    result. -/
theorem commitChunk_col_full (s : Store) (chunk : Nat) (cr : Bool) (ups : List Buf) (x : String) (col : Col)
    (hxr : x ≠ rowColumn) (hf : s.findCol x = some col) (hd : col.kind.isData = true)
    (hcomp : ∀ v ∈ ups, ∀ c, s.findCol v.column = some c → x ∉ c.computed)
    (hna : (applyData s.hash (applyData s.hash col chunk (markerOpsCr cr ups chunk)).col chunk
      (opsFor ups x chunk)).appended = []) :
    (s.commitChunk chunk cr ups).1.findCol x =
      some (applyData s.hash col chunk (markerOpsCr cr ups chunk ++ opsFor ups x chunk)).col ∧
    RegSim s (s.commitChunk chunk cr ups).1 ∧
    Rel2 (BufRel x [chunk]) ups (s.commitChunk chunk cr ups).2 ∧
    opsFor (s.commitChunk chunk cr ups).2 x chunk =
      (applyData s.hash (applyData s.hash col chunk (markerOpsCr cr ups chunk)).col chunk (opsFor ups x chunk)).ops := by
  obtain ⟨h1, h2, h3, h4⟩ := commitChunk_ok_full s chunk cr ups x col hxr hf hd hcomp
    (BufsOK_of_noAppend s.hash x chunk ups _ hna)
  exact ⟨h1, h2, h3.toBufRel, h4 hna⟩

theorem commitChunk_col (s : Store) (chunk : Nat) (cr : Bool) (ups : List Buf) (x : String) (col : Col)
    (hxr : x ≠ rowColumn) (hf : s.findCol x = some col) (hd : col.kind.isData = true)
    (hcomp : ∀ v ∈ ups, ∀ c, s.findCol v.column = some c → x ∉ c.computed)
    (hna : (applyData s.hash (applyData s.hash col chunk (markerOpsCr cr ups chunk)).col chunk
      (opsFor ups x chunk)).appended = []) :
    (s.commitChunk chunk cr ups).1.findCol x =
      some (applyData s.hash col chunk (markerOpsCr cr ups chunk ++ opsFor ups x chunk)).col :=
  (commitChunk_col_full s chunk cr ups x col hxr hf hd hcomp hna).1

/-- **`commit`, any data column** (any number of dirty chunks, any other buffers): the column `x` resolves to after
    `s.commit t` is the fold over the dirty chunks, ascending, of `applyData` over the chunk's markers followed by the ops
    issued for `x` in that chunk, starting from the column as `commitCapacity` leaves it (`capCol`: grown when the last
    dirty chunk is new, else unchanged) -/
theorem commit_col (s : Store) (t : Txn) (x : String) (col : Col)
    (hxr : x ≠ rowColumn) (hf : s.findCol x = some col) (hd : col.kind.isData = true)
    (hcomp : ∀ v ∈ t.updates, ∀ c, s.findCol v.column = some c → x ∉ c.computed)
    (hna : NoAppend s.hash t.updates x t.dirtyChunks (capCol s t col)) :
    (s.commit t).findCol x = some (colChunks s.hash t.updates x t.dirtyChunks (capCol s t col)) :=
  commit_col_ok s t x col hxr hf hd hcomp (ChunksOK_of_noAppend s.hash t.updates x t.dirtyChunks _ hna)

/-! ## frame lemmas, `capCol_cases` -/

theorem colChunks_slot_frame (hash : Bytes → Nat) (ups : List Buf) (x : String) (cs : List Nat) (col : Col) (i : Nat)
    (h : ∀ ch ∈ cs, ∀ o ∈ chunkOps ups x ch, o.idx ≠ i) : slot (colChunks hash ups x cs col) i = slot col i := by
  unfold colChunks
  exact foldl_invariant (fun c => slot c i = slot col i) _ cs col rfl
    (fun b a ha hb => (applyData_slot_frame hash b a _ i (h a ha)).trans hb)

theorem applyData_chunk_frame (hash : Bytes → Nat) (c : Col) (chunk : Nat) (ops : List Op) (i : Nat)
    (hops : ∀ o ∈ ops, chunkOf o.idx = chunk) (hi : chunkOf i ≠ chunk) :
    slot (applyData hash c chunk ops).col i = slot c i :=
  applyData_slot_frame hash c chunk ops i (fun o ho e => hi (e ▸ hops o ho))

theorem rangeOps_sub_allOps (u : Buf) (c : Nat) : ∀ o ∈ u.rangeOps c, o ∈ u.allOps := by
  intro o ho
  unfold Buf.rangeOps Buf.range at ho
  unfold Buf.allOps
  obtain ⟨l, hl, hol⟩ := List.mem_flatten.1 ho
  obtain ⟨sec, hsec, rfl⟩ := List.mem_map.1 hl
  exact List.mem_flatten.2 ⟨sec.ops, List.mem_map.2 ⟨sec, (List.mem_filter.1 hsec).1, rfl⟩, hol⟩

theorem markerOps_sub_markerAll (ups : List Buf) (ch : Nat) : ∀ o ∈ markerOps ups ch, o ∈ markerAll ups := by
  intro o ho
  unfold markerOps at ho
  unfold markerAll
  cases hm : ups.find? isMarkerBuf with
  | none => rw [hm] at ho; cases ho
  | some m => rw [hm] at ho; exact rangeOps_sub_allOps m ch o ho

theorem opsFor_sub_allFor (ups : List Buf) (x : String) (ch : Nat) : ∀ o ∈ opsFor ups x ch, o ∈ allFor ups x := by
  intro o ho
  unfold opsFor at ho
  unfold allFor
  obtain ⟨l, hl, hol⟩ := List.mem_flatten.1 ho
  obtain ⟨v, hv, rfl⟩ := List.mem_map.1 hl
  exact List.mem_flatten.2 ⟨v.allOps, List.mem_map.2 ⟨v, hv, rfl⟩, rangeOps_sub_allOps v ch o hol⟩

theorem chunkOps_sub_issued (ups : List Buf) (x : String) (ch : Nat) :
    ∀ o ∈ chunkOps ups x ch, o ∈ markerAll ups ++ allFor ups x := by
  intro o ho
  unfold chunkOps at ho
  rw [List.mem_append] at ho ⊢
  exact ho.imp (markerOps_sub_markerAll ups ch o) (opsFor_sub_allFor ups x ch o)

theorem capCol_cases (s : Store) (t : Txn) (c : Col) :
    (capCol s t c = c ∧ ∀ ch ∈ t.dirtyChunks, ch < s.commits.size) ∨
    ∃ last, (∀ ch ∈ t.dirtyChunks, ch ≤ last) ∧ capCol s t c = c.grow (16384 * last + 16383) := by
  unfold capCol
  cases hl : t.dirtyChunks.getLast? with
  | none =>
    rw [List.getLast?_eq_none_iff] at hl
    exact .inl ⟨rfl, fun ch hch => by rw [hl] at hch; cases hch⟩
  | some last =>
    have hle := sorted_le_getLast _ (dirtyChunks_sorted t) last hl
    dsimp only
    by_cases h : s.commits.size ≥ last + 1
    · rw [if_pos h]; exact .inl ⟨rfl, fun ch hch => Nat.lt_of_le_of_lt (hle ch hch) h⟩
    · rw [if_neg h]; exact .inr ⟨last, hle, rfl⟩

/-! ## the store configuration through `commit`; transfer of the key invariant -/

theorem commitLoop_plumb (cr : Bool) (cs : List Nat) (s : Store) (ups : List Buf) :
    StorePlumb.Plumb s (commitLoop cr cs s ups).1 := by
  induction cs generalizing s ups with
  | nil => exact StorePlumb.Plumb.refl s
  | cons c cs ih =>
    rw [commitLoop_cons]
    exact StorePlumb.Plumb.trans (StorePlumb.commitChunk_plumb s c cr ups) (ih _ _)

theorem commit_plumb (s : Store) (t : Txn) : StorePlumb.Plumb s (s.commit t) := by
  rw [commit_eq']
  exact StorePlumb.Plumb.trans (capStore_induct (StorePlumb.Plumb s) s t (fun _ => StorePlumb.Plumb.refl s)
    (fun last _ => StorePlumb.commitCapacity_plumb s last)) (commitLoop_plumb _ _ _ _)

theorem commit_pk (s : Store) (t : Txn) : (s.commit t).pk = s.pk := (commit_plumb s t).pk

theorem commit_hash (s : Store) (t : Txn) : (s.commit t).hash = s.hash := (commit_plumb s t).hash

/-- the key invariant only looks at the table, the slots and the array sizes -/
theorem keyInv_transfer (c c' : Col) (hseek : c'.seek = c.seek) (hslot : ∀ i, slot c' i = slot c i)
    (hb : c.bits.size ≤ c'.bits.size) (hd : c.data.size ≤ c'.data.size) (hw : c.bits.size ≤ c.data.size)
    (h : KeyInv c) : KeyInv c' := by
  intro k o
  have hs := hslot o
  unfold slot at hs
  simp only [Prod.mk.injEq] at hs
  rw [hseek, hs.1, hs.2, h k o]
  constructor
  · intro hh
    exact ⟨hh.1, hh.2.1, by omega, by omega⟩
  · intro hh
    have hlt : o < c.bits.size := by
      false_or_by_contra
      have := hh.1
      rw [get_of_ge _ _ (by omega)] at this
      cases this
    exact ⟨hh.1, hh.2.1, hlt, by omega⟩

/-! ## slot-level reading of a commit, for every kind -/

/-- a per-section slot law for columns of kind `kind` with merge function `merge`: after one `applyData` pass over an
    in-bounds section of an allocated chunk, the slot of every offset is the fold of `E` over the ops addressed to it -/
def SlotLaw (hash : Bytes → Nat) (kind : Kind) (merge : Bytes → Bytes → Bytes)
    (E : Bool × Bytes → Op → Bool × Bytes) : Prop :=
  ∀ (c : Col) (chunk : Nat) (ops : List Op) (i : Nat), c.kind = kind → c.merge = merge → chunk < c.nchunks →
    InBounds c ops → slot (applyData hash c chunk ops).col i = (ops.filter (fun o => o.idx = i)).foldl E (slot c i)

theorem slotLaw_effOf (hash : Bytes → Nat) (kind : Kind) (merge : Bytes → Bytes → Bytes) :
    SlotLaw hash kind merge (effOf hash kind merge) := by
  intro c chunk ops i hk hm hch hin
  rw [applyData_slot hash c chunk ops i hch hin, hk, hm]

theorem slotLaw_num (hash : Bytes → Nat) (k : NumKind) (merge : Bytes → Bytes → Bytes) :
    SlotLaw hash (.num k) merge (slotEffect merge k.width) :=
  slotLaw_effOf hash (.num k) merge

theorem slotLaw_str (hash : Bytes → Nat) (kind : Kind) (hkind : kind = .str ∨ kind = .record)
    (merge : Bytes → Bytes → Bytes) : SlotLaw hash kind merge (slotEffect merge 0) := by
  rcases hkind with rfl | rfl
  · exact slotLaw_effOf hash .str merge
  · exact slotLaw_effOf hash .record merge

theorem slotLaw_enum (hash : Bytes → Nat) (merge : Bytes → Bytes → Bytes) :
    SlotLaw hash .enum merge (enumEffect hash) :=
  slotLaw_effOf hash .enum merge

/-- effect of one op on the slot of its own offset in a key column: `Put` stores, `Delete` clears the presence bit,
    everything else (also `Merge`) leaves the slot alone -/
def keyEffect (st : Bool × Bytes) (o : Op) : Bool × Bytes :=
  if o.typ = opPut then (true, valRaw o.val) else if o.typ = opDelete then (false, st.2) else st

theorem stepKey_slot (acc : ApplyAcc) (o : Op) (i : Nat) (hb : o.idx < acc.1.bits.size) (hd : o.idx < acc.1.data.size) :
    slot (stepKey acc o).1 i = if i = o.idx then keyEffect (slot acc.1 i) o else slot acc.1 i :=
  stepOf_slot (fun _ => 0) .key acc o i hb hd

theorem slotLaw_key (hash : Bytes → Nat) (merge : Bytes → Bytes → Bytes) : SlotLaw hash .key merge keyEffect :=
  slotLaw_effOf hash .key merge

/-- the chunk loop at slot level: the slot of `i` is touched by the pass of its own chunk only -/
theorem colChunks_slot (hash : Bytes → Nat) (ups : List Buf) (x : String) (E : Bool × Bytes → Op → Bool × Bytes)
    (cs : List Nat) :
    ∀ col : Col, SlotLaw hash col.kind col.merge E → cs.Nodup → ColWF col → (∀ c ∈ cs, c < col.nchunks) →
      (∀ c ∈ cs, ∀ o ∈ chunkOps ups x c, chunkOf o.idx = c) →
      ∀ i, slot (colChunks hash ups x cs col) i =
        if chunkOf i ∈ cs then ((chunkOps ups x (chunkOf i)).filter (fun o => o.idx = i)).foldl E (slot col i)
        else slot col i := by
  induction cs with
  | nil => intro col _ _ _ _ _ i; simp [colChunks]
  | cons c cs ih =>
    intro col hlaw hnd hw hch hco i
    obtain ⟨hc_notin, hnd'⟩ := List.nodup_cons.1 hnd
    have hsh := applyData_sameShape hash col c (chunkOps ups x c)
    rw [colChunks_cons, ih _ (by rw [hsh.kind, hsh.merge]; exact hlaw) hnd' (ColWF.of_shape hsh hw)
      (fun c' hc' => by rw [hsh.nchunks]; exact hch c' (by simp [hc']))
      (fun c' hc' => hco c' (by simp [hc'])) i]
    have hin : InBounds col (chunkOps ups x c) := inBounds_of_chunk col c _ hw (hch c (by simp)) (hco c (by simp))
    by_cases hic : chunkOf i = c
    · have h1 : chunkOf i ∉ cs := by rw [hic]; exact hc_notin
      have h2 : chunkOf i ∈ c :: cs := by rw [hic]; simp
      rw [if_neg h1, if_pos h2, hic]
      exact hlaw col c _ i rfl rfl (hch c (by simp)) hin
    · have hsame := applyData_chunk_frame hash col c (chunkOps ups x c) i (hco c (by simp)) hic
      by_cases hics : chunkOf i ∈ cs
      · rw [if_pos hics, if_pos (by simp [hics]), hsame]
      · have h2 : chunkOf i ∉ c :: cs := by
          intro h; rcases List.mem_cons.1 h with h | h
          · exact hic h
          · exact hics h
        rw [if_neg hics, if_neg h2, hsame]

theorem chunkOps_chunk (t : Txn) (x : String)
    (hinv : ∀ v ∈ t.updates, (v.column = x ∨ isMarkerBuf v = true) → ChunkOK v) :
    ∀ c ∈ t.dirtyChunks, ∀ o ∈ chunkOps t.updates x c, chunkOf o.idx = c := by
  have hco : ChunkOps x t.updates t.dirtyChunks := by
    intro v hv hor c _ o ho
    exact rangeOps_chunk v (hinv v hv hor) c o ho
  intro c hc o ho
  unfold chunkOps at ho
  rcases List.mem_append.1 ho with ho | ho
  · exact markerOps_chunk x t.updates _ hco c hc o ho
  · exact opsFor_chunk x t.updates _ hco c hc o ho

/-- **`commit` at slot level, any data kind** (`commit_readback` is the numeric instance): after `s.commit t`, every slot
    of `x` is the fold of `E`, over what the slot held before, of the transaction's markers addressed to that offset
    followed by the ops issued for `x` at that offset, in issue order -/
theorem commit_slot_ok (s : Store) (t : Txn) (x : String) (col : Col) (E : Bool × Bytes → Op → Bool × Bytes)
    (hxr : x ≠ rowColumn) (hf : s.findCol x = some col) (hd : col.kind.isData = true) (hw : ColWF col)
    (hcov : s.commits.size ≤ col.nchunks)
    (hcomp : ∀ v ∈ t.updates, ∀ c, s.findCol v.column = some c → x ∉ c.computed)
    (hok : ChunksOK s.hash t.updates x t.dirtyChunks (capCol s t col))
    (hlaw : SlotLaw s.hash col.kind col.merge E)
    (hinv : ∀ v ∈ t.updates, (v.column = x ∨ isMarkerBuf v = true) → ChunkOK v) :
    ∃ col', (s.commit t).findCol x = some col' ∧ col'.kind = col.kind ∧ col'.merge = col.merge ∧ ColWF col' ∧
      col.nchunks ≤ col'.nchunks ∧ (∀ c ∈ t.dirtyChunks, c < col'.nchunks) ∧
      col' = colChunks s.hash t.updates x t.dirtyChunks (capCol s t col) ∧
      ∀ i, slot col' i =
        ((markerAll t.updates ++ allFor t.updates x).filter (fun o => o.idx = i)).foldl E (slot col i) := by
  obtain ⟨_, _, g3, g4, g5, g6⟩ := capCol_data s t col hd
  obtain ⟨_, m2, _, m4⟩ := capCol_meta s t col
  have hsh := colChunks_shape s.hash t.updates x t.dirtyChunks (capCol s t col)
  refine ⟨_, commit_col_ok s t x col hxr hf hd hcomp hok, hsh.kind.trans m2, hsh.merge.trans m4,
    ColWF.of_shape hsh (g5 hw), by rw [hsh.nchunks]; exact g3, fun c hc => by rw [hsh.nchunks]; exact g6 hcov c hc,
    rfl, fun i => ?_⟩
  rw [colChunks_slot s.hash t.updates x E t.dirtyChunks (capCol s t col) (by rw [m2, m4]; exact hlaw)
    (sorted_nodup _ (dirtyChunks_sorted t)) (g5 hw) (g6 hcov) (chunkOps_chunk t x hinv) i, g4 i]
  by_cases hdc : chunkOf i ∈ t.dirtyChunks
  · rw [if_pos hdc]
    unfold chunkOps
    rw [List.filter_append, List.filter_append,
      markerOps_filter_idx t.updates i (fun v hv hm => hinv v hv (Or.inr hm)),
      opsFor_filter_idx t.updates x i (fun v hv hx => hinv v hv (Or.inl hx))]
  · rw [if_neg hdc]
    exact (foldl_filter_none _ _ i _ (fun o ho e => hdc (e ▸ issued_chunk_dirty t x hinv o ho))).symm

theorem commit_slot (s : Store) (t : Txn) (x : String) (col : Col) (E : Bool × Bytes → Op → Bool × Bytes)
    (hxr : x ≠ rowColumn) (hf : s.findCol x = some col) (hd : col.kind.isData = true) (hw : ColWF col)
    (hcov : s.commits.size ≤ col.nchunks)
    (hcomp : ∀ v ∈ t.updates, ∀ c, s.findCol v.column = some c → x ∉ c.computed)
    (hna : NoAppend s.hash t.updates x t.dirtyChunks (capCol s t col))
    (hlaw : SlotLaw s.hash col.kind col.merge E)
    (hinv : ∀ v ∈ t.updates, (v.column = x ∨ isMarkerBuf v = true) → ChunkOK v) :
    ∃ col', (s.commit t).findCol x = some col' ∧ col'.kind = col.kind ∧ col'.merge = col.merge ∧ ColWF col' ∧
      col.nchunks ≤ col'.nchunks ∧ (∀ c ∈ t.dirtyChunks, c < col'.nchunks) ∧
      col' = colChunks s.hash t.updates x t.dirtyChunks (capCol s t col) ∧
      ∀ i, slot col' i =
        ((markerAll t.updates ++ allFor t.updates x).filter (fun o => o.idx = i)).foldl E (slot col i) :=
  commit_slot_ok s t x col E hxr hf hd hw hcov hcomp (ChunksOK_of_noAppend _ _ _ _ _ hna) hlaw hinv

/-! ## small facts for the property files -/

theorem opsFor_none (ups : List Buf) (x : String) (ch : Nat) (h : ∀ v ∈ ups, v.column ≠ x) : opsFor ups x ch = [] := by
  induction ups with
  | nil => rfl
  | cons u us ih =>
    rw [opsFor_cons_other u us x ch (h u (by simp))]
    exact ih (fun v hv => h v (by simp [hv]))

theorem capStore_dirty_lt (s : Store) (t : Txn) : ∀ c ∈ t.dirtyChunks, c < (capStore s t).commits.size := by
  intro c hc
  refine capStore_induct (fun s' => c < s'.commits.size) s t (fun h => by rw [h] at hc; cases hc) (fun last hl => ?_)
  have hle := sorted_le_getLast _ (dirtyChunks_sorted t) last hl c hc
  rcases commitCapacity_cases s last with ⟨h1, h2⟩ | ⟨_, _, h3, _⟩
  · rw [h2]; omega
  · rw [h3]; omega

theorem commit_dirty_lt (s : Store) (t : Txn) : ∀ c ∈ t.dirtyChunks, c < (s.commit t).commits.size := by
  intro c hc
  rw [commit_eq', (commitLoop_gen _ _ _ _).2.1]
  exact capStore_dirty_lt s t c hc

theorem commit_size_mono (s : Store) (t : Txn) : s.commits.size ≤ (s.commit t).commits.size := by
  rcases commit_commits_size s t with h | ⟨last, _, h1, h2⟩
  · rw [h]; exact Nat.le_refl _
  · rw [h2]; exact Nat.le_of_lt h1

/-- no column has computed columns attached (a collection without indexes / triggers) -/
def NoComputed (s : Store) : Prop := ∀ n c, s.findCol n = some c → c.computed = []

/-- for a registry given as a literal (decidable) -/
theorem NoComputed.of_cols (s : Store) (h : ∀ c ∈ s.cols.toList, c.computed = []) : NoComputed s :=
  fun _ c hc => h c (Array.mem_toList_iff.2 (findCol_mem hc))

theorem NoComputed.notComputed {s : Store} (h : NoComputed s) (x : String) (ups : List Buf) :
    ∀ v ∈ ups, ∀ c, s.findCol v.column = some c → x ∉ c.computed := by
  intro v _ c hc
  rw [h _ c hc]
  exact List.not_mem_nil

theorem computedKinds_of_noComputed (s : Store) (h : NoComputed s) : ComputedKinds s := by
  intro n c hc m hm
  rw [h n c hc] at hm
  cases hm

/-- a data column is never a computed column attached to another one, once computed columns are known to be indexes,
    triggers or sorted indexes (`ComputedKinds`, what `createComputed` registers) -/
theorem notComputed_of_computedKinds (s : Store) (hck : ComputedKinds s) (x : String) (col : Col)
    (hf : s.findCol x = some col) (hd : col.kind.isData = true) (ups : List Buf) :
    ∀ v ∈ ups, ∀ c, s.findCol v.column = some c → x ∉ c.computed := by
  intro v _ c hc hx
  have := hck v.column c hc x hx col hf
  cases hk : col.kind <;> rw [hk] at hd this <;> simp [Kind.isData, Kind.isComputed] at hd this

end ColumnVerif.Store
