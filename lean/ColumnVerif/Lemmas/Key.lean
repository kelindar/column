import ColumnVerif.Model.Txn
import ColumnVerif.Lemmas.Step
/-!
Lemmas: the key column's table (`seek`) against its presence bits and stored keys — what one
`stepKey` does to the table, the bits and the slots.
-/
namespace ColumnVerif.Store
open ColumnVerif.Codec ColumnVerif.Bits

/- Every rewrite with a `Std.HashMap` lemma asks for these three about the key type of `seek`; found through the `List`
   instances each search is slow, so they are given once. -/
instance : LawfulBEq Bytes := inferInstanceAs (LawfulBEq (List UInt8))
instance : EquivBEq Bytes := inferInstance
instance : LawfulHashable Bytes := inferInstanceAs (LawfulHashable (List UInt8))

/-- the key stored (possibly stale) in slot `o` -/
def keyAt (c : Col) (o : Nat) : Bytes := (c.data[o]?).getD []

/-- K1: the table maps exactly the keys of present rows to their rows -/
def KeyInv (c : Col) : Prop :=
  ∀ k o, c.seek.get? k = some o ↔
    (Bits.get c.bits o = true ∧ (c.data[o]?).getD [] = k ∧ o < c.bits.size ∧ o < c.data.size)

theorem stepKey_col (acc : ApplyAcc) (o : Op) : (stepKey acc o).1 = colOf (fun _ => 0) .key acc.1 o :=
  congrArg Prod.fst (stepOf_eq (fun _ => 0) .key acc o)

theorem stepKey_fst (acc : ApplyAcc) (o : Op) : (stepKey acc o).1 = (stepKey (acc.1, [], []) o).1 := by
  rw [stepKey_col, stepKey_col]

theorem stepKey_shape (acc : ApplyAcc) (o : Op) : SameShape acc.1 (stepKey acc o).1 :=
  stepOf_sameShape (fun _ => 0) .key acc o

/-! ### `Put` -/

theorem get?_insert_erase (m : Std.HashMap Bytes Nat) (P : Prop) [Decidable P] (prev v k : Bytes) (i : Nat) :
    ((if P then m.erase prev else m).insert v i).get? k =
      if v = k then some i else if P ∧ prev = k then none else m.get? k := by
  rw [Std.HashMap.get?_eq_getElem?, Std.HashMap.get?_eq_getElem?, Std.HashMap.getElem?_insert]
  by_cases e : v = k
  · rw [if_pos (beq_iff_eq.2 e), if_pos e]
  · rw [if_neg (mt beq_iff_eq.1 e), if_neg e]
    by_cases hP : P
    · rw [if_pos hP, Std.HashMap.getElem?_erase]
      by_cases e2 : prev = k
      · rw [if_pos (beq_iff_eq.2 e2), if_pos ⟨hP, e2⟩]
      · rw [if_neg (mt beq_iff_eq.1 e2), if_neg (fun h => e2 h.2)]
    · rw [if_neg hP, if_neg (fun h => hP h.1)]

theorem stepKey_put_seek (acc : ApplyAcc) (o : Op) (h : o.typ = opPut) (k : Bytes) :
    (stepKey acc o).1.seek.get? k =
      if valRaw o.val = k then some o.idx
      else if (Bits.get acc.1.bits o.idx = true ∧ keyAt acc.1 o.idx ≠ valRaw o.val ∧
              acc.1.seek.get? (keyAt acc.1 o.idx) = some o.idx) ∧ keyAt acc.1 o.idx = k then none
      else acc.1.seek.get? k := by
  rw [stepKey_col, colOf_put h]
  unfold keyAt
  rw [← getD_eq]
  exact get?_insert_erase ..

theorem stepKey_put_slot (acc : ApplyAcc) (o : Op) (h : o.typ = opPut) (hb : o.idx < acc.1.bits.size)
    (hd : o.idx < acc.1.data.size) (j : Nat) :
    slot (stepKey acc o).1 j = if j = o.idx then (true, valRaw o.val) else slot acc.1 j := by
  rw [stepKey_col, colOf_put h]
  exact slot_set j rfl rfl hb hd

theorem stepKey_put_bits (acc : ApplyAcc) (o : Op) (h : o.typ = opPut) (hb : o.idx < acc.1.bits.size) (j : Nat) :
    Bits.get (stepKey acc o).1.bits j = if j = o.idx then true else Bits.get acc.1.bits j := by
  rw [stepKey_col, colOf_put h]
  exact get_setIfInBounds _ _ _ _ hb

theorem stepKey_put_data (acc : ApplyAcc) (o : Op) (h : o.typ = opPut) (hd : o.idx < acc.1.data.size) (j : Nat) :
    keyAt (stepKey acc o).1 j = if j = o.idx then valRaw o.val else keyAt acc.1 j := by
  rw [stepKey_col, colOf_put h]
  exact data_setIfInBounds _ _ _ _ hd

/-! ### `Delete` -/

theorem stepKey_delete_seek (acc : ApplyAcc) (o : Op) (h : o.typ = opDelete) (k : Bytes) :
    (stepKey acc o).1.seek.get? k = if keyAt acc.1 o.idx = k then none else acc.1.seek.get? k := by
  rw [stepKey_col, colOf_delete h]
  unfold keyAt
  rw [← getD_eq]
  show (acc.1.seek.erase _).get? k = _
  rw [Std.HashMap.get?_eq_getElem?, Std.HashMap.get?_eq_getElem?, Std.HashMap.getElem?_erase]
  simp only [beq_iff_eq]

theorem stepKey_delete_bits (acc : ApplyAcc) (o : Op) (h : o.typ = opDelete) (hb : o.idx < acc.1.bits.size) (j : Nat) :
    Bits.get (stepKey acc o).1.bits j = if j = o.idx then false else Bits.get acc.1.bits j := by
  rw [stepKey_col, colOf_delete h]
  exact get_setIfInBounds _ _ _ _ hb

theorem stepKey_bits_ne (acc : ApplyAcc) (o : Op) (j : Nat) (hj : o.idx ≠ j) :
    Bits.get (stepKey acc o).1.bits j = Bits.get acc.1.bits j := by
  rw [stepKey_col]
  exact congrArg Prod.fst (colOf_slot_ne _ .key acc.1 o j hj)

theorem stepKey_delete_data (acc : ApplyAcc) (o : Op) (h : o.typ = opDelete) : (stepKey acc o).1.data = acc.1.data := by
  rw [stepKey_col, colOf_delete h]; rfl

/-! ### other op types -/

theorem stepKey_other (acc : ApplyAcc) (o : Op) (h1 : o.typ ≠ opPut) (h2 : o.typ ≠ opDelete) :
    (stepKey acc o).1 = acc.1 := by
  rw [stepKey_col]
  by_cases hm : o.typ = opMerge
  · rw [colOf_merge hm]; rfl
  · exact colOf_other h1 hm h2 ..

/-! ### empty table -/

theorem get_replicate_false (n o : Nat) : Bits.get (Array.replicate n false) o = false := by
  unfold Bits.get
  rw [Array.getElem?_replicate]
  split <;> rfl

theorem keyInv_of_empty (c : Col) (hs : c.seek = {}) (hb : ∀ o, Bits.get c.bits o = false) : KeyInv c := by
  intro k o
  rw [hs, hb o]
  simp

/-! ### the guard for op lists -/

/-- guard for one op in the state it is applied to: a `Put` is in bounds and its key is new or
    already this row's; a `Delete` hits a present row -/
def WFKeyOp (c : Col) (o : Op) : Prop :=
  if o.typ = opPut then
    o.idx < c.bits.size ∧ o.idx < c.data.size ∧
      (c.seek.get? (valRaw o.val) = none ∨ c.seek.get? (valRaw o.val) = some o.idx)
  else if o.typ = opDelete then Bits.get c.bits o.idx = true ∧ o.idx < c.data.size
  else True

instance (c : Col) (o : Op) : Decidable (WFKeyOp c o) := by
  unfold WFKeyOp; exact inferInstance

theorem WFKeyOp.put {c : Col} {j : Nat} {k : Bytes} (hj : j < c.bits.size ∧ j < c.data.size)
    (h : c.seek.get? k = none ∨ c.seek.get? k = some j) : WFKeyOp c ⟨opPut, j, .str k⟩ := by
  unfold WFKeyOp; rw [if_pos rfl]; exact ⟨hj.1, hj.2, h⟩

/-- every op of the list meets its guard in the state reached when it is processed -/
def WFKeyOps (c : Col) : List Op → Prop
  | [] => True
  | o :: os => WFKeyOp c o ∧ WFKeyOps (stepKey (c, [], []) o).1 os

instance decWFKeyOps : (c : Col) → (ops : List Op) → Decidable (WFKeyOps c ops)
  | _, [] => isTrue trivial
  | c, o :: os =>
    have := decWFKeyOps (stepKey (c, [], []) o).1 os
    inferInstanceAs (Decidable (WFKeyOp c o ∧ WFKeyOps (stepKey (c, [], []) o).1 os))

theorem WFKeyOps_cons (acc : ApplyAcc) (o : Op) (os : List Op) :
    WFKeyOps acc.1 (o :: os) ↔ WFKeyOp acc.1 o ∧ WFKeyOps (stepKey acc o).1 os := by
  rw [stepKey_fst]; rfl

theorem foldl_stepKey_fst (ops : List Op) (acc : ApplyAcc) :
    (ops.foldl stepKey acc).1 = (ops.foldl stepKey (acc.1, [], [])).1 := by
  induction ops generalizing acc with
  | nil => rfl
  | cons o os ih =>
    simp only [List.foldl_cons]
    rw [ih (stepKey acc o), ih (stepKey (acc.1, [], []) o), stepKey_fst acc o]

theorem foldl_stepKey_shape (ops : List Op) (acc : ApplyAcc) : SameShape acc.1 (ops.foldl stepKey acc).1 :=
  foldStepOf_sameShape (fun _ => 0) .key ops acc

theorem applyData_key (hash : Bytes → Nat) (c : Col) (chunk : Nat) (ops : List Op)
    (hk : c.kind = .key) (hc : chunk < c.nchunks) :
    (applyData hash c chunk ops).col = (ops.foldl stepKey (c, [], [])).1 := by
  unfold applyData
  rw [if_neg (Nat.not_le.2 hc), hk]
  rfl

/-- The committed table does not depend on `fill` and `count`, the only fields `s.next.1` and `s.free i` change. Rewrite
    those to the `{ s with … }` form first (`C11.next_fst`, `C11.free_eq`): a projection of `s.next.1` is never proved by
    `rfl` against `s`, since the unifier tries `s.next.1 =?= s` field by field and has to refute
    `Bits.set s.fill (findFreeIndex ..) =?= s.fill` by evaluation. -/
theorem offsetOf_fill (s : Store) (f : Bitmap) (n : Nat) (key : Bytes) :
    ({ s with fill := f, count := n } : Store).offsetOf key = s.offsetOf key := rfl

theorem putOp_last (t : Txn) (name : String) (o : Op) :
    (∃ b ∈ (t.putOp name o).updates, b.column = name) ∧
    (∀ b ∈ (t.putOp name o).updates, b.column = name → b.allOps.getLast? = some o) := by
  unfold Txn.putOp
  simp only
  constructor
  · have : ∃ b0 ∈ (t.bufferFor name).updates, b0.column = name := by
      unfold Txn.bufferFor
      split
      · rename_i h
        obtain ⟨b, hb, hn⟩ := List.any_eq_true.1 h
        exact ⟨b, hb, by simpa using hn⟩
      · exact ⟨Buf.empty name, by simp, rfl⟩
    obtain ⟨b0, hb0, hn⟩ := this
    refine ⟨b0.put o, List.mem_map.2 ⟨b0, hb0, by simp [hn]⟩, ?_⟩
    rw [Buf.column_put]; exact hn
  · intro b hb hn
    obtain ⟨b0, _, rfl⟩ := List.mem_map.1 hb
    by_cases e : b0.column = name
    · simp only [e, beq_self_eq_true, if_true]
      rw [Buf.allOps_put]; simp
    · have : (b0.column == name) = false := by simpa using e
      simp only [this] at hn
      exact absurd hn e

end ColumnVerif.Store
