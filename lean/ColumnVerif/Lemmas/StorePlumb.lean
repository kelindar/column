import ColumnVerif.Lemmas.Index
import ColumnVerif.Lemmas.Key
/-!
The registry (`findCol` / `colIdx` / `setCol`, first-match semantics), what every `Apply` leaves of a column, and `commit`
cut into its steps (`applyNamed`, `otherMain`, `cuStep`, `preStore`, `finishChunk`); then, in the namespace
`ColumnVerif.StorePlumb`, what these steps leave alone of the store (registry names, logger, change stream, ids, …),
the `updated` flag of `commitUpdates` and the emission of `commitChunk`.

Two namespaces because the second part states, for the emission property (C15), facts that the read-back files also
have under the same short names in `ColumnVerif.Store` (`findCol_name`, `setCol_size`, `isMarkerBuf`, …): `Props/C15`
and `Props/C02` open both, so the names are kept apart rather than made ambiguous.
-/
namespace ColumnVerif.Store
open ColumnVerif.Codec ColumnVerif.Bits

/-! ## R1 — the registry: `findCol` / `colIdx` / `setCol` (first-match semantics) -/

theorem findCol_name {s : Store} {n : String} {c : Col} (h : s.findCol n = some c) : c.name = n := by
  unfold Store.findCol at h
  have := Array.find?_some h
  simpa using this

theorem findCol_mem {s : Store} {n : String} {c : Col} (h : s.findCol n = some c) : c ∈ s.cols := by
  unfold Store.findCol at h
  exact Array.mem_of_find?_eq_some h

theorem list_find?_split {α : Type} (p : α → Bool) (l : List α) :
    (l.find? p = none ∧ l.findIdx? p = none) ∨
    ∃ c pre post, l.find? p = some c ∧ l.findIdx? p = some pre.length ∧ l = pre ++ c :: post ∧
      (∀ x ∈ pre, p x = false) ∧ p c = true := by
  induction l with
  | nil => exact .inl ⟨rfl, rfl⟩
  | cons x xs ih =>
    rw [List.find?_cons, List.findIdx?_cons]
    cases hx : p x with
    | true => exact .inr ⟨x, [], xs, rfl, rfl, rfl, by simp, hx⟩
    | false =>
      rcases ih with ⟨h1, h2⟩ | ⟨c, pre, post, h1, h2, h3, h4, h5⟩
      · exact .inl ⟨h1, by simp [h2]⟩
      · exact .inr ⟨c, x :: pre, post, h1, by simp [h2], by rw [h3]; rfl,
          fun y hy => (List.mem_cons.1 hy).elim (fun e => e ▸ hx) (h4 y), h5⟩

theorem setCol_cases (s : Store) (c' : Col) :
    (s.findCol c'.name = none ∧ s.setCol c' = s) ∨
    ∃ c pre post, s.findCol c'.name = some c ∧ s.cols.toList = pre ++ c :: post ∧ (∀ x ∈ pre, x.name ≠ c'.name) ∧
      c.name = c'.name ∧ (s.setCol c').cols.toList = pre ++ c' :: post := by
  unfold Store.findCol Store.setCol Store.colIdx
  rw [← Array.find?_toList]
  have e : s.cols.findIdx? (fun c => c.name == c'.name) = s.cols.toList.findIdx? (fun c => c.name == c'.name) := by
    rcases s.cols with ⟨l⟩; simp
  rw [e]
  rcases list_find?_split (fun c : Col => c.name == c'.name) s.cols.toList with ⟨h1, h2⟩ | ⟨c, pre, post, h1, h2, h3, h4, h5⟩
  · rw [h1, h2]; exact .inl ⟨rfl, rfl⟩
  · rw [h1, h2]
    refine .inr ⟨c, pre, post, rfl, h3, fun x hx => by simpa using h4 x hx, by simpa using h5, ?_⟩
    simp [h3]

theorem findCol_setCol_same (s : Store) (c : Col) (h : (s.findCol c.name).isSome) :
    (s.setCol c).findCol c.name = some c := by
  rcases setCol_cases s c with ⟨e, _⟩ | ⟨c0, pre, post, _, _, hpre, _, e⟩
  · rw [e] at h; cases h
  · unfold Store.findCol
    rw [← Array.find?_toList, e, List.find?_append, List.find?_eq_none.2 (fun x hx => by simpa using hpre x hx)]
    simp

theorem findCol_setCol_other (s : Store) (c : Col) (n : String) (hn : n ≠ c.name) :
    (s.setCol c).findCol n = s.findCol n := by
  rcases setCol_cases s c with ⟨_, e⟩ | ⟨c0, pre, post, _, e1, _, hc0, e2⟩
  · rw [e]
  · have h1 : (c.name == n) = false := by simpa using fun e => hn e.symm
    have h0 : (c0.name == n) = false := by rw [hc0]; exact h1
    unfold Store.findCol
    rw [← Array.find?_toList, ← Array.find?_toList, e1, e2, List.find?_append, List.find?_append, List.find?_cons,
      List.find?_cons, h1, h0]

theorem setCol_names (s : Store) (c : Col) :
    (s.setCol c).cols.toList.map (·.name) = s.cols.toList.map (·.name) := by
  rcases setCol_cases s c with ⟨_, e⟩ | ⟨c0, pre, post, _, e1, _, hc0, e2⟩
  · rw [e]
  · rw [e1, e2, List.map_append, List.map_append, List.map_cons, List.map_cons, hc0]

theorem findCol_setCol (s : Store) (c : Col) (n : String) (h : (s.findCol c.name).isSome) :
    (s.setCol c).findCol n = if n = c.name then some c else s.findCol n := by
  by_cases e : n = c.name
  · rw [if_pos e, e]; exact findCol_setCol_same s c h
  · rw [if_neg e]; exact findCol_setCol_other s c n e

def NamesDistinct (s : Store) : Prop := (s.cols.toList.map (·.name)).Nodup

instance (s : Store) : Decidable (NamesDistinct s) := by unfold NamesDistinct; exact inferInstance

theorem setCol_namesDistinct (s : Store) (c : Col) (h : NamesDistinct s) : NamesDistinct (s.setCol c) := by
  unfold NamesDistinct; rw [setCol_names]; exact h

theorem setCol_size (s : Store) (c : Col) : (s.setCol c).cols.size = s.cols.size := by
  unfold Store.setCol
  split <;> simp

theorem findCol_with_panicked (s : Store) (p : Bool) (m : String) :
    ({ s with panicked := p } : Store).findCol m = s.findCol m := rfl

theorem setCol_found (s : Store) (c c' : Col) (n : String) (h : s.findCol n = some c) (hn : c'.name = c.name) (m : String) :
    (s.setCol c').findCol m = if m = n then some c' else s.findCol m := by
  have hcn : c'.name = n := hn.trans (findCol_name h)
  have := findCol_setCol s c' m (by rw [hcn, h]; rfl)
  rw [hcn] at this
  exact this

/-! ## signatures: what every `Apply` leaves alone -/

/-- the part of a column no `Apply` ever changes -/
structure SameSig (c c' : Col) : Prop where
  name : c'.name = c.name
  kind : c'.kind = c.kind
  computed : c'.computed = c.computed
  nchunks : c'.nchunks = c.nchunks
  merge : c'.merge = c.merge

theorem SameSig.refl (c : Col) : SameSig c c := ⟨rfl, rfl, rfl, rfl, rfl⟩

theorem SameSig.trans {a b c : Col} (h1 : SameSig a b) (h2 : SameSig b c) : SameSig a c :=
  ⟨h2.name.trans h1.name, h2.kind.trans h1.kind, h2.computed.trans h1.computed, h2.nchunks.trans h1.nchunks,
   h2.merge.trans h1.merge⟩

theorem SameShape.sig {c c' : Col} (h : SameShape c c') : SameSig c c' :=
  ⟨h.name, h.kind, h.computed, h.nchunks, h.merge⟩

/-- `columnBool.Apply`, one op (the body of the fold in `applyOther`) -/
def boolStep (acc : Col × Bool) (o : Op) : Col × Bool :=
  if o.typ = opPut then
    if o.idx < acc.1.bits.size then ({ acc.1 with bits := acc.1.bits.setIfInBounds o.idx true }, acc.2) else (acc.1, true)
  else if o.typ = opDelete then
    if o.idx < acc.1.bits.size then ({ acc.1 with bits := acc.1.bits.setIfInBounds o.idx false }, acc.2) else (acc.1, true)
  else acc

theorem applyOther_bool (c : Col) (hk : c.kind = .bool) (ops : List Op) :
    applyOther c ops = ops.foldl boolStep (c, false) := by
  unfold applyOther
  rw [hk]
  rfl

theorem ite_keeps {α : Type} (P : α → Prop) {p : Prop} [Decidable p] {a b : α} (ha : P a) (hb : P b) :
    P (if p then a else b) := by
  split <;> assumption

theorem boolStep_sig (acc : Col × Bool) (o : Op) :
    SameSig acc.1 (boolStep acc o).1 ∧ (boolStep acc o).1.bits.size = acc.1.bits.size := by
  let P := fun r : Col × Bool => SameSig acc.1 r.1 ∧ r.1.bits.size = acc.1.bits.size
  have h1 : ∀ b v, P ({ acc.1 with bits := acc.1.bits.setIfInBounds o.idx b }, v) :=
    fun _ _ => ⟨⟨rfl, rfl, rfl, rfl, rfl⟩, by simp⟩
  have h2 : ∀ v, P (acc.1, v) := fun _ => ⟨SameSig.refl _, rfl⟩
  exact ite_keeps P (ite_keeps P (h1 _ _) (h2 _)) (ite_keeps P (ite_keeps P (h1 _ _) (h2 _)) (h2 _))

theorem boolStep_size (acc : Col × Bool) (o : Op) : (boolStep acc o).1.bits.size = acc.1.bits.size :=
  (boolStep_sig acc o).2

/-- every step of a bool, index, trigger or sorted-index `Apply` writes the bitmap, the trigger log or the sorted entries
    only: a record update of other fields in either branch of its `if`s -/
theorem applyOther_sig (c : Col) (ops : List Op) : SameSig c (applyOther c ops).1 := by
  have hw : ∀ b : Col, SameSig b b := SameSig.refl
  unfold applyOther
  split
  · exact foldl_invariant (fun (acc : Col × Bool) => SameSig c acc.1) _ ops (c, false) (SameSig.refl c)
      (fun b a _ hb => hb.trans (boolStep_sig b a).1)
  · exact foldl_invariant (SameSig c) _ ops c (SameSig.refl c) (fun b a _ hb => hb.trans
      (ite_keeps (SameSig b) (ite_keeps _ ⟨rfl, rfl, rfl, rfl, rfl⟩ ⟨rfl, rfl, rfl, rfl, rfl⟩)
        (ite_keeps _ ⟨rfl, rfl, rfl, rfl, rfl⟩ (hw b))))
  · exact foldl_invariant (SameSig c) _ ops c (SameSig.refl c) (fun b a _ hb => hb.trans
      (ite_keeps (SameSig b) ⟨rfl, rfl, rfl, rfl, rfl⟩ (hw b)))
  · exact foldl_invariant (SameSig c) _ ops c (SameSig.refl c) (fun b a _ hb => hb.trans
      (ite_keeps (SameSig b) ⟨rfl, rfl, rfl, rfl, rfl⟩ (ite_keeps _ ⟨rfl, rfl, rfl, rfl, rfl⟩ (hw b))))
  · exact SameSig.refl c

theorem applyAny_sig (hash : Bytes → Nat) (c : Col) (chunk : Nat) (ops : List Op) :
    SameSig c (c.applyAny hash chunk ops).1 := by
  unfold Col.applyAny
  split
  · exact (applyData_sameShape hash c chunk ops).sig
  · exact applyOther_sig c ops

/-- what every `Apply` keeps of a column: its signature and, for a bool column, the length of its bitmap -/
structure ColKeeps (c c' : Col) : Prop where
  sig : SameSig c c'
  bsize : c.kind = .bool → c'.bits.size = c.bits.size

theorem ColKeeps.refl (c : Col) : ColKeeps c c := ⟨SameSig.refl c, fun _ => rfl⟩

theorem ColKeeps.trans {a b c : Col} (h1 : ColKeeps a b) (h2 : ColKeeps b c) : ColKeeps a c :=
  ⟨SameSig.trans h1.sig h2.sig, fun hk => (h2.bsize (h1.sig.kind.trans hk)).trans (h1.bsize hk)⟩

theorem SameShape.keeps {c c' : Col} (h : SameShape c c') : ColKeeps c c' := ⟨h.sig, fun _ => h.bsize⟩

theorem applyAny_keeps (hash : Bytes → Nat) (c : Col) (chunk : Nat) (ops : List Op) :
    ColKeeps c (c.applyAny hash chunk ops).1 := by
  refine ⟨applyAny_sig hash c chunk ops, ?_⟩
  intro hk
  have hd : ¬ c.kind.isData = true := by rw [hk]; decide
  unfold Col.applyAny
  rw [if_neg hd, applyOther_bool c hk]
  exact foldl_invariant (fun (acc : Col × Bool) => acc.1.bits.size = c.bits.size) _ ops (c, false) rfl
    (fun b a _ hb => (boolStep_size b a).trans hb)

theorem grow_cases (c : Col) (idx : Nat) :
    (c.kind.isData = true ∧ c.grow idx =
      if c.nchunks < idx / 16384 + 1 then
        { c with nchunks := idx / 16384 + 1,
                 bits := c.bits ++ Array.replicate (16384 * (idx / 16384 + 1) - c.bits.size) false,
                 data := c.data ++ Array.replicate (16384 * (idx / 16384 + 1) - c.data.size) [] }
      else c) ∨
    (c.kind.isData = false ∧
      ∃ bits, c.grow idx = { c with bits := bits } ∧ (c.kind = .bool → bits = Bits.grow c.bits idx)) := by
  unfold Col.grow
  -- the alternatives of the `match`, in its order: five data kinds, bool, bitmap index, trigger, sorted index
  split
  case h_1 | h_2 | h_3 | h_4 | h_5 => rename_i h; exact .inl ⟨by rw [h]; rfl, rfl⟩
  case h_6 => rename_i h; exact .inr ⟨by rw [h]; rfl, _, rfl, fun _ => rfl⟩
  case h_7 | h_8 | h_9 => rename_i h; exact .inr ⟨by rw [h]; rfl, _, rfl, fun e => nomatch h.symm.trans e⟩

theorem grow_data_eq (c : Col) (hd : c.kind.isData = true) (idx : Nat) :
    c.grow idx =
      if c.nchunks < idx / 16384 + 1 then
        { c with nchunks := idx / 16384 + 1,
                 bits := c.bits ++ Array.replicate (16384 * (idx / 16384 + 1) - c.bits.size) false,
                 data := c.data ++ Array.replicate (16384 * (idx / 16384 + 1) - c.data.size) [] }
      else c := by
  rcases grow_cases c idx with ⟨_, e⟩ | ⟨h, _⟩
  · exact e
  · rw [h] at hd; cases hd

theorem grow_meta (c : Col) (idx : Nat) :
    (c.grow idx).name = c.name ∧ (c.grow idx).kind = c.kind ∧ (c.grow idx).computed = c.computed ∧
    (c.grow idx).merge = c.merge := by
  rcases grow_cases c idx with ⟨_, e⟩ | ⟨_, b, e, _⟩ <;> rw [e]
  · split <;> exact ⟨rfl, rfl, rfl, rfl⟩
  · exact ⟨rfl, rfl, rfl, rfl⟩

theorem grow_name (c : Col) (idx : Nat) : (c.grow idx).name = c.name := (grow_meta c idx).1
theorem grow_kind (c : Col) (idx : Nat) : (c.grow idx).kind = c.kind := (grow_meta c idx).2.1
theorem grow_computed (c : Col) (idx : Nat) : (c.grow idx).computed = c.computed := (grow_meta c idx).2.2.1
/-! ## pointwise-related lists -/

inductive Rel2 {α β : Type} (R : α → β → Prop) : List α → List β → Prop
  | nil : Rel2 R [] []
  | cons {a : α} {b : β} {as : List α} {bs : List β} : R a b → Rel2 R as bs → Rel2 R (a :: as) (b :: bs)

theorem Rel2.refl {α : Type} {R : α → α → Prop} (h : ∀ a, R a a) : ∀ l : List α, Rel2 R l l
  | [] => .nil
  | a :: l => .cons (h a) (Rel2.refl h l)

theorem Rel2.trans {α : Type} {R : α → α → Prop} (ht : ∀ a b c, R a b → R b c → R a c) {l1 l2 l3 : List α}
    (h1 : Rel2 R l1 l2) (h2 : Rel2 R l2 l3) : Rel2 R l1 l3 := by
  induction h1 generalizing l3 with
  | nil => cases h2; exact .nil
  | cons hab _ ih =>
    cases h2 with
    | cons hbc h2' => exact .cons (ht _ _ _ hab hbc) (ih h2')

theorem Rel2.append {α β : Type} {R : α → β → Prop} {a c : List α} {b d : List β} (h1 : Rel2 R a b) (h2 : Rel2 R c d) :
    Rel2 R (a ++ c) (b ++ d) := by
  induction h1 with
  | nil => exact h2
  | cons hab _ ih => exact .cons hab ih

theorem Rel2.map_right {α β : Type} {R : α → β → Prop} (f : α → β) (h : ∀ a, R a (f a)) : ∀ l : List α, Rel2 R l (l.map f)
  | [] => .nil
  | a :: l => .cons (h a) (Rel2.map_right f h l)

theorem Rel2.mem_right {α β : Type} {R : α → β → Prop} {l : List α} {l' : List β} (h : Rel2 R l l') :
    ∀ b ∈ l', ∃ a ∈ l, R a b := by
  induction h with
  | nil => intro b hb; cases hb
  | cons hab _ ih =>
    intro b hb
    rcases List.mem_cons.1 hb with rfl | hb
    · exact ⟨_, by simp, hab⟩
    · obtain ⟨a, ha, hr⟩ := ih b hb
      exact ⟨a, by simp [ha], hr⟩

theorem Rel2.map_eq {α β γ : Type} {R : α → β → Prop} {l : List α} {l' : List β} (h : Rel2 R l l') (f : α → γ) (g : β → γ)
    (hfg : ∀ a b, R a b → g b = f a) : l'.map g = l.map f := by
  induction h with
  | nil => rfl
  | cons hab _ ih => rw [List.map_cons, List.map_cons, ih, hfg _ _ hab]

theorem Rel2.find? {α β : Type} {R : α → β → Prop} {l : List α} {l' : List β} (h : Rel2 R l l') (p : α → Bool)
    (q : β → Bool) (hpq : ∀ a b, R a b → q b = p a) :
    (l.find? p = none ∧ l'.find? q = none) ∨ ∃ a b, l.find? p = some a ∧ l'.find? q = some b ∧ R a b := by
  induction h with
  | nil => exact .inl ⟨rfl, rfl⟩
  | @cons a b as bs hab _ ih =>
    rw [List.find?_cons, List.find?_cons, hpq a b hab]
    cases hp : p a with
    | true => exact .inr ⟨a, b, rfl, rfl, hab⟩
    | false => exact ih

theorem Rel2.find?_eq {α : Type} {R : α → α → Prop} (q : α → Bool) (hq : ∀ a b, R a b → q b = q a ∧ (q a = true → b = a))
    {l l' : List α} (h : Rel2 R l l') : l'.find? q = l.find? q := by
  induction h with
  | nil => rfl
  | @cons a b as bs hab _ ih =>
    obtain ⟨h1, h2⟩ := hq a b hab
    rw [List.find?_cons, List.find?_cons, h1]
    cases ha : q a with
    | true => rw [h2 ha]
    | false => exact ih

/-! ## the registry through the passes of a commit -/

def Store.names (s : Store) : List String := s.cols.toList.map (·.name)

/-- `s'` has the same registry shape as `s`: same names resolving to columns of the same signature; same hash function,
    fill list and commit table -/
structure Sim (s s' : Store) : Prop where
  sig : ∀ m c, s.findCol m = some c → ∃ c', s'.findCol m = some c' ∧ SameSig c c'
  none : ∀ m, s.findCol m = none → s'.findCol m = none
  hash : s'.hash = s.hash
  fill : s'.fill = s.fill
  commits : s'.commits = s.commits

theorem Sim.refl (s : Store) : Sim s s :=
  ⟨fun _ c h => ⟨c, h, SameSig.refl c⟩, fun _ h => h, rfl, rfl, rfl⟩

theorem Sim.trans {a b c : Store} (h1 : Sim a b) (h2 : Sim b c) : Sim a c := by
  refine ⟨?_, ?_, h2.hash.trans h1.hash, h2.fill.trans h1.fill, h2.commits.trans h1.commits⟩
  · intro m x hx
    obtain ⟨y, hy, s1⟩ := h1.sig m x hx
    obtain ⟨z, hz, s2⟩ := h2.sig m y hy
    exact ⟨z, hz, SameSig.trans s1 s2⟩
  · intro m hm
    exact h2.none m (h1.none m hm)

theorem Sim.sig_back {s s' : Store} (h : Sim s s') {m : String} {c' : Col} (hc : s'.findCol m = some c') :
    ∃ c, s.findCol m = some c ∧ SameSig c c' := by
  cases hm : s.findCol m with
  | none => rw [h.none m hm] at hc; cases hc
  | some c =>
    obtain ⟨c2, h2, hs⟩ := h.sig m c hm
    rw [hc] at h2
    injection h2 with h2
    subst h2
    exact ⟨c, rfl, hs⟩

/-- registry shape only (names and signatures), across changes of the fill list and the commit table -/
structure RegSim (s s' : Store) : Prop where
  sig : ∀ m c, s.findCol m = some c → ∃ c', s'.findCol m = some c' ∧ SameSig c c'
  none : ∀ m, s.findCol m = none → s'.findCol m = none

theorem Sim.reg {s s' : Store} (h : Sim s s') : RegSim s s' := ⟨h.sig, h.none⟩

theorem RegSim.refl (s : Store) : RegSim s s := (Sim.refl s).reg

theorem RegSim.trans {a b c : Store} (h1 : RegSim a b) (h2 : RegSim b c) : RegSim a c := by
  refine ⟨?_, ?_⟩
  · intro m x hx
    obtain ⟨y, hy, s1⟩ := h1.sig m x hx
    obtain ⟨z, hz, s2⟩ := h2.sig m y hy
    exact ⟨z, hz, SameSig.trans s1 s2⟩
  · intro m hm
    exact h2.none m (h1.none m hm)

theorem RegSim.sig_back {s s' : Store} (h : RegSim s s') {m : String} {c' : Col} (hc : s'.findCol m = some c') :
    ∃ c, s.findCol m = some c ∧ SameSig c c' := by
  cases hm : s.findCol m with
  | none => rw [h.none m hm] at hc; cases hc
  | some c =>
    obtain ⟨c2, h2, hs⟩ := h.sig m c hm
    rw [hc] at h2
    injection h2 with h2
    subst h2
    exact ⟨c, rfl, hs⟩

theorem findCol_congr {s s' : Store} (h : s'.cols = s.cols) (m : String) : s'.findCol m = s.findCol m := by
  unfold Store.findCol; rw [h]

theorem findCol_map {s s' : Store} (f : Col → Col) (hf : ∀ c, (f c).name = c.name) (h : s'.cols = s.cols.map f) (x : String) :
    s'.findCol x = (s.findCol x).map f := by
  unfold Store.findCol
  rw [h, Array.find?_map]
  have : ((fun c : Col => c.name == x) ∘ f) = fun c => c.name == x := funext fun c => by rw [Function.comp_apply, hf]
  rw [this]

theorem RegSim.of_cols {s s' : Store} (h : s'.cols = s.cols) : RegSim s s' :=
  ⟨fun m c hc => ⟨c, by rw [findCol_congr h]; exact hc, SameSig.refl c⟩, fun m hm => by rw [findCol_congr h]; exact hm⟩

def AllCols (P : Col → Prop) (s : Store) : Prop := ∀ c ∈ s.cols, P c

/-- `P` survives every `Apply` -/
def Stable (P : Col → Prop) : Prop := ∀ c c', ColKeeps c c' → P c → P c'

/-- the registry columns of `s'` are those of `s`, each replaced by a column `ColKeeps` allows: what every pass of a
    commit does to the registry. Names, signatures and every `Stable` predicate on the columns go through. -/
def ColsRel (s s' : Store) : Prop := Rel2 ColKeeps s.cols.toList s'.cols.toList

theorem ColsRel.refl (s : Store) : ColsRel s s := Rel2.refl ColKeeps.refl _

theorem ColsRel.trans {a b c : Store} (h1 : ColsRel a b) (h2 : ColsRel b c) : ColsRel a c :=
  Rel2.trans (R := ColKeeps) (fun _ _ _ => ColKeeps.trans) h1 h2

theorem ColsRel.of_cols {s s' : Store} (h : s'.cols = s.cols) : ColsRel s s' := by
  unfold ColsRel; rw [h]; exact Rel2.refl ColKeeps.refl _

theorem ColsRel.names {s s' : Store} (h : ColsRel s s') : s'.names = s.names :=
  Rel2.map_eq h _ _ (fun _ _ hab => hab.sig.name)

theorem ColsRel.reg {s s' : Store} (h : ColsRel s s') : RegSim s s' := by
  have key : ∀ m, (s.findCol m = none ∧ s'.findCol m = none) ∨
      ∃ a b, s.findCol m = some a ∧ s'.findCol m = some b ∧ ColKeeps a b := by
    intro m
    unfold Store.findCol
    rw [← Array.find?_toList, ← Array.find?_toList]
    exact Rel2.find? h _ _ (fun a b hab => by rw [hab.sig.name])
  constructor
  · intro m c hc
    rcases key m with ⟨e, _⟩ | ⟨a, b, e1, e2, hab⟩
    · rw [e] at hc; cases hc
    · rw [e1] at hc; cases hc; exact ⟨b, e2, hab.sig⟩
  · intro m hm
    rcases key m with ⟨_, e⟩ | ⟨a, b, e1, _, _⟩
    · exact e
    · rw [e1] at hm; cases hm

theorem ColsRel.allCols {s s' : Store} (h : ColsRel s s') {P : Col → Prop} (hP : Stable P) (ha : AllCols P s) :
    AllCols P s' := by
  intro c' hc'
  obtain ⟨c, hc, hk⟩ := Rel2.mem_right h c' (by simpa using hc')
  exact hP c c' hk (ha c (by simpa using hc))

theorem setCol_cols {s : Store} {n : String} {c : Col} (hf : s.findCol n = some c) (c' : Col) (hn : c'.name = n) :
    ∃ pre post, s.cols.toList = pre ++ c :: post ∧ (s.setCol c').cols.toList = pre ++ c' :: post := by
  rcases setCol_cases s c' with ⟨e, _⟩ | ⟨c0, pre, post, e0, e1, _, _, e2⟩
  · rw [hn, hf] at e; cases e
  · rw [hn, hf] at e0; cases e0; exact ⟨pre, post, e1, e2⟩

theorem setCol_colsRel {s : Store} {n : String} {c c' : Col} (hf : s.findCol n = some c) (hk : ColKeeps c c') :
    ColsRel s (s.setCol c') := by
  obtain ⟨pre, post, e1, e2⟩ := setCol_cols hf c' (hk.sig.name.trans (findCol_name hf))
  unfold ColsRel
  rw [e1, e2]
  exact Rel2.append (Rel2.refl ColKeeps.refl _) (.cons hk (Rel2.refl ColKeeps.refl _))

theorem setCol_eq (s : Store) (c : Col) : s.setCol c = { s with cols := (s.setCol c).cols } := by
  unfold Store.setCol
  split <;> rfl

/-! ## the steps of a commit -/

theorem isEmpty_range (u : Buf) (h : u.isEmpty = true) (c : Nat) : u.rangeOps c = [] := by
  unfold Buf.rangeOps Buf.range
  rw [List.flatten_eq_nil_iff]
  intro l hl
  obtain ⟨sec, hsec, rfl⟩ := List.mem_map.1 hl
  have hmem : sec ∈ u.rsecs := by
    have := (List.mem_filter.1 hsec).1
    simpa [Buf.secs] using this
  unfold Buf.isEmpty at h
  have := List.all_eq_true.1 h sec hmem
  unfold Sec.ops
  have h2 : sec.rops = [] := by simpa using this
  rw [h2]; rfl

theorem putAll_column (b : Buf) (ops : List Op) : (b.putAll ops).column = b.column := by
  induction ops generalizing b with
  | nil => rfl
  | cons o os ih => rw [Buf.putAll_cons, ih, Buf.column_put]

/-- one `Apply` of a registered column (computed pass, non-data main pass) -/
def applyNamed (chunk : Nat) (ops : List Op) (s : Store) (n : String) : Store :=
  match s.findCol n with
  | some c => { (s.setCol (c.applyAny s.hash chunk ops).1) with panicked := s.panicked || (c.applyAny s.hash chunk ops).2 }
  | none => s

theorem computedPass_eq (s : Store) (names : List String) (chunk : Nat) (u : Buf) :
    computedPass s names chunk u = (u.range chunk).foldl (fun s ops => names.foldl (applyNamed chunk ops) s) s := by
  rfl

/-- the main pass of a non-data column (bool / index / trigger / sorted written directly) -/
def otherMain (s : Store) (chunk : Nat) (u : Buf) : Store :=
  (u.range chunk).foldl (fun s ops => applyNamed chunk ops s u.column) s

/-- one round of `commitUpdates` -/
def cuStep (chunk : Nat) (acc : Store × List Buf × Bool) (u : Buf) : Store × List Buf × Bool :=
  if u.isEmpty || u.column == rowColumn then (acc.1, acc.2.1 ++ [u], acc.2.2)
  else
    match acc.1.findCol u.column with
    | none => (acc.1, acc.2.1 ++ [u], acc.2.2)
    | some col =>
      if col.kind.isData then
        (computedPass { (acc.1.setCol (mainPass acc.1.hash col chunk u).1) with
            panicked := acc.1.panicked || (mainPass acc.1.hash col chunk u).2.2 } col.computed chunk
            (mainPass acc.1.hash col chunk u).2.1,
         acc.2.1 ++ [(mainPass acc.1.hash col chunk u).2.1], true)
      else
        (computedPass (otherMain acc.1 chunk u) col.computed chunk u, acc.2.1 ++ [u], true)

theorem commitUpdates_eq (s : Store) (chunk : Nat) (ups : List Buf) :
    s.commitUpdates chunk ups = ups.foldl (cuStep chunk) (s, [], false) := rfl

theorem cuStep_cases (chunk : Nat) (acc : Store × List Buf × Bool) (u : Buf) :
    ((u.isEmpty || u.column == rowColumn) = true ∨ acc.1.findCol u.column = none) ∧
      cuStep chunk acc u = (acc.1, acc.2.1 ++ [u], acc.2.2) ∨
    ∃ col, (u.isEmpty || u.column == rowColumn) = false ∧ acc.1.findCol u.column = some col ∧
      (col.kind.isData = true ∧
        cuStep chunk acc u =
          (computedPass { (acc.1.setCol (mainPass acc.1.hash col chunk u).1) with
              panicked := acc.1.panicked || (mainPass acc.1.hash col chunk u).2.2 } col.computed chunk
              (mainPass acc.1.hash col chunk u).2.1,
           acc.2.1 ++ [(mainPass acc.1.hash col chunk u).2.1], true) ∨
       col.kind.isData = false ∧
        cuStep chunk acc u = (computedPass (otherMain acc.1 chunk u) col.computed chunk u, acc.2.1 ++ [u], true)) := by
  unfold cuStep
  by_cases hskip : (u.isEmpty || u.column == rowColumn) = true
  · rw [if_pos hskip]; exact .inl ⟨.inl hskip, rfl⟩
  · rw [if_neg hskip]
    cases hf : acc.1.findCol u.column with
    | none => exact .inl ⟨.inr rfl, rfl⟩
    | some col =>
      refine .inr ⟨col, by simpa using hskip, rfl, ?_⟩
      by_cases hd : col.kind.isData = true
      · exact .inl ⟨hd, by simp only [if_pos hd]⟩
      · exact .inr ⟨by simpa using hd, by simp only [if_neg hd]⟩

/-- the buffer as one round of `commitUpdates` hands it on: rewritten by the main pass when it is a non-empty buffer of a
    registered data column, else as it is -/
def cuBuf (chunk : Nat) (s : Store) (u : Buf) : Buf :=
  if u.isEmpty || u.column == rowColumn then u
  else
    match s.findCol u.column with
    | some col => if col.kind.isData then (mainPass s.hash col chunk u).2.1 else u
    | none => u

theorem cuStep_snd (chunk : Nat) (acc : Store × List Buf × Bool) (u : Buf) :
    (cuStep chunk acc u).2.1 = acc.2.1 ++ [cuBuf chunk acc.1 u] := by
  unfold cuBuf
  rcases cuStep_cases chunk acc u with ⟨h | h, e⟩ | ⟨col, hs, hf, ⟨hd, e⟩ | ⟨hd, e⟩⟩ <;> rw [e]
  · rw [if_pos h]
  · rw [h]; split <;> rfl
  · rw [hs, hf]; simp only [Bool.false_eq_true, if_false, if_pos hd]
  · rw [hs, hf]; simp only [Bool.false_eq_true, if_false, hd]

theorem cuStep_flag (chunk : Nat) (acc : Store × List Buf × Bool) (u : Buf) :
    (cuStep chunk acc u).2.2 =
      (acc.2.2 || (!u.isEmpty && u.column != rowColumn && (acc.1.findCol u.column).isSome)) := by
  rcases cuStep_cases chunk acc u with ⟨h | h, e⟩ | ⟨col, hs, hf, ⟨_, e⟩ | ⟨_, e⟩⟩ <;> rw [e]
  · have : (!u.isEmpty && u.column != rowColumn) = false := by
      cases h1 : u.isEmpty <;> cases h2 : (u.column == rowColumn) <;> simp_all [bne]
    rw [this]; simp
  · rw [h]; simp
  all_goals
    have : (!u.isEmpty && u.column != rowColumn) = true := by
      cases h1 : u.isEmpty <;> cases h2 : (u.column == rowColumn) <;> simp_all [bne]
    rw [this, hf]; simp

/-! ## `commitMarkers` -/

/-- the fill-list part of `commitMarkers`, one marker -/
def fillStep (f : Bitmap) (o : Op) : Bitmap :=
  if o.typ = opInsert then Bits.set f o.idx else if o.typ = opDelete then Bits.remove f o.idx else f

theorem commitMarkers_fill (s : Store) (chunk : Nat) (m : Buf) :
    (s.commitMarkers chunk m).fill = (m.rangeOps chunk).foldl fillStep s.fill := rfl

theorem inner_push (f : Col → Col × Bool) (l : List Col) (acc : Array Col) (p : Bool) :
    l.foldl (fun (a : Array Col × Bool) c => (a.1.push (f c).1, a.2 || (f c).2)) (acc, p) =
      (acc ++ (l.map (fun c => (f c).1)).toArray, p || l.any (fun c => (f c).2)) := by
  induction l generalizing acc p with
  | nil => simp
  | cons c cs ih =>
    simp only [List.foldl_cons]
    rw [ih]
    simp [Bool.or_assoc]

theorem markSection (hash : Bytes → Nat) (chunk : Nat) (ops : List Op) (cols : Array Col) (p : Bool) :
    cols.foldl (fun (a : Array Col × Bool) c =>
      (a.1.push (c.applyAny hash chunk ops).1, a.2 || (c.applyAny hash chunk ops).2)) (#[], p) =
    (cols.map (fun c => (c.applyAny hash chunk ops).1), p || cols.any (fun c => (c.applyAny hash chunk ops).2)) := by
  rw [← Array.foldl_toList, inner_push (fun c => c.applyAny hash chunk ops)]
  have : (List.map (fun c => (Col.applyAny hash c chunk ops).fst) cols.toList).toArray =
      Array.map (fun c => (Col.applyAny hash c chunk ops).fst) cols := by
    apply Array.ext'
    simp
  simp [this]

/-- what the marker sections do to one column -/
def markCol (hash : Bytes → Nat) (chunk : Nat) (secs : List (List Op)) (c : Col) : Col :=
  secs.foldl (fun c ops => (c.applyAny hash chunk ops).1) c

/-- the panic flag raised by the marker sections -/
def markPanic (hash : Bytes → Nat) (chunk : Nat) : List (List Op) → Array Col → Bool
  | [], _ => false
  | ops :: rest, cols =>
    cols.any (fun c => (c.applyAny hash chunk ops).2) ||
      markPanic hash chunk rest (cols.map (fun c => (c.applyAny hash chunk ops).1))

theorem markFold (hash : Bytes → Nat) (chunk : Nat) (secs : List (List Op)) (cols : Array Col) (p : Bool) :
    secs.foldl (fun (acc : Array Col × Bool) ops =>
      acc.1.foldl (fun (a : Array Col × Bool) c =>
        (a.1.push (c.applyAny hash chunk ops).1, a.2 || (c.applyAny hash chunk ops).2)) (#[], acc.2)) (cols, p) =
    (cols.map (markCol hash chunk secs), p || markPanic hash chunk secs cols) := by
  induction secs generalizing cols p with
  | nil =>
    have : Array.map (markCol hash chunk []) cols = cols := by
      unfold markCol; simp
    simp [markPanic, this]
  | cons ops rest ih =>
    simp only [List.foldl_cons]
    rw [markSection, ih]
    simp [markCol, markPanic, Bool.or_assoc, Function.comp_def]

theorem commitMarkers_cols (s : Store) (chunk : Nat) (m : Buf) :
    (s.commitMarkers chunk m).cols = s.cols.map (markCol s.hash chunk (m.range chunk)) ∧
    (s.commitMarkers chunk m).panicked = (s.panicked || markPanic s.hash chunk (m.range chunk) s.cols) := by
  have h := markFold s.hash chunk (m.range chunk) s.cols false
  have e : (s.commitMarkers chunk m).cols = ((m.range chunk).foldl (fun (acc : Array Col × Bool) ops =>
      acc.1.foldl (fun (a : Array Col × Bool) c =>
        (a.1.push (c.applyAny s.hash chunk ops).1, a.2 || (c.applyAny s.hash chunk ops).2)) (#[], acc.2)) (s.cols, false)).1 := rfl
  have e2 : (s.commitMarkers chunk m).panicked = (s.panicked || ((m.range chunk).foldl (fun (acc : Array Col × Bool) ops =>
      acc.1.foldl (fun (a : Array Col × Bool) c =>
        (a.1.push (c.applyAny s.hash chunk ops).1, a.2 || (c.applyAny s.hash chunk ops).2)) (#[], acc.2)) (s.cols, false)).2) := rfl
  rw [e, e2, h]
  simp

theorem markCol_keeps (hash : Bytes → Nat) (chunk : Nat) (secs : List (List Op)) (c : Col) :
    ColKeeps c (markCol hash chunk secs c) := by
  unfold markCol
  apply foldl_invariant (fun c' => ColKeeps c c') _ _ c (ColKeeps.refl c)
  intro b ops _ hb
  exact ColKeeps.trans hb (applyAny_keeps hash b chunk ops)

theorem markCol_sig (hash : Bytes → Nat) (chunk : Nat) (secs : List (List Op)) (c : Col) :
    SameSig c (markCol hash chunk secs c) := (markCol_keeps hash chunk secs c).sig

/-- marker sections on a data column of any kind: `applyData` over the marker ops (what they append is dropped) -/
theorem markCol_data (hash : Bytes → Nat) (chunk : Nat) (secs : List (List Op)) (c : Col) (hd : c.kind.isData = true) :
    markCol hash chunk secs c = (applyData hash c chunk secs.flatten).col := by
  unfold markCol
  induction secs generalizing c with
  | nil => exact (applyData_col_nil hash c chunk).symm
  | cons ops rest ih =>
    simp only [List.foldl_cons, List.flatten_cons]
    have h1 : (c.applyAny hash chunk ops).1 = (applyData hash c chunk ops).col := by
      unfold Col.applyAny
      rw [if_pos hd]
    rw [h1, ih _ (by rw [(applyData_sameShape hash c chunk ops).kind]; exact hd), applyData_col_append]

theorem commitMarkers_eq (s : Store) (chunk : Nat) (m : Buf) :
    s.commitMarkers chunk m =
      { s with fill := (m.rangeOps chunk).foldl fillStep s.fill,
               count := Bits.count ((m.rangeOps chunk).foldl fillStep s.fill),
               cols := s.cols.map (markCol s.hash chunk (m.range chunk)),
               panicked := s.panicked || markPanic s.hash chunk (m.range chunk) s.cols } := by
  obtain ⟨h1, h2⟩ := commitMarkers_cols s chunk m
  have h0 : s.commitMarkers chunk m =
      { s with fill := (m.rangeOps chunk).foldl fillStep s.fill,
               count := Bits.count ((m.rangeOps chunk).foldl fillStep s.fill),
               cols := (s.commitMarkers chunk m).cols, panicked := (s.commitMarkers chunk m).panicked } := rfl
  rw [h0, h1, h2]

theorem commitMarkers_colsRel (s : Store) (chunk : Nat) (m : Buf) : ColsRel s (s.commitMarkers chunk m) := by
  unfold ColsRel
  rw [(commitMarkers_cols s chunk m).1, Array.toList_map]
  exact Rel2.map_right _ (markCol_keeps s.hash chunk _) _

/-- the first statements of `commitChunk`: commit id, commit table, panic on a missing chunk -/
def preStore (s : Store) (chunk : Nat) : Store :=
  { s with nextId := s.nextId + 1, commits := s.commits.setIfInBounds chunk (s.nextId + 1),
           panicked := s.panicked || decide (chunk ≥ s.commits.size) }

/-- the emission part of `commitChunk` -/
def finishChunk (id chunk : Nat) (cr : Bool) (r : Store × List Buf × Bool) : Store × List Buf :=
  if !cr && !r.2.2 then (r.1, r.2.1)
  else
    let e : Emitted := ⟨id, chunk, r.2.1⟩
    let s := if r.1.recording then { r.1 with recorded := e :: r.1.recorded } else r.1
    let s := if s.logger ≠ .none then { s with emitted := e :: s.emitted } else s
    (s, r.2.1)

theorem finishChunk_eq (id chunk : Nat) (cr : Bool) (r : Store × List Buf × Bool) :
    finishChunk id chunk cr r =
      ({ r.1 with
          recorded := if r.1.recording = true ∧ (cr || r.2.2) = true then ⟨id, chunk, r.2.1⟩ :: r.1.recorded else r.1.recorded,
          emitted := if r.1.logger ≠ .none ∧ (cr || r.2.2) = true then ⟨id, chunk, r.2.1⟩ :: r.1.emitted else r.1.emitted },
       r.2.1) := by
  obtain ⟨s, ups, upd⟩ := r
  unfold finishChunk
  by_cases hq : (!cr && !upd) = true
  · have h : ¬ (cr || upd) = true := by cases cr <;> cases upd <;> simp_all
    rw [if_pos hq, if_neg (fun x => h x.2), if_neg (fun x => h x.2)]
  · have h : (cr || upd) = true := by cases cr <;> cases upd <;> simp_all
    rw [if_neg hq]
    by_cases hrec : s.recording = true <;> by_cases hl : s.logger = .none <;> simp [h, hrec, hl]
    -- no recorder, no logger: `simp` has written these two fields into the record
    cases s; simp_all

/-! ## the dirty chunks, the chunk loop -/

theorem mem_insertDedup (x y : Nat) (l : List Nat) : y ∈ insertDedup x l ↔ y = x ∨ y ∈ l := by
  induction l with
  | nil => simp [insertDedup]
  | cons z zs ih =>
    unfold insertDedup
    split
    · simp
    · split
      · rename_i _ e
        subst e
        simp
      · simp only [List.mem_cons, ih]
        constructor
        · rintro (h | h | h)
          · exact Or.inr (Or.inl h)
          · exact Or.inl h
          · exact Or.inr (Or.inr h)
        · rintro (h | h | h)
          · exact Or.inr (Or.inl h)
          · exact Or.inl h
          · exact Or.inr (Or.inr h)

theorem sorted_insertDedup (x : Nat) (l : List Nat) (h : l.Pairwise (· < ·)) : (insertDedup x l).Pairwise (· < ·) := by
  induction l with
  | nil => simp [insertDedup]
  | cons z zs ih =>
    unfold insertDedup
    rw [List.pairwise_cons] at h
    split
    · rename_i hlt
      rw [List.pairwise_cons]
      refine ⟨?_, List.pairwise_cons.2 h⟩
      intro a ha
      rcases List.mem_cons.1 ha with rfl | ha
      · exact hlt
      · exact Nat.lt_trans hlt (h.1 a ha)
    · split
      · exact List.pairwise_cons.2 h
      · rename_i h1 h2
        rw [List.pairwise_cons]
        refine ⟨?_, ih h.2⟩
        intro a ha
        rcases (mem_insertDedup x a zs).1 ha with rfl | ha
        · omega
        · exact h.1 a ha

theorem foldl_insertDedup (l init : List Nat) (h : init.Pairwise (· < ·)) :
    (l.foldl (fun acc x => insertDedup x acc) init).Pairwise (· < ·) ∧
    ∀ y, y ∈ l.foldl (fun acc x => insertDedup x acc) init ↔ y ∈ l ∨ y ∈ init := by
  induction l generalizing init with
  | nil => exact ⟨h, fun y => by simp⟩
  | cons x xs ih =>
    simp only [List.foldl_cons]
    obtain ⟨i1, i2⟩ := ih (insertDedup x init) (sorted_insertDedup x init h)
    refine ⟨i1, fun y => ?_⟩
    rw [i2 y, mem_insertDedup]
    simp only [List.mem_cons]
    constructor
    · rintro (h | h | h)
      · exact Or.inl (Or.inr h)
      · exact Or.inl (Or.inl h)
      · exact Or.inr h
    · rintro ((h | h) | h)
      · exact Or.inr (Or.inl h)
      · exact Or.inl h
      · exact Or.inr (Or.inr h)

theorem dirtyChunks_sorted (t : Txn) : t.dirtyChunks.Pairwise (· < ·) :=
  (foldl_insertDedup _ [] List.Pairwise.nil).1

theorem mem_dirtyChunks (t : Txn) (c : Nat) :
    c ∈ t.dirtyChunks ↔ c ∈ t.dirty ∨ ∃ b ∈ t.updates, c ∈ b.chunks := by
  unfold Txn.dirtyChunks
  rw [(foldl_insertDedup _ [] List.Pairwise.nil).2 c]
  simp only [List.mem_append, List.mem_flatten, List.mem_map, List.not_mem_nil, or_false]
  constructor
  · rintro (h | ⟨l, ⟨b, hb, rfl⟩, hc⟩)
    · exact Or.inl h
    · exact Or.inr ⟨b, hb, hc⟩
  · rintro (h | ⟨b, hb, hc⟩)
    · exact Or.inl h
    · exact Or.inr ⟨_, ⟨b, hb, rfl⟩, hc⟩

theorem sorted_nodup (l : List Nat) (h : l.Pairwise (· < ·)) : l.Nodup := by
  unfold List.Nodup
  exact List.Pairwise.imp (fun h => Nat.ne_of_lt h) h

theorem sorted_le_getLast (l : List Nat) (h : l.Pairwise (· < ·)) (last : Nat) (hl : l.getLast? = some last) :
    ∀ c ∈ l, c ≤ last := by
  induction l with
  | nil => intro c hc; cases hc
  | cons x xs ih =>
    rw [List.pairwise_cons] at h
    cases xs with
    | nil =>
      simp only [List.getLast?_singleton, Option.some.injEq] at hl
      intro c hc
      simp only [List.mem_singleton] at hc
      omega
    | cons y ys =>
      rw [List.getLast?_cons_cons] at hl
      have hmem : last ∈ y :: ys := List.mem_of_getLast? hl
      intro c hc
      rcases List.mem_cons.1 hc with rfl | hc
      · exact Nat.le_of_lt (h.1 last hmem)
      · exact ih h.2 hl c hc

/-- the chunk loop of `commit` -/
def commitLoop (cr : Bool) (cs : List Nat) (s : Store) (ups : List Buf) : Store × List Buf :=
  cs.foldl (fun (acc : Store × List Buf) chunk => acc.1.commitChunk chunk cr acc.2) (s, ups)

theorem commitLoop_cons (cr : Bool) (c : Nat) (cs : List Nat) (s : Store) (ups : List Buf) :
    commitLoop cr (c :: cs) s ups = commitLoop cr cs (s.commitChunk c cr ups).1 (s.commitChunk c cr ups).2 := rfl

/-- the store `commit` starts its chunk loop with (after `commitCapacity`) -/
def capStore (s : Store) (t : Txn) : Store :=
  match t.dirtyChunks.getLast? with
  | some last => s.commitCapacity last
  | none => s

theorem commit_eq' (s : Store) (t : Txn) :
    s.commit t = (commitLoop t.markers.isSome t.dirtyChunks (capStore s t) t.updates).1 := rfl

theorem capStore_of_last (s : Store) (t : Txn) (last : Nat) (h : t.dirtyChunks.getLast? = some last) :
    capStore s t = s.commitCapacity last := by
  unfold capStore; rw [h]

theorem capStore_induct (P : Store → Prop) (s : Store) (t : Txn) (h0 : t.dirtyChunks = [] → P s)
    (h1 : ∀ last, t.dirtyChunks.getLast? = some last → P (s.commitCapacity last)) : P (capStore s t) := by
  cases hl : t.dirtyChunks.getLast? with
  | none =>
    have e : capStore s t = s := by unfold capStore; rw [hl]
    rw [e]; exact h0 (List.getLast?_eq_none_iff.1 hl)
  | some last => rw [capStore_of_last s t last hl]; exact h1 last hl

end ColumnVerif.Store

namespace ColumnVerif.StorePlumb
open ColumnVerif.Codec ColumnVerif.Bits ColumnVerif.Store

theorem applyAny_kind (hash : Bytes → Nat) (c : Col) (chunk : Nat) (ops : List Op) :
    (c.applyAny hash chunk ops).1.kind = c.kind ∧ (c.applyAny hash chunk ops).1.computed = c.computed :=
  ⟨(applyAny_sig hash c chunk ops).kind, (applyAny_sig hash c chunk ops).computed⟩

/-! ## registry level: names, `findCol`, `setCol` -/

theorem findCol_isSome (s : Store) (n : String) : (s.findCol n).isSome = s.names.any (· == n) := by
  unfold Store.findCol Store.names
  rw [← Array.find?_toList, List.any_map]
  generalize s.cols.toList = l
  induction l with
  | nil => rfl
  | cons x xs ih =>
    simp only [List.find?_cons, List.any_cons, Function.comp]
    cases h : x.name == n <;> simp [ih]

/-- the configuration of a store: preserved by every step of a commit -/
structure Plumb (s s' : Store) : Prop where
  names : s'.names = s.names
  logger : s'.logger = s.logger
  recording : s'.recording = s.recording
  pk : s'.pk = s.pk
  hash : s'.hash = s.hash
  cap : s'.cap = s.cap

theorem Plumb.refl (s : Store) : Plumb s s := ⟨rfl, rfl, rfl, rfl, rfl, rfl⟩

theorem Plumb.trans {a b c : Store} (h1 : Plumb a b) (h2 : Plumb b c) : Plumb a c :=
  ⟨h2.names.trans h1.names, h2.logger.trans h1.logger, h2.recording.trans h1.recording, h2.pk.trans h1.pk,
   h2.hash.trans h1.hash, h2.cap.trans h1.cap⟩

theorem Plumb.findCol {s s' : Store} (h : Plumb s s') (n : String) : (s'.findCol n).isSome = (s.findCol n).isSome := by
  rw [findCol_isSome, findCol_isSome, h.names]

/-- nothing reaches the change stream, no commit id is consumed, the commit-id table is not touched -/
structure Silent (s s' : Store) : Prop where
  emitted : s'.emitted = s.emitted
  recorded : s'.recorded = s.recorded
  nextId : s'.nextId = s.nextId
  commits : s'.commits = s.commits

theorem Silent.refl (s : Store) : Silent s s := ⟨rfl, rfl, rfl, rfl⟩

theorem Silent.trans {a b c : Store} (h1 : Silent a b) (h2 : Silent b c) : Silent a c :=
  ⟨h2.emitted.trans h1.emitted, h2.recorded.trans h1.recorded, h2.nextId.trans h1.nextId, h2.commits.trans h1.commits⟩

/-- the fill list and the row counter are not touched -/
structure SameFill (s s' : Store) : Prop where
  fill : s'.fill = s.fill
  count : s'.count = s.count

theorem SameFill.refl (s : Store) : SameFill s s := ⟨rfl, rfl⟩

theorem SameFill.trans {a b c : Store} (h1 : SameFill a b) (h2 : SameFill b c) : SameFill a c :=
  ⟨h2.fill.trans h1.fill, h2.count.trans h1.count⟩

theorem setCol_panicked (s : Store) (c : Col) : (s.setCol c).panicked = s.panicked := by
  rw [setCol_eq]

theorem findCol_name {s : Store} {n : String} {c : Col} (h : s.findCol n = some c) : c.name = n := Store.findCol_name h

theorem setCol_size (s : Store) (c : Col) : (s.setCol c).cols.size = s.cols.size := Store.setCol_size s c

theorem findCol_setCol_self (s : Store) (n : String) (c c' : Col) (h : s.findCol n = some c) (hn : c'.name = n) :
    (s.setCol c').findCol n = some c' := by
  subst hn
  exact findCol_setCol_same s c' (by rw [h]; rfl)

theorem findCol_setCol_other (s : Store) (m : String) (c' : Col) (hm : c'.name ≠ m) :
    (s.setCol c').findCol m = s.findCol m := Store.findCol_setCol_other s c' m (fun e => hm e.symm)

/-- what the column passes of a commit (`setCol` after an `Apply`, the main and computed passes, `commitUpdates`) do to a
    store: every registry column is replaced by one `ColKeeps` allows, the panic flag may rise, nothing else changes -/
structure Passes (s s' : Store) : Prop where
  cols : ColsRel s s'
  plumb : Plumb s s'
  silent : Silent s s'
  fill : SameFill s s'

theorem Passes.refl (s : Store) : Passes s s := ⟨.refl s, .refl s, .refl s, .refl s⟩

theorem Passes.trans {a b c : Store} (h1 : Passes a b) (h2 : Passes b c) : Passes a c :=
  ⟨h1.cols.trans h2.cols, h1.plumb.trans h2.plumb, h1.silent.trans h2.silent, h1.fill.trans h2.fill⟩

theorem Passes.sim {s s' : Store} (h : Passes s s') : Sim s s' :=
  ⟨h.cols.reg.sig, h.cols.reg.none, h.plumb.hash, h.fill.fill, h.silent.commits⟩

theorem Passes.of_eq {s s' : Store} (hc : ColsRel s s') (he : s' = { s with cols := s'.cols, panicked := s'.panicked }) :
    Passes s s' := by
  refine ⟨hc, ⟨hc.names, ?_, ?_, ?_, ?_, ?_⟩, ⟨?_, ?_, ?_, ?_⟩, ⟨?_, ?_⟩⟩ <;> rw [he]

theorem setCol_passes {s : Store} {n : String} {c c' : Col} (hf : s.findCol n = some c) (hk : ColKeeps c c') (p : Bool) :
    Passes s { (s.setCol c') with panicked := p } :=
  Passes.of_eq (setCol_colsRel hf hk) (by rw [setCol_eq])

theorem applyNamed_passes (chunk : Nat) (ops : List Op) (s : Store) (n : String) : Passes s (applyNamed chunk ops s n) := by
  unfold applyNamed
  cases h : s.findCol n with
  | none => exact Passes.refl s
  | some c => exact setCol_passes h (applyAny_keeps s.hash c chunk ops) _

theorem computedPass_passes (s : Store) (names : List String) (chunk : Nat) (u : Buf) :
    Passes s (computedPass s names chunk u) := by
  rw [computedPass_eq]
  refine foldl_invariant (Passes s) _ _ s (Passes.refl s) (fun s1 ops _ h1 => ?_)
  exact foldl_invariant (Passes s) _ _ s1 h1 (fun s2 n _ h2 => h2.trans (applyNamed_passes chunk ops s2 n))

theorem otherMain_passes (s : Store) (chunk : Nat) (u : Buf) : Passes s (otherMain s chunk u) :=
  foldl_invariant (Passes s) _ _ s (Passes.refl s) (fun s1 ops _ h1 => h1.trans (applyNamed_passes chunk ops s1 u.column))

/-! ## `commitMarkers`: what it leaves of the store -/

theorem commitMarkers_plumb (s : Store) (chunk : Nat) (markers : Buf) : Plumb s (s.commitMarkers chunk markers) := by
  refine ⟨(commitMarkers_colsRel s chunk markers).names, ?_, ?_, ?_, ?_, ?_⟩ <;> rw [commitMarkers_eq]

theorem commitMarkers_silent (s : Store) (chunk : Nat) (markers : Buf) : Silent s (s.commitMarkers chunk markers) := by
  rw [commitMarkers_eq]
  exact ⟨rfl, rfl, rfl, rfl⟩

/-! ## buffers: column name and emptiness under `put`, `putAll`, `replaceSec` -/

theorem put_isEmpty (b : Buf) (o : Op) : (b.put o).isEmpty = false := by
  unfold Buf.put
  simp only
  split
  · split <;> simp [Buf.isEmpty]
  · simp [Buf.isEmpty]

theorem putAll_isEmpty (b : Buf) (ops : List Op) : (b.putAll ops).isEmpty = (b.isEmpty && ops.isEmpty) := by
  unfold Buf.putAll
  induction ops generalizing b with
  | nil => simp
  | cons o os ih =>
    simp only [List.foldl_cons]
    rw [ih, put_isEmpty]
    simp

theorem isEmpty_eq_secs (b : Buf) : b.isEmpty = (b.secs.map (fun s => s.rops.isEmpty)).all id := by
  unfold Buf.isEmpty Buf.secs
  rw [List.all_map, List.all_reverse]
  rfl

theorem replaceSec_map_isEmpty (S : List Sec) (i : Nat) (ops : List Op) (sec : Sec) (h : S[i]? = some sec)
    (hl : ops.length = sec.rops.length) :
    (replaceSec S i ops).map (fun s => s.rops.isEmpty) = S.map (fun s => s.rops.isEmpty) := by
  apply List.ext_getElem?
  intro j
  unfold replaceSec
  simp only [List.getElem?_map, List.getElem?_mapIdx]
  cases hj : S[j]? with
  | none => rfl
  | some x =>
    simp only [Option.map_some]
    by_cases e : j = i
    · subst e
      rw [if_pos rfl]
      rw [h] at hj
      cases hj
      congr 1
      cases ops <;> cases hr : sec.rops <;> simp_all
    · rw [if_neg e]

/-! ## `mainPass` -/

theorem mpStep_inv (hash : Bytes → Nat) (chunk : Nat) (acc : Col × Buf × Bool) (i : Nat) :
    SameShape acc.1 (mpStep hash chunk acc i).1 ∧
    (mpStep hash chunk acc i).2.1.column = acc.2.1.column ∧
    (mpStep hash chunk acc i).2.1.isEmpty = acc.2.1.isEmpty ∧
    (chunk < acc.1.nchunks → (mpStep hash chunk acc i).2.2 = acc.2.2) := by
  obtain ⟨col, u, p⟩ := acc
  unfold mpStep
  simp only
  split
  · exact ⟨SameShape.refl _, rfl, rfl, fun _ => rfl⟩
  · rename_i sec hsec
    split
    · exact ⟨SameShape.refl _, rfl, rfl, fun _ => rfl⟩
    · refine ⟨applyData_sameShape hash col chunk sec.ops, ?_, ?_, fun hch => ?_⟩
      · rw [putAll_column]
      · rw [putAll_isEmpty]
        have hlen : (applyData hash col chunk sec.ops).ops.length = sec.rops.length := by
          rw [applyData_ops_length]; simp [Sec.ops]
        have h1 : ({ u with rsecs := (replaceSec u.secs i (applyData hash col chunk sec.ops).ops).reverse } : Buf).isEmpty
            = u.isEmpty := by
          rw [isEmpty_eq_secs, isEmpty_eq_secs, secs_set, replaceSec_map_isEmpty _ _ _ sec hsec hlen]
        rw [h1]
        cases he : u.isEmpty with
        | false => rfl
        | true =>
          have hmem : sec ∈ u.secs := List.mem_of_getElem? hsec
          have hall : ∀ x ∈ u.rsecs, x.rops.isEmpty = true := by
            simpa [Buf.isEmpty] using he
          have hnil : sec.rops = [] := by
            have := hall sec (by simpa [Buf.secs] using hmem)
            simpa using this
          have : sec.ops = [] := by simp [Sec.ops, hnil]
          rw [this, applyData_appended_nil]
          rfl
      · rw [applyData_panic]
        have : decide (chunk ≥ col.nchunks) = false := by simp only [decide_eq_false_iff_not]; omega
        rw [this, Bool.or_false]

theorem mainPass_inv (hash : Bytes → Nat) (col : Col) (chunk : Nat) (u : Buf) :
    SameShape col (mainPass hash col chunk u).1 ∧
    (mainPass hash col chunk u).2.1.column = u.column ∧
    (mainPass hash col chunk u).2.1.isEmpty = u.isEmpty ∧
    (chunk < col.nchunks → (mainPass hash col chunk u).2.2 = false) := by
  rw [mainPass_eq]
  refine foldl_invariant (fun (acc : Col × Buf × Bool) => SameShape col acc.1 ∧ acc.2.1.column = u.column ∧
    acc.2.1.isEmpty = u.isEmpty ∧ (chunk < col.nchunks → acc.2.2 = false)) _ _ (col, u, false)
    ⟨SameShape.refl col, rfl, rfl, fun _ => rfl⟩ (fun acc i _ ⟨b1, b2, b3, b4⟩ => ?_)
  obtain ⟨a1, a2, a3, a4⟩ := mpStep_inv hash chunk acc i
  exact ⟨b1.trans a1, a2.trans b2, a3.trans b3, fun h => (a4 (by rw [b1.nchunks]; exact h)).trans (b4 h)⟩

theorem mainPass_name (hash : Bytes → Nat) (col : Col) (chunk : Nat) (u : Buf) :
    (mainPass hash col chunk u).1.name = col.name := (mainPass_inv hash col chunk u).1.name

/-! ## `commitUpdates` -/

/-- what the emission decision reads of a buffer: its column name and whether it is empty -/
def bufSig (u : Buf) : String × Bool := (u.column, u.isEmpty)

/-- the `updated` flag of `commitUpdates`, read off the transaction's buffers and the registry: some non-empty
    buffer, not the marker buffer, names a column that exists -/
def updatedFlag (s : Store) (ups : List Buf) : Bool :=
  ups.any (fun u => !u.isEmpty && u.column != rowColumn && (s.findCol u.column).isSome)

theorem updatedFlag_congr {s s' : Store} {ups ups' : List Buf} (hn : s'.names = s.names)
    (hu : ups'.map bufSig = ups.map bufSig) : updatedFlag s' ups' = updatedFlag s ups := by
  have key : ∀ (s : Store) (ups : List Buf), updatedFlag s ups =
      (ups.map bufSig).any (fun p => !p.2 && p.1 != rowColumn && s.names.any (· == p.1)) := by
    intro s ups
    unfold updatedFlag
    rw [List.any_map]
    congr 1
    funext u
    simp only [Function.comp, bufSig, findCol_isSome]
  rw [key, key, hn, hu]

theorem cuStep_passes (chunk : Nat) (acc : Store × List Buf × Bool) (u : Buf) : Passes acc.1 (cuStep chunk acc u).1 := by
  rcases cuStep_cases chunk acc u with ⟨_, e⟩ | ⟨col, _, hf, ⟨_, e⟩ | ⟨_, e⟩⟩ <;> rw [e]
  · exact Passes.refl _
  · exact (setCol_passes hf (mainPass_inv acc.1.hash col chunk u).1.keeps _).trans (computedPass_passes _ _ _ _)
  · exact (otherMain_passes acc.1 chunk u).trans (computedPass_passes _ _ _ _)

theorem cuBuf_spec (chunk : Nat) (s : Store) (u : Buf) :
    bufSig (cuBuf chunk s u) = bufSig u ∧ ((u.isEmpty || u.column == rowColumn) = true → cuBuf chunk s u = u) := by
  unfold cuBuf
  split
  · exact ⟨rfl, fun _ => rfl⟩
  · rename_i h
    refine ⟨?_, fun hc => absurd hc h⟩
    split
    · split
      · unfold bufSig; rw [(mainPass_inv _ _ _ _).2.1, (mainPass_inv _ _ _ _).2.2.1]
      · rfl
    · rfl

theorem cuFold_spec (chunk : Nat) (ups : List Buf) (acc : Store × List Buf × Bool) :
    Passes acc.1 (ups.foldl (cuStep chunk) acc).1 ∧
    (ups.foldl (cuStep chunk) acc).2.2 = (acc.2.2 || updatedFlag acc.1 ups) := by
  induction ups generalizing acc with
  | nil => exact ⟨Passes.refl _, by simp [updatedFlag]⟩
  | cons u us ih =>
    simp only [List.foldl_cons]
    have a1 := cuStep_passes chunk acc u
    obtain ⟨b1, b3⟩ := ih (cuStep chunk acc u)
    refine ⟨a1.trans b1, ?_⟩
    rw [b3, cuStep_flag, updatedFlag_congr a1.plumb.names rfl]
    simp [updatedFlag, Bool.or_assoc]

/-- the buffers `commitUpdates` hands on are pointwise related to those it was given, by any relation `R` that holds
    between a buffer and `cuBuf` of it in every store the rounds go through (`I`) -/
theorem cuFold_bufs (chunk : Nat) (R : Buf → Buf → Prop) (I : Store → Prop)
    (hI : ∀ s s', I s → Passes s s' → I s') (hR : ∀ s u, I s → R u (cuBuf chunk s u)) (ups : List Buf)
    (acc : Store × List Buf × Bool) (h0 : I acc.1) :
    ∃ ups', (ups.foldl (cuStep chunk) acc).2.1 = acc.2.1 ++ ups' ∧ Rel2 R ups ups' := by
  induction ups generalizing acc with
  | nil => exact ⟨[], by simp, Rel2.nil⟩
  | cons u us ih =>
    obtain ⟨us', i1, i2⟩ := ih (cuStep chunk acc u) (hI _ _ h0 (cuStep_passes chunk acc u))
    refine ⟨cuBuf chunk acc.1 u :: us', ?_, Rel2.cons (hR acc.1 u h0) i2⟩
    rw [List.foldl_cons, i1, cuStep_snd]; simp

theorem commitUpdates_passes (s : Store) (chunk : Nat) (ups : List Buf) : Passes s (s.commitUpdates chunk ups).1 := by
  rw [commitUpdates_eq]; exact (cuFold_spec chunk ups (s, [], false)).1

theorem commitUpdates_updated (s : Store) (chunk : Nat) (ups : List Buf) :
    (s.commitUpdates chunk ups).2.2 = updatedFlag s ups := by
  rw [commitUpdates_eq]
  have := (cuFold_spec chunk ups (s, [], false)).2
  simpa using this

theorem commitUpdates_bufs (s : Store) (chunk : Nat) (ups : List Buf) :
    Rel2 (fun u u' => bufSig u' = bufSig u ∧ ((u.isEmpty || u.column == rowColumn) = true → u' = u)) ups
      (s.commitUpdates chunk ups).2.1 := by
  obtain ⟨ups', h1, h2⟩ := cuFold_bufs chunk
    (fun u u' => bufSig u' = bufSig u ∧ ((u.isEmpty || u.column == rowColumn) = true → u' = u)) (fun _ => True)
    (fun _ _ _ _ => trivial) (fun s u _ => cuBuf_spec chunk s u) ups (s, [], false) trivial
  rw [commitUpdates_eq, h1]
  exact h2

theorem commitUpdates_sigs (s : Store) (chunk : Nat) (ups : List Buf) :
    (s.commitUpdates chunk ups).2.1.map bufSig = ups.map bufSig :=
  Rel2.map_eq (commitUpdates_bufs s chunk ups) _ _ (fun _ _ h => h.1)

theorem commitUpdates_length (s : Store) (chunk : Nat) (ups : List Buf) :
    (s.commitUpdates chunk ups).2.1.length = ups.length := by
  have := congrArg List.length (commitUpdates_sigs s chunk ups)
  simpa using this

theorem commitUpdates_columns (s : Store) (chunk : Nat) (ups : List Buf) :
    (s.commitUpdates chunk ups).2.1.map Buf.column = ups.map Buf.column := by
  have := congrArg (List.map Prod.fst) (commitUpdates_sigs s chunk ups)
  simpa [bufSig, Function.comp_def] using this

theorem commitUpdates_isEmpty (s : Store) (chunk : Nat) (ups : List Buf) :
    (s.commitUpdates chunk ups).2.1.map Buf.isEmpty = ups.map Buf.isEmpty := by
  have := congrArg (List.map Prod.snd) (commitUpdates_sigs s chunk ups)
  simpa [bufSig, Function.comp_def] using this

theorem commitUpdates_fill (s : Store) (chunk : Nat) (ups : List Buf) : SameFill s (s.commitUpdates chunk ups).1 :=
  (commitUpdates_passes s chunk ups).fill

/-! ## `commitCapacity` -/

theorem commitCapacity_plumb (s : Store) (last : Nat) : Plumb s (s.commitCapacity last) := by
  unfold Store.commitCapacity
  split
  · exact Plumb.refl s
  · refine ⟨?_, rfl, rfl, rfl, rfl, rfl⟩
    simp only [Store.names, Array.toList_map, List.map_map]
    congr 1
    funext c
    exact grow_name c _

theorem commitCapacity_quiet (s : Store) (last : Nat) :
    (s.commitCapacity last).emitted = s.emitted ∧ (s.commitCapacity last).recorded = s.recorded ∧
    (s.commitCapacity last).nextId = s.nextId ∧ (s.commitCapacity last).count = s.count ∧
    (s.commitCapacity last).panicked = s.panicked := by
  unfold Store.commitCapacity
  split <;> exact ⟨rfl, rfl, rfl, rfl, rfl⟩

/-! ## `commitChunk` -/

/-- the store `commitChunk` hands to `commitUpdates`: commit id taken and recorded, markers applied -/
def chunkPre (s : Store) (chunk : Nat) (cr : Bool) (ups : List Buf) : Store :=
  let s1 := { s with nextId := s.nextId + 1, commits := s.commits.setIfInBounds chunk (s.nextId + 1),
                     panicked := s.panicked || decide (chunk ≥ s.commits.size) }
  if cr then
    match ups.find? (fun b => !b.isEmpty && b.column == rowColumn) with
    | some m => s1.commitMarkers chunk m
    | none => s1
  else s1

theorem commitChunk_eq (s : Store) (chunk : Nat) (cr : Bool) (ups : List Buf) :
    s.commitChunk chunk cr ups =
      finishChunk (s.nextId + 1) chunk cr ((chunkPre s chunk cr ups).commitUpdates chunk ups) := rfl

theorem chunkPre_cases (s : Store) (chunk : Nat) (cr : Bool) (ups : List Buf) :
    chunkPre s chunk cr ups = preStore s chunk ∨ ∃ m, chunkPre s chunk cr ups = (preStore s chunk).commitMarkers chunk m := by
  unfold chunkPre
  simp only
  split
  · split
    · exact .inr ⟨_, rfl⟩
    · exact .inl rfl
  · exact .inl rfl

theorem chunkPre_plumb (s : Store) (chunk : Nat) (cr : Bool) (ups : List Buf) : Plumb s (chunkPre s chunk cr ups) := by
  have hp : Plumb s (preStore s chunk) := ⟨rfl, rfl, rfl, rfl, rfl, rfl⟩
  rcases chunkPre_cases s chunk cr ups with e | ⟨m, e⟩ <;> rw [e]
  · exact hp
  · exact hp.trans (commitMarkers_plumb _ chunk m)

theorem chunkPre_fields (s : Store) (chunk : Nat) (cr : Bool) (ups : List Buf) :
    (chunkPre s chunk cr ups).emitted = s.emitted ∧ (chunkPre s chunk cr ups).recorded = s.recorded ∧
    (chunkPre s chunk cr ups).nextId = s.nextId + 1 ∧
    (chunkPre s chunk cr ups).commits = s.commits.setIfInBounds chunk (s.nextId + 1) := by
  rcases chunkPre_cases s chunk cr ups with e | ⟨m, e⟩ <;> rw [e]
  · exact ⟨rfl, rfl, rfl, rfl⟩
  · rw [commitMarkers_eq]; exact ⟨rfl, rfl, rfl, rfl⟩

theorem chunkPre_fill_of_not_changed (s : Store) (chunk : Nat) (ups : List Buf) :
    SameFill s (chunkPre s chunk false ups) := ⟨rfl, rfl⟩

theorem finishChunk_spec (id chunk : Nat) (cr : Bool) (r : Store × List Buf × Bool) :
    Plumb r.1 (finishChunk id chunk cr r).1 ∧ SameFill r.1 (finishChunk id chunk cr r).1 ∧
    (finishChunk id chunk cr r).1.nextId = r.1.nextId ∧ (finishChunk id chunk cr r).1.commits = r.1.commits ∧
    (finishChunk id chunk cr r).1.cols = r.1.cols ∧ (finishChunk id chunk cr r).1.panicked = r.1.panicked ∧
    (finishChunk id chunk cr r).2 = r.2.1 ∧
    (finishChunk id chunk cr r).1.emitted =
      (if r.1.logger ≠ .none ∧ (cr || r.2.2) = true then ⟨id, chunk, r.2.1⟩ :: r.1.emitted else r.1.emitted) ∧
    (finishChunk id chunk cr r).1.recorded =
      (if r.1.recording = true ∧ (cr || r.2.2) = true then ⟨id, chunk, r.2.1⟩ :: r.1.recorded else r.1.recorded) := by
  rw [finishChunk_eq]
  exact ⟨⟨rfl, rfl, rfl, rfl, rfl, rfl⟩, ⟨rfl, rfl⟩, rfl, rfl, rfl, rfl, rfl, rfl, rfl⟩

theorem commitChunk_spec (s : Store) (chunk : Nat) (cr : Bool) (ups : List Buf) :
    Plumb s (s.commitChunk chunk cr ups).1 ∧
    (s.commitChunk chunk cr ups).1.nextId = s.nextId + 1 ∧
    (s.commitChunk chunk cr ups).1.commits = s.commits.setIfInBounds chunk (s.nextId + 1) ∧
    (s.commitChunk chunk cr ups).2.map bufSig = ups.map bufSig ∧
    (s.commitChunk chunk cr ups).1.emitted =
      (if s.logger ≠ .none ∧ (cr || updatedFlag s ups) = true
        then ⟨s.nextId + 1, chunk, (s.commitChunk chunk cr ups).2⟩ :: s.emitted else s.emitted) ∧
    (s.commitChunk chunk cr ups).1.recorded =
      (if s.recording = true ∧ (cr || updatedFlag s ups) = true
        then ⟨s.nextId + 1, chunk, (s.commitChunk chunk cr ups).2⟩ :: s.recorded else s.recorded) := by
  rw [commitChunk_eq]
  have hp := chunkPre_plumb s chunk cr ups
  obtain ⟨f1, f2, f3, f4⟩ := chunkPre_fields s chunk cr ups
  have up := (commitUpdates_passes (chunkPre s chunk cr ups) chunk ups).plumb
  have us := (commitUpdates_passes (chunkPre s chunk cr ups) chunk ups).silent
  have usig := commitUpdates_sigs (chunkPre s chunk cr ups) chunk ups
  have uflag := commitUpdates_updated (chunkPre s chunk cr ups) chunk ups
  rw [updatedFlag_congr hp.names rfl] at uflag
  obtain ⟨e1, _, e3, e4, _, _, e7, e8, e9⟩ :=
    finishChunk_spec (s.nextId + 1) chunk cr ((chunkPre s chunk cr ups).commitUpdates chunk ups)
  refine ⟨Plumb.trans hp (Plumb.trans up e1), ?_, ?_, ?_, ?_, ?_⟩
  · rw [e3, us.nextId, f3]
  · rw [e4, us.commits, f4]
  · rw [e7, usig]
  · rw [e8, e7, uflag, us.emitted, f1, up.logger, hp.logger]
  · rw [e9, e7, uflag, us.recorded, f2, up.recording, hp.recording]

/-- with a logger attached, a chunk is emitted — once, under the id `nextId + 1`, with the buffers as rewritten
    by this chunk's main pass — iff the transaction has markers or `updatedFlag` holds -/
theorem commitChunk_emitted (s : Store) (hl : s.logger ≠ .none) (chunk : Nat) (cr : Bool) (ups : List Buf) :
    (s.commitChunk chunk cr ups).1.emitted =
      if (cr || updatedFlag s ups) = true then ⟨s.nextId + 1, chunk, (s.commitChunk chunk cr ups).2⟩ :: s.emitted
      else s.emitted := by
  rw [(commitChunk_spec s chunk cr ups).2.2.2.2.1]
  simp [hl]

theorem commitChunk_emitted_none (s : Store) (hl : s.logger = .none) (chunk : Nat) (cr : Bool) (ups : List Buf) :
    (s.commitChunk chunk cr ups).1.emitted = s.emitted := by
  rw [(commitChunk_spec s chunk cr ups).2.2.2.2.1]
  simp [hl]

/-- every dirty chunk consumes exactly one commit id, emitted or not -/
theorem commitChunk_nextId (s : Store) (chunk : Nat) (cr : Bool) (ups : List Buf) :
    (s.commitChunk chunk cr ups).1.nextId = s.nextId + 1 := (commitChunk_spec s chunk cr ups).2.1

theorem commitChunk_plumb (s : Store) (chunk : Nat) (cr : Bool) (ups : List Buf) :
    Plumb s (s.commitChunk chunk cr ups).1 := (commitChunk_spec s chunk cr ups).1

theorem commitChunk_sigs (s : Store) (chunk : Nat) (cr : Bool) (ups : List Buf) :
    (s.commitChunk chunk cr ups).2.map bufSig = ups.map bufSig := (commitChunk_spec s chunk cr ups).2.2.2.1

/-- the next chunk of the same transaction takes the same emission decision -/
theorem updatedFlag_commitChunk (s : Store) (chunk : Nat) (cr : Bool) (ups : List Buf) :
    updatedFlag (s.commitChunk chunk cr ups).1 (s.commitChunk chunk cr ups).2 = updatedFlag s ups :=
  updatedFlag_congr (commitChunk_plumb s chunk cr ups).names (commitChunk_sigs s chunk cr ups)

/-! ## the marker buffer is never rewritten -/

/-- `findMarkers`' predicate -/
def isMarkerBuf (b : Buf) : Bool := !b.isEmpty && b.column == rowColumn

theorem markers_eq (t : Txn) : t.markers = t.updates.find? isMarkerBuf := rfl

theorem commitUpdates_markers (s : Store) (chunk : Nat) (ups : List Buf) :
    (s.commitUpdates chunk ups).2.1.find? isMarkerBuf = ups.find? isMarkerBuf := by
  refine Rel2.find?_eq isMarkerBuf (fun u u' h => ?_) (commitUpdates_bufs s chunk ups)
  have h1 : u'.column = u.column := congrArg Prod.fst h.1
  have h2 : u'.isEmpty = u.isEmpty := congrArg Prod.snd h.1
  refine ⟨by unfold isMarkerBuf; rw [h1, h2], fun hm => h.2 ?_⟩
  unfold isMarkerBuf at hm
  cases he : u.isEmpty <;> cases hc : (u.column == rowColumn) <;> simp_all

theorem commitChunk_markers (s : Store) (chunk : Nat) (cr : Bool) (ups : List Buf) :
    (s.commitChunk chunk cr ups).2.find? isMarkerBuf = ups.find? isMarkerBuf := by
  rw [commitChunk_eq, (finishChunk_spec _ _ _ _).2.2.2.2.2.2.1, commitUpdates_markers]

end ColumnVerif.StorePlumb
