import ColumnVerif.Lemmas.StoreRead
import ColumnVerif.Lemmas.Sorted
/-!
Store-level plumbing for the **computed columns** (bitmap index, sorted index, trigger) attached to a data column `x`:
what `Store.commit` leaves in the registry under the computed column's name, as an equality of `Col` records, in terms of
the column-level functions `applyOther` (computed column) and `applyData` (its target) alone.

* A — `applyOther` on a computed kind is a fold of the kind's step (`applyOther_computed`), so section by section is the
  same as over the concatenation (`applyOther_append`, `_flatten`).
* B — what the computed pass reads after the main pass: the rewritten ops followed by the appended puts (`seenOps`,
  `putAll_rangeOps`, `mainPass_one_buf`, `pass_seen`).
* C — the computed pass / the marker pass on a registered computed column (`computedPass_findCol`, `markStore_comp`).
* D — `commitUpdates`, `commitChunk`, the chunk loop, `commit` (`seenFor`, `seenChunk`, `compChunks`; `commit_computed`).
* E — passes that append nothing hand over exactly `(applyData …).ops` (`seenFor_noAppend`, `seenChunk_noAppend`); numeric
  target: the index invariant through the chunk loop, `commitCapacity` and `commit`.
* F — hypothesis bundles for the property files (`Attached`, `NumCol`, `NumTxn`); G — `CreateIndex` after the data (back-fill
  from the snapshot); H — the calls a trigger makes during a commit, chunk by chunk and row by row; I — sorted indexes.
-/
namespace ColumnVerif.Store
open ColumnVerif.Codec ColumnVerif.Bits

/-! ## A — `applyOther` on a computed kind -/

theorem applyOther_nil (c : Col) : (applyOther c []).1 = c := by
  unfold applyOther
  split <;> rfl

theorem isData_of_isComputed {k : Kind} (h : k.isComputed = true) : k.isData = false := by
  cases k <;> first | rfl | cases h

theorem applyOther_isComputed (c : Col) (ops : List Op) (h : c.kind.isComputed = true) :
    (applyOther c ops).1.kind.isComputed = true := by
  rw [(applyOther_sig c ops).kind]; exact h

/-- one op of `Apply` on a computed column -/
def compStep : Kind → Col → Op → Col
  | .index _ r => idxStep r
  | .trigger _ => trigStep
  | .sorted _ => sortedStep
  | _ => fun c _ => c

theorem applyOther_computed (c : Col) (hc : c.kind.isComputed = true) (ops : List Op) :
    applyOther c ops = (ops.foldl (compStep c.kind) c, false) := by
  cases hk : c.kind with
  | index t r => exact applyOther_index c t r hk ops
  | trigger t => exact applyOther_trigger c t hk ops
  | sorted t => exact applyOther_sorted c t hk ops
  | num _ | bool | str | enum | key | record => rw [hk] at hc; cases hc

theorem applyOther_append (c : Col) (hc : c.kind.isComputed = true) (a b : List Op) :
    (applyOther c (a ++ b)).1 = (applyOther (applyOther c a).1 b).1 := by
  have hk := (applyOther_sig c a).kind
  rw [applyOther_computed c hc, applyOther_computed _ (hk ▸ hc) b, hk, applyOther_computed c hc a, List.foldl_append]

theorem applyOther_flatten (secs : List (List Op)) (c : Col) (hc : c.kind.isComputed = true) :
    secs.foldl (fun c ops => (applyOther c ops).1) c = (applyOther c secs.flatten).1 := by
  induction secs generalizing c with
  | nil => exact (applyOther_nil c).symm
  | cons ops rest ih =>
    simp only [List.foldl_cons, List.flatten_cons]
    rw [ih _ (applyOther_isComputed c ops hc), applyOther_append c hc]

theorem applyAny_computed (hash : Bytes → Nat) (c : Col) (chunk : Nat) (ops : List Op) (hc : c.kind.isComputed = true) :
    (c.applyAny hash chunk ops).1 = (applyOther c ops).1 := by
  unfold Col.applyAny
  rw [isData_of_isComputed hc]
  rfl

/-! ## B — what the computed pass reads after the main pass -/

/-- what the computed columns of a data column receive of one buffer pass: the section(s) as rewritten in place,
    followed by the puts the pass appended through the buffer (resizing string merges) -/
def seenOps (r : Applied) : List Op := r.ops ++ r.appended

theorem seenOps_nil (hash : Bytes → Nat) (c : Col) (chunk : Nat) : seenOps (applyData hash c chunk []) = [] := by
  unfold seenOps
  rw [applyData_ops_nil, applyData_appended_nil]
  rfl

theorem put_rangeOps_same (b : Buf) (o : Op) (h : BufOK b) :
    (b.put o).rangeOps (chunkOf o.idx) = b.rangeOps (chunkOf o.idx) ++ [o] := by
  rcases put_forms b o with ⟨s, rest, hr, hc, he⟩ | he
  · rw [he]
    have hsc : s.chunk = chunkOf o.idx := h.cur_ok s rest hr _ hc
    unfold Buf.rangeOps Buf.range Buf.secs
    simp [hr, List.filter_append, hsc, Sec.ops]
  · rw [he]
    unfold Buf.rangeOps Buf.range Buf.secs
    simp [List.filter_append, Sec.ops]

theorem putAll_rangeOps (b : Buf) (ops : List Op) (h : BufOK b) (ch : Nat) (hops : ∀ o ∈ ops, chunkOf o.idx = ch) :
    (b.putAll ops).rangeOps ch = b.rangeOps ch ++ ops := by
  induction ops generalizing b with
  | nil => simp [Buf.putAll]
  | cons o os ih =>
    rw [Buf.putAll_cons, ih _ (put_bufOK b o h) (fun x hx => hops x (by simp [hx]))]
    have := put_rangeOps_same b o h
    rw [hops o (by simp)] at this
    rw [this]
    simp

/-- **one section for the chunk** (resizing merges allowed): the computed pass reads the rewritten section followed by
    the appended puts (they land in the same section when the buffer is still "in" the chunk, in a new last section
    otherwise) -/
theorem mainPass_one_buf (hash : Bytes → Nat) (col : Col) (ch : Nat) (u : Buf) (hok : BufOK u) (hone : OneSec u ch) :
    (mainPass hash col ch u).2.1.rangeOps ch = seenOps (applyData hash col ch (u.rangeOps ch)) := by
  by_cases hex : ∃ (j : Nat) (sec : Sec), u.secs[j]? = some sec ∧ sec.chunk = ch
  · obtain ⟨j, sec, hs, rfl⟩ := hex
    obtain ⟨P, T, hsecs, _, hP, hT⟩ := oneSec_split u sec.chunk hone j sec hs rfl
    obtain ⟨hro, hra⟩ := applyData_idx hash col sec.chunk sec.ops (fun i => chunkOf i = sec.chunk)
      (secOps_chunk u hok sec (by rw [hsecs]; simp))
    obtain ⟨_, b2, _⟩ := replaced_facts u P T sec (applyData hash col sec.chunk sec.ops).ops hsecs hro
    have hB := split_rangeOps _ P T { sec with rops := (applyData hash col sec.chunk sec.ops).ops.reverse }
      (secs_set u _) hP hT
    rw [mainPass_one_eq hash col u hok P T sec hone hsecs hP, mpStep_at hash sec.chunk col u false P sec T hsecs,
      if_pos rfl, split_rangeOps u P T sec hsecs hP hT]
    dsimp only at hB ⊢
    rw [putAll_rangeOps _ _ (b2 hok) sec.chunk hra, hB]
    simp [seenOps, Sec.ops]
  · obtain ⟨h1, h2⟩ := mainPass_none_eq hash col ch u hex
    rw [h1, h2, seenOps_nil]

/-- **what the computed pass reads**: after a clean main pass (`PassOK`) the sections of the chunk now in the buffer,
    concatenated, are the rewritten ops followed by the appended puts -/
theorem pass_seen (hash : Bytes → Nat) (c : Col) (ch : Nat) (u : Buf) (h : PassOK hash c ch u) :
    (mainPass hash c ch u).2.1.rangeOps ch = seenOps (applyData hash c ch (u.rangeOps ch)) := by
  rcases h with hna | ⟨hok, hone⟩
  · rw [(mainPassG hash c ch u hna).2.1]
    unfold seenOps
    rw [hna, List.append_nil]
    unfold Buf.rangeOps Buf.range
    rw [secs_set, (mpSpecG_flat hash ch u.secs c).2.1]
  · exact mainPass_one_buf hash c ch u hok hone

/-! ## C — the computed pass and the marker pass on a registered computed column -/

theorem applyNamed_self (chunk : Nat) (ops : List Op) (s : Store) (n : String) (c : Col) (h : s.findCol n = some c)
    (hc : c.kind.isComputed = true) : (applyNamed chunk ops s n).findCol n = some (applyOther c ops).1 := by
  unfold applyNamed
  rw [h]
  simp only
  rw [findCol_with_panicked, setCol_found s c _ n h (applyAny_sig s.hash c chunk ops).name n, if_pos rfl,
    applyAny_computed _ _ _ _ hc]

/-- `Apply` of the same section `n` times (a name listed `n` times in `computed` is applied `n` times) -/
def applyTimes (ops : List Op) : Nat → Col → Col
  | 0, c => c
  | n + 1, c => applyTimes ops n (applyOther c ops).1

/-- the inner loop of `computedPass` (one section, every attached name): the column `ix` gets the section once per
    occurrence of its name -/
theorem namesFold_findCol (chunk : Nat) (ops : List Op) (ix : String) (names : List String) :
    ∀ (s : Store) (ic : Col), s.findCol ix = some ic → ic.kind.isComputed = true →
      (names.foldl (applyNamed chunk ops) s).findCol ix = some (applyTimes ops (names.count ix) ic) := by
  induction names with
  | nil => intro s ic h _; exact h
  | cons n ns ih =>
    intro s ic h hc
    simp only [List.foldl_cons]
    by_cases e : n = ix
    · subst e
      rw [ih _ _ (applyNamed_self chunk ops s n ic h hc) (applyOther_isComputed ic ops hc), List.count_cons_self]
      rfl
    · rw [ih _ ic (by rw [applyNamed_frame chunk ops s n ix (fun e' => e e'.symm)]; exact h) hc]
      simp [e]

/-- **the computed pass** on a computed column listed once: `applyOther` over the chunk's ops now in the buffer -/
theorem computedPass_findCol (s : Store) (names : List String) (chunk : Nat) (u : Buf) (ix : String) (ic : Col)
    (h : s.findCol ix = some ic) (hc : ic.kind.isComputed = true) (hcount : names.count ix = 1) :
    (computedPass s names chunk u).findCol ix = some (applyOther ic (u.rangeOps chunk)).1 := by
  rw [computedPass_eq]
  unfold Buf.rangeOps
  generalize u.range chunk = secs
  rw [← applyOther_flatten secs ic hc]
  induction secs generalizing s ic with
  | nil => exact h
  | cons ops rest ih =>
    simp only [List.foldl_cons]
    apply ih
    · rw [namesFold_findCol chunk ops ix names s ic h hc, hcount]
      rfl
    · exact applyOther_isComputed ic ops hc

theorem computedPass_findCol_none (s : Store) (names : List String) (chunk : Nat) (u : Buf) (ix : String)
    (hx : ix ∉ names) : (computedPass s names chunk u).findCol ix = s.findCol ix :=
  computedPass_frame s names chunk u ix hx

theorem markCol_computed (hash : Bytes → Nat) (chunk : Nat) (secs : List (List Op)) (c : Col)
    (hc : c.kind.isComputed = true) : markCol hash chunk secs c = (applyOther c secs.flatten).1 := by
  unfold markCol
  induction secs generalizing c with
  | nil => exact (applyOther_nil c).symm
  | cons ops rest ih =>
    simp only [List.foldl_cons, List.flatten_cons]
    rw [applyAny_computed hash c chunk ops hc, ih _ (applyOther_isComputed c ops hc), applyOther_append c hc]

theorem markStore_comp (s : Store) (chunk : Nat) (cr : Bool) (ups : List Buf) (ix : String) (ic : Col)
    (hf : s.findCol ix = some ic) (hc : ic.kind.isComputed = true) :
    (markStore s chunk cr ups).findCol ix = some (applyOther ic (markerOpsCr cr ups chunk)).1 := by
  have hp : (preStore s chunk).findCol ix = some ic := hf
  rcases markStore_cases s chunk cr ups with ⟨e, e2⟩ | ⟨m, e, e2⟩ <;> rw [e, e2]
  · rw [hp, applyOther_nil]
  · rw [commitMarkers_findCol, hp, Option.map_some, markCol_computed _ _ _ ic hc]

/-! ## D — `commitUpdates`, `commitChunk`, the chunk loop, `commit` -/

/-- the ops the computed columns of `x` receive from the buffers of `x` in the pass of chunk `ch`, in buffer order: per
    buffer the rewritten ops followed by the appended puts (`seenOps`), the column `x` threaded through -/
def seenFor (hash : Bytes → Nat) (x : String) (ch : Nat) : List Buf → Col → List Op
  | [], _ => []
  | u :: us, c =>
    if u.column = x then
      seenOps (applyData hash c ch (u.rangeOps ch)) ++ seenFor hash x ch us (applyData hash c ch (u.rangeOps ch)).col
    else seenFor hash x ch us c

theorem seenFor_cons (hash : Bytes → Nat) (x : String) (ch : Nat) (u : Buf) (us : List Buf) (c : Col) :
    seenFor hash x ch (u :: us) c =
      if u.column = x then
        seenOps (applyData hash c ch (u.rangeOps ch)) ++ seenFor hash x ch us (applyData hash c ch (u.rangeOps ch)).col
      else seenFor hash x ch us c := rfl

theorem cuStep_self_comp (chunk : Nat) (s : Store) (done : List Buf) (b : Bool) (u : Buf) (x ix : String) (col ic : Col)
    (hxr : x ≠ rowColumn) (hux : u.column = x) (hf : s.findCol x = some col) (hd : col.kind.isData = true)
    (hfi : s.findCol ix = some ic) (hci : ic.kind.isComputed = true) (hcount : col.computed.count ix = 1)
    (hok : PassOK s.hash col chunk u) :
    (cuStep chunk (s, done, b) u).1.findCol ix =
      some (applyOther ic (seenOps (applyData s.hash col chunk (u.rangeOps chunk)))).1 := by
  have hne : ix ≠ x := fun e => by
    rw [e, hf] at hfi
    rw [Option.some.inj hfi, isData_of_isComputed hci] at hd
    cases hd
  subst hux
  rcases cuStep_data chunk s done b u col hxr hf hd with ⟨e, hr⟩ | e <;> rw [e]
  · rw [hr, seenOps_nil, applyOther_nil]
    exact hfi
  · obtain ⟨g1, _⟩ := mainPass_general s.hash col chunk u
    rw [computedPass_findCol _ _ _ _ ix ic ?_ hci hcount, pass_seen _ _ _ _ hok]
    rw [findCol_with_panicked, setCol_found s col _ _ hf g1.name ix, if_neg hne]
    exact hfi

theorem cuFold_comp (x ix : String) (chunk : Nat) (hxr : x ≠ rowColumn) (ups : List Buf) :
    ∀ (acc : Store × List Buf × Bool) (col ic : Col), acc.1.findCol x = some col → col.kind.isData = true →
      acc.1.findCol ix = some ic → ic.kind.isComputed = true → col.computed.count ix = 1 →
      (∀ v ∈ ups, ∀ c, acc.1.findCol v.column = some c → x ∉ c.computed) →
      (∀ v ∈ ups, v.column ≠ x → v.column ≠ ix ∧ ∀ c, acc.1.findCol v.column = some c → ix ∉ c.computed) →
      BufsOK acc.1.hash x chunk ups col →
      (ups.foldl (cuStep chunk) acc).1.findCol ix =
        some (applyOther ic (seenFor acc.1.hash x chunk ups col)).1 := by
  induction ups with
  | nil =>
    intro acc col ic _ _ hfi _ _ _ _ _
    exact hfi.trans (by rw [show seenFor acc.1.hash x chunk [] col = [] from rfl, applyOther_nil])
  | cons u us ih =>
    intro acc col ic hf hd hfi hci hcount hcomp hatt hok
    have hsim := cuStep_sim chunk acc.1 acc.2.1 acc.2.2 u
    have hcomp' : ∀ v ∈ us, ∀ c, (cuStep chunk acc u).1.findCol v.column = some c → x ∉ c.computed :=
      fun v hv => hsim.reg.notComputed (hcomp v (by simp [hv]))
    have hatt' : ∀ v ∈ us, v.column ≠ x →
        v.column ≠ ix ∧ ∀ c, (cuStep chunk acc u).1.findCol v.column = some c → ix ∉ c.computed :=
      fun v hv hvx => ⟨(hatt v (by simp [hv]) hvx).1, hsim.reg.notComputed (hatt v (by simp [hv]) hvx).2⟩
    have hhash : (cuStep chunk acc u).1.hash = acc.1.hash := hsim.hash
    rw [BufsOK_cons] at hok
    rw [seenFor_cons, List.foldl_cons]
    by_cases hux : u.column = x
    · rw [if_pos hux] at hok
      obtain ⟨f1, _⟩ := cuStep_self_ok chunk acc.1 acc.2.1 acc.2.2 u x col hxr hux hf hd
        (hcomp u (by simp) col (hux ▸ hf)) hok.1
      have g1 := cuStep_self_comp chunk acc.1 acc.2.1 acc.2.2 u x ix col ic hxr hux hf hd hfi hci hcount hok.1
      have hsh := applyData_sameShape acc.1.hash col chunk (u.rangeOps chunk)
      rw [if_pos hux, ih _ _ _ f1 (by rw [hsh.kind]; exact hd) g1 (applyOther_isComputed ic _ hci)
        (by rw [hsh.computed]; exact hcount) hcomp' hatt' (by rw [hhash]; exact hok.2), hhash,
        applyOther_append ic hci]
    · rw [if_neg hux] at hok
      obtain ⟨f1, _⟩ := cuStep_other_ok chunk acc.1 acc.2.1 acc.2.2 u x hux (hcomp u (by simp))
      have g1 := cuStep_frame chunk acc.1 acc.2.1 acc.2.2 u ix (hatt u (by simp) hux).1 (hatt u (by simp) hux).2
      rw [if_neg hux, ih _ col ic (f1.trans hf) hd (g1.trans hfi) hci hcount hcomp' hatt' (by rw [hhash]; exact hok),
        hhash]

/-- **one dirty chunk, a computed column `ix` of the data column `x`** (`commitChunk`): the column `ix` resolves to
    afterwards is `applyOther` over the marker ops of the chunk (handed to every registry column as they are) followed by
    what the buffer passes of `x` leave for the chunk — the rewritten ops and the appended puts, `x` taken in the state
    the markers leave -/
theorem commitChunk_computed (s : Store) (chunk : Nat) (cr : Bool) (ups : List Buf) (x ix : String) (col ic : Col)
    (hxr : x ≠ rowColumn) (hf : s.findCol x = some col) (hd : col.kind.isData = true)
    (hfi : s.findCol ix = some ic) (hci : ic.kind.isComputed = true) (hcount : col.computed.count ix = 1)
    (hcomp : ∀ v ∈ ups, ∀ c, s.findCol v.column = some c → x ∉ c.computed)
    (hatt : ∀ v ∈ ups, v.column ≠ x → v.column ≠ ix ∧ ∀ c, s.findCol v.column = some c → ix ∉ c.computed)
    (hok : BufsOK s.hash x chunk ups (applyData s.hash col chunk (markerOpsCr cr ups chunk)).col) :
    (s.commitChunk chunk cr ups).1.findCol ix =
      some (applyOther ic (markerOpsCr cr ups chunk ++
        seenFor s.hash x chunk ups (applyData s.hash col chunk (markerOpsCr cr ups chunk)).col)).1 := by
  rw [commitChunk_def]
  obtain ⟨_, f2, _⟩ := finishChunk_fields (s.nextId + 1) chunk cr
    ((markStore s chunk cr ups).commitUpdates chunk ups)
  have hreg := markStore_regSim s chunk cr ups
  have fm := markStore_col s chunk cr ups x col hf hd
  have fmi := markStore_comp s chunk cr ups ix ic hfi hci
  have hh := markStore_hash s chunk cr ups
  generalize markStore s chunk cr ups = ms at f2 hreg fm fmi hh
  have hcomp' : ∀ v ∈ ups, ∀ c, ms.findCol v.column = some c → x ∉ c.computed :=
    fun v hv => hreg.notComputed (hcomp v hv)
  have hatt' : ∀ v ∈ ups, v.column ≠ x → v.column ≠ ix ∧ ∀ c, ms.findCol v.column = some c → ix ∉ c.computed :=
    fun v hv hvx => ⟨(hatt v hv hvx).1, hreg.notComputed (hatt v hv hvx).2⟩
  have hsh := applyData_sameShape s.hash col chunk (markerOpsCr cr ups chunk)
  have fu := cuFold_comp x ix chunk hxr ups (ms, [], false) _ _ fm (by rw [hsh.kind]; exact hd) fmi
    (applyOther_isComputed ic _ hci) (by rw [hsh.computed]; exact hcount) hcomp' hatt' (by rw [hh]; exact hok)
  rw [← commitUpdates_eq] at fu
  rw [findCol_congr f2, fu, hh, applyOther_append ic hci]

/-- the ops a computed column of `x` receives in the pass of chunk `ch`: the markers of the chunk, then what the buffer
    passes of `x` leave (`col`: the column `x` when the pass of the chunk starts) -/
def seenChunk (hash : Bytes → Nat) (ups : List Buf) (x : String) (ch : Nat) (col : Col) : List Op :=
  markerOps ups ch ++ seenFor hash x ch ups (applyData hash col ch (markerOps ups ch)).col

/-- the computed column after the passes of the chunks `cs`, by the column-level functions alone (`col`: its target,
    threaded through as `colChunks` does) -/
def compChunks (hash : Bytes → Nat) (ups : List Buf) (x : String) : List Nat → Col → Col → Col
  | [], _, ic => ic
  | ch :: cs, col, ic =>
    compChunks hash ups x cs (applyData hash col ch (chunkOps ups x ch)).col
      (applyOther ic (seenChunk hash ups x ch col)).1

theorem compChunks_cons (hash : Bytes → Nat) (ups : List Buf) (x : String) (ch : Nat) (cs : List Nat) (col ic : Col) :
    compChunks hash ups x (ch :: cs) col ic =
      compChunks hash ups x cs (applyData hash col ch (chunkOps ups x ch)).col
        (applyOther ic (seenChunk hash ups x ch col)).1 := rfl

theorem compChunks_sig (hash : Bytes → Nat) (ups : List Buf) (x : String) (cs : List Nat) :
    ∀ col ic, SameSig ic (compChunks hash ups x cs col ic) := by
  induction cs with
  | nil => intro _ ic; exact SameSig.refl ic
  | cons c cs ih =>
    intro col ic
    rw [compChunks_cons]
    exact SameSig.trans (applyOther_sig ic _) (ih _ _)

theorem Rel2.seenFor {x : String} {D : List Nat} {ups ups' : List Buf} (h : Rel2 (BufRel x D) ups ups')
    (hash : Bytes → Nat) (c2 : Nat) (hc2 : c2 ∉ D) : ∀ col, seenFor hash x c2 ups' col = seenFor hash x c2 ups col := by
  induction h with
  | nil => intro _; rfl
  | @cons a b as bs hab _ ih =>
    intro col
    obtain ⟨h1, _, h3⟩ := hab
    rw [seenFor_cons, seenFor_cons]
    by_cases hx : a.column = x
    · have hr : b.rangeOps c2 = a.rangeOps c2 := by
        unfold Buf.rangeOps
        rw [h3 hx c2 hc2]
      rw [if_pos hx, if_pos (h1.trans hx), hr, ih]
    · rw [if_neg hx, if_neg (by rw [h1]; exact hx), ih]

theorem compChunks_congr (hash : Bytes → Nat) (ups ups' : List Buf) (x : String) (cs : List Nat)
    (hm : ∀ c ∈ cs, markerOps ups' c = markerOps ups c) (ho : ∀ c ∈ cs, opsFor ups' x c = opsFor ups x c)
    (hs : ∀ c ∈ cs, ∀ col, seenFor hash x c ups' col = seenFor hash x c ups col) :
    ∀ col ic, compChunks hash ups' x cs col ic = compChunks hash ups x cs col ic := by
  induction cs with
  | nil => intro _ _; rfl
  | cons c cs ih =>
    intro col ic
    have hco : chunkOps ups' x c = chunkOps ups x c := by
      unfold chunkOps; rw [hm c (by simp), ho c (by simp)]
    have hse : seenChunk hash ups' x c col = seenChunk hash ups x c col := by
      unfold seenChunk; rw [hm c (by simp), hs c (by simp)]
    rw [compChunks_cons, compChunks_cons, hco, hse]
    exact ih (fun c' hc' => hm c' (by simp [hc'])) (fun c' hc' => ho c' (by simp [hc']))
      (fun c' hc' => hs c' (by simp [hc'])) _ _

theorem commitLoop_computed (x ix : String) (hxr : x ≠ rowColumn) (cs : List Nat) :
    ∀ (s : Store) (ups : List Buf) (col ic : Col) (cr : Bool), cs.Nodup → cr = (ups.find? isMarkerBuf).isSome →
      s.findCol x = some col → col.kind.isData = true →
      s.findCol ix = some ic → ic.kind.isComputed = true → col.computed.count ix = 1 →
      (∀ v ∈ ups, ∀ c, s.findCol v.column = some c → x ∉ c.computed) →
      (∀ v ∈ ups, v.column ≠ x → v.column ≠ ix ∧ ∀ c, s.findCol v.column = some c → ix ∉ c.computed) →
      ChunksOK s.hash ups x cs col →
      (commitLoop cr cs s ups).1.findCol ix = some (compChunks s.hash ups x cs col ic) := by
  induction cs with
  | nil =>
    intro s ups col ic cr _ _ _ _ hfi _ _ _ _ _
    exact hfi
  | cons c cs ih =>
    intro s ups col ic cr hnd hcr hf hd hfi hci hcount hcomp hatt hok
    obtain ⟨hc_notin, hnd'⟩ := List.nodup_cons.1 hnd
    subst hcr
    obtain ⟨f1, hreg, hrel1, _⟩ := commitChunk_ok_full s c (ups.find? isMarkerBuf).isSome ups x col hxr hf hd hcomp
      (by rw [markerOpsCr_isSome]; exact hok.1)
    have g1 := commitChunk_computed s c (ups.find? isMarkerBuf).isSome ups x ix col ic hxr hf hd hfi hci hcount hcomp
      hatt (by rw [markerOpsCr_isSome]; exact hok.1)
    have hrel := hrel1.toBufRel
    obtain ⟨hfm, hmo, hof, _⟩ := rel2_next hrel cs hc_notin
    have hh := commitChunk_hash s c (ups.find? isMarkerBuf).isSome ups
    rw [markerOpsCr_isSome] at f1 g1
    have hatt1 : ∀ v ∈ (s.commitChunk c (ups.find? isMarkerBuf).isSome ups).2, v.column ≠ x →
        v.column ≠ ix ∧ ∀ c0, (s.commitChunk c (ups.find? isMarkerBuf).isSome ups).1.findCol v.column = some c0 →
          ix ∉ c0.computed := by
      intro v' hv'
      obtain ⟨v, hv, hb⟩ := hrel.columns v' hv'
      rw [hb.1]
      exact fun hvx => ⟨(hatt v hv hvx).1, hreg.notComputed (hatt v hv hvx).2⟩
    have hsf : ∀ c2 ∈ cs, ∀ col, seenFor s.hash x c2 (s.commitChunk c (ups.find? isMarkerBuf).isSome ups).2 col =
        seenFor s.hash x c2 ups col :=
      fun c2 hc2 => hrel.seenFor s.hash c2 (fun e => hc_notin (List.mem_singleton.1 e ▸ hc2))
    have hsh := applyData_sameShape s.hash col c (markerOps ups c ++ opsFor ups x c)
    rw [commitLoop_cons, ih _ _ _ _ _ hnd' (by rw [hfm]) f1 (by rw [hsh.kind]; exact hd) g1
      (applyOther_isComputed ic _ hci) (by rw [hsh.computed]; exact hcount) (rel2_notComputed hrel hreg hcomp) hatt1
      (by rw [hh]; exact ChunksOK_transfer s.hash x c hrel1 cs hc_notin hmo hof _ hok.2),
      hh, compChunks_congr s.hash ups _ x cs hmo hof hsf, compChunks_cons]
    rfl

/-- **`commit`, a computed column `ix` of the data column `x`** (any number of dirty chunks, any other buffers): the
    column `ix` resolves to after `s.commit t` is, chunk by chunk in ascending order, `applyOther` over the chunk's markers
    followed by what the buffer passes of `x` leave for the chunk (`seenChunk`), starting from the column as
    `commitCapacity` leaves it (`capCol`) -/
theorem commit_computed (s : Store) (t : Txn) (x ix : String) (col ic : Col)
    (hxr : x ≠ rowColumn) (hf : s.findCol x = some col) (hd : col.kind.isData = true)
    (hfi : s.findCol ix = some ic) (hci : ic.kind.isComputed = true) (hcount : col.computed.count ix = 1)
    (hcomp : ∀ v ∈ t.updates, ∀ c, s.findCol v.column = some c → x ∉ c.computed)
    (hatt : ∀ v ∈ t.updates, v.column ≠ x → v.column ≠ ix ∧ ∀ c, s.findCol v.column = some c → ix ∉ c.computed)
    (hok : ChunksOK s.hash t.updates x t.dirtyChunks (capCol s t col)) :
    (s.commit t).findCol ix =
      some (compChunks s.hash t.updates x t.dirtyChunks (capCol s t col) (capCol s t ic)) := by
  rw [commit_eq']
  have f1 : (capStore s t).findCol x = some (capCol s t col) := by rw [capStore_findCol_eq, hf]; rfl
  have g1 : (capStore s t).findCol ix = some (capCol s t ic) := by rw [capStore_findCol_eq, hfi]; rfl
  have hcomp1 : ∀ v ∈ t.updates, ∀ c, (capStore s t).findCol v.column = some c → x ∉ c.computed :=
    fun v hv => capStore_notComputed s t (hcomp v hv)
  have hatt1 : ∀ v ∈ t.updates, v.column ≠ x →
      v.column ≠ ix ∧ ∀ c, (capStore s t).findCol v.column = some c → ix ∉ c.computed :=
    fun v hv hvx => ⟨(hatt v hv hvx).1, capStore_notComputed s t (hatt v hv hvx).2⟩
  have := commitLoop_computed x ix hxr t.dirtyChunks (capStore s t) t.updates (capCol s t col) (capCol s t ic)
    t.markers.isSome (sorted_nodup _ (dirtyChunks_sorted t)) rfl f1 (by rw [(capCol_meta s t col).2.1]; exact hd) g1
    (by rw [(capCol_meta s t ic).2.1]; exact hci) (by rw [(capCol_meta s t col).2.2.1]; exact hcount) hcomp1 hatt1
    (by rw [capStore_hash]; exact hok)
  rw [this, capStore_hash]

/-! ## E — numeric target: the ops seen are the rewritten ops; the index invariant through a commit -/

theorem seenFor_noAppend (hash : Bytes → Nat) (x : String) (ch : Nat) (ups : List Buf) :
    ∀ col : Col, (applyData hash col ch (opsFor ups x ch)).appended = [] →
      seenFor hash x ch ups col = (applyData hash col ch (opsFor ups x ch)).ops := by
  induction ups with
  | nil => intro col _; exact (applyData_ops_nil hash col ch).symm
  | cons u us ih =>
    intro col h
    rw [seenFor_cons]
    by_cases hux : u.column = x
    · rw [opsFor_cons_self u us x ch hux] at h ⊢
      rw [applyData_appended_append, List.append_eq_nil_iff] at h
      rw [if_pos hux, applyData_ops_append, ih _ h.2, seenOps, h.1, List.append_nil]
    · rw [opsFor_cons_other u us x ch hux] at h ⊢
      rw [if_neg hux, ih col h]

theorem seenChunk_noAppend (hash : Bytes → Nat) (ups : List Buf) (x : String) (ch : Nat) (col : Col)
    (hmk : ∀ o ∈ markerOps ups ch, o.typ ≠ opMerge)
    (h : (applyData hash (applyData hash col ch (markerOps ups ch)).col ch (opsFor ups x ch)).appended = []) :
    seenChunk hash ups x ch col = (applyData hash col ch (chunkOps ups x ch)).ops ∧
    (applyData hash col ch (chunkOps ups x ch)).appended = [] := by
  obtain ⟨m1, m2⟩ := applyData_of_no_merge hash col ch _ hmk
  unfold seenChunk chunkOps
  rw [applyData_ops_append, applyData_appended_append, m1, m2, seenFor_noAppend hash x ch ups _ h, h]
  exact ⟨rfl, rfl⟩

/-- numeric `x`: what the computed columns see of the buffers of `x` is `rwList` (every `Merge` turned into a `Put` of
    the stored value) of the ops issued for the chunk -/
theorem seenFor_num (hash : Bytes → Nat) (x : String) (ch : Nat) (k : NumKind) (ups : List Buf) (col : Col)
    (hk : col.kind = .num k) (hch : ch < col.nchunks) : seenFor hash x ch ups col = rwList k col (opsFor ups x ch) := by
  rw [seenFor_noAppend hash x ch ups col (applyData_appended_nil_of_kind hash col ch _ (by rw [hk]; simp)),
    applyData_num hash col k hk ch hch]

theorem seenChunk_num (hash : Bytes → Nat) (ups : List Buf) (x : String) (ch : Nat) (k : NumKind) (col : Col)
    (hk : col.kind = .num k) (hch : ch < col.nchunks) (hmk : ∀ o ∈ markerOps ups ch, o.typ ≠ opMerge) :
    seenChunk hash ups x ch col = rwList k col (chunkOps ups x ch) := by
  rw [(seenChunk_noAppend hash ups x ch col hmk (applyData_appended_nil_of_kind hash _ ch _
    (by rw [(applyData_sameShape hash col ch _).kind, hk]; simp))).1, applyData_num hash col k hk ch hch]

theorem indexInv_chunk (hash : Bytes → Nat) (ups : List Buf) (x : String) (ch : Nat) (k : NumKind) (t : String)
    (rule : RuleFn) (col ic : Col) (hk : col.kind = .num k) (hik : ic.kind = .index t rule) (hch : ch < col.nchunks)
    (hin : InBounds col (chunkOps ups x ch)) (hcan : CanonPuts k (chunkOps ups x ch))
    (hmk : ∀ o ∈ markerOps ups ch, o.typ ≠ opMerge) (hm : ∀ a d, col.merge a d ≠ [])
    (hinv : IndexInv col ic k rule) :
    IndexInv (applyData hash col ch (chunkOps ups x ch)).col (applyOther ic (seenChunk hash ups x ch col)).1 k rule := by
  rw [seenChunk_num hash ups x ch k col hk hch hmk, applyData_num hash col k hk ch hch, applyOther_index ic t rule hik]
  exact indexInv_fold k rule _ col ic hin hcan (fun _ _ _ => hm) hinv

theorem indexInv_chunks (hash : Bytes → Nat) (ups : List Buf) (x : String) (k : NumKind) (t : String) (rule : RuleFn)
    (cs : List Nat) :
    ∀ col ic : Col, col.kind = .num k → ic.kind = .index t rule → ColWF col → (∀ c ∈ cs, c < col.nchunks) →
      (∀ c ∈ cs, ∀ o ∈ chunkOps ups x c, chunkOf o.idx = c) → (∀ c ∈ cs, CanonPuts k (chunkOps ups x c)) →
      (∀ c ∈ cs, ∀ o ∈ markerOps ups c, o.typ ≠ opMerge) → (∀ a d, col.merge a d ≠ []) → IndexInv col ic k rule →
      IndexInv (colChunks hash ups x cs col) (compChunks hash ups x cs col ic) k rule := by
  induction cs with
  | nil => intro col ic _ _ _ _ _ _ _ _ hinv; exact hinv
  | cons c cs ih =>
    intro col ic hk hik hw hch hco hcan hmk hm hinv
    rw [colChunks_cons, compChunks_cons]
    have hsh := applyData_sameShape hash col c (chunkOps ups x c)
    have hin : InBounds col (chunkOps ups x c) := inBounds_of_chunk col c _ hw (hch c (by simp)) (hco c (by simp))
    apply ih
    · exact hsh.kind.trans hk
    · exact (applyOther_sig ic _).kind.trans hik
    · exact ColWF.of_shape hsh hw
    · intro c' hc'; rw [hsh.nchunks]; exact hch c' (by simp [hc'])
    · intro c' hc'; exact hco c' (by simp [hc'])
    · intro c' hc'; exact hcan c' (by simp [hc'])
    · intro c' hc'; exact hmk c' (by simp [hc'])
    · rw [hsh.merge]; exact hm
    · exact indexInv_chunk hash ups x c k t rule col ic hk hik (hch c (by simp)) hin (hcan c (by simp))
        (hmk c (by simp)) hm hinv

theorem capCol_index_get (s : Store) (t : Txn) (ic : Col) (tg : String) (rule : RuleFn) (hik : ic.kind = .index tg rule)
    (o : Nat) : Bits.get (capCol s t ic).bits o = Bits.get ic.bits o := by
  rcases capCol_cases s t ic with ⟨e, _⟩ | ⟨m, _, e⟩ <;> rw [e]
  unfold Col.grow
  rw [hik]
  exact get_grow _ _ _

theorem indexInv_capCol (s : Store) (t : Txn) (col ic : Col) (k : NumKind) (tg : String) (rule : RuleFn)
    (hk : col.kind = .num k) (hik : ic.kind = .index tg rule) (hinv : IndexInv col ic k rule) :
    IndexInv (capCol s t col) (capCol s t ic) k rule := by
  intro o
  obtain ⟨_, _, _, g4, _, _⟩ := capCol_data s t col (by rw [hk]; rfl)
  have hs := g4 o
  unfold slot at hs
  simp only [Prod.mk.injEq] at hs
  rw [capCol_index_get s t ic tg rule hik o, hs.1, hs.2]
  exact hinv o

/-! ## F — hypothesis bundles for the property files, and what `commit` keeps of them -/

/-- registry hypotheses on the pair (data column `x`, computed column `ix`): `x` is not itself attached to anything,
    `ix` is attached to `x` only, and listed there once -/
structure Attached (s : Store) (x ix : String) : Prop where
  target : ∀ n c, s.findCol n = some c → x ∉ c.computed
  only : ∀ n c, s.findCol n = some c → n ≠ x → ix ∉ c.computed
  once : ∀ c, s.findCol x = some c → c.computed.count ix = 1

theorem Attached.commit {s : Store} {x ix : String} (h : Attached s x ix) (t : Txn) : Attached (s.commit t) x ix := by
  refine ⟨?_, ?_, ?_⟩
  · intro n c hc
    obtain ⟨c0, h0, e, _⟩ := commit_back s t n c hc
    rw [e]; exact h.target n c0 h0
  · intro n c hc hn
    obtain ⟨c0, h0, e, _⟩ := commit_back s t n c hc
    rw [e]; exact h.only n c0 h0 hn
  · intro c hc
    obtain ⟨c0, h0, e, _⟩ := commit_back s t x c hc
    rw [e]; exact h.once c0 h0

/-- for a registry given as a literal: the three conditions on its columns, each decidable -/
theorem Attached.of_cols (s : Store) (x ix : String) (h1 : ∀ c ∈ s.cols.toList, x ∉ c.computed)
    (h2 : ∀ c ∈ s.cols.toList, c.name ≠ x → ix ∉ c.computed)
    (h3 : ∀ c ∈ s.cols.toList, c.name = x → c.computed.count ix = 1) : Attached s x ix :=
  ⟨fun _ c h => h1 c (Array.mem_toList_iff.2 (findCol_mem h)),
   fun n c h hn => h2 c (Array.mem_toList_iff.2 (findCol_mem h)) (by rw [findCol_name h]; exact hn),
   fun c h => h3 c (Array.mem_toList_iff.2 (findCol_mem h)) (findCol_name h)⟩

/-- the two per-buffer hypotheses of `commit_computed`, from the registry hypotheses and "no buffer is named `ix`" -/
theorem Attached.hyps {s : Store} {x ix : String} (h : Attached s x ix) (ups : List Buf)
    (hnb : ∀ v ∈ ups, v.column ≠ ix) :
    (∀ v ∈ ups, ∀ c, s.findCol v.column = some c → x ∉ c.computed) ∧
    (∀ v ∈ ups, v.column ≠ x → v.column ≠ ix ∧ ∀ c, s.findCol v.column = some c → ix ∉ c.computed) :=
  ⟨fun v _ c hc => h.target v.column c hc, fun v hv hvx => ⟨hnb v hv, fun c hc => h.only v.column c hc hvx⟩⟩

/-- the state of a numeric target column the index theorems need -/
structure NumCol (s : Store) (x : String) (k : NumKind) (col : Col) : Prop where
  find : s.findCol x = some col
  kind : col.kind = .num k
  wf : ColWF col
  cov : s.commits.size ≤ col.nchunks
  merge : ∀ a d, col.merge a d ≠ []

/-- what the index theorems need of a transaction: the buffers of `x` and the marker buffer hold their ops under the
    right chunk headers (`Buf.Inv.chunk_ok`), the `Put`s issued for `x` carry a value of the column's size (what the typed
    writers produce), the marker buffer holds `Insert` / `Delete` markers only -/
structure NumTxn (k : NumKind) (x : String) (t : Txn) : Prop where
  chunkOK : ∀ v ∈ t.updates, (v.column = x ∨ isMarkerBuf v = true) → ChunkOK v
  canon : CanonPuts k (allFor t.updates x)
  markers : ∀ o ∈ markerAll t.updates, isMarkerOp o

theorem isMarkerOp_ne_merge {o : Op} (h : isMarkerOp o) : o.typ ≠ opMerge := by
  intro e
  rcases h with h | h <;> rw [e] at h <;> exact absurd h (by decide)

theorem NumTxn.canonChunk {k : NumKind} {x : String} {t : Txn} (h : NumTxn k x t) (c : Nat) :
    CanonPuts k (chunkOps t.updates x c) := by
  intro o ho hp
  rcases List.mem_append.1 (chunkOps_sub_issued t.updates x c o ho) with hm | ha
  · rcases h.markers o hm with h' | h' <;> rw [hp] at h' <;> exact absurd h' (by decide)
  · exact h.canon o ha hp

theorem NumTxn.markerChunk {k : NumKind} {x : String} {t : Txn} (h : NumTxn k x t) (c : Nat) :
    ∀ o ∈ markerOps t.updates c, o.typ ≠ opMerge :=
  fun o ho => isMarkerOp_ne_merge (h.markers o (markerOps_sub_markerAll t.updates c o ho))

theorem chunksOK_num (hash : Bytes → Nat) (ups : List Buf) (x : String) (cs : List Nat) (col : Col) (k : NumKind)
    (hk : col.kind = .num k) : ChunksOK hash ups x cs col :=
  ChunksOK_of_noAppend hash ups x cs col (NoAppend_of_kind hash ups x cs col (by rw [hk]; simp))

theorem bufsOK_num (hash : Bytes → Nat) (x : String) (ch : Nat) (ups : List Buf) (col : Col) (k : NumKind)
    (hk : col.kind = .num k) : BufsOK hash x ch ups col :=
  BufsOK_of_noAppend hash x ch ups col (applyData_appended_nil_of_kind hash col ch _ (by rw [hk]; simp))

/-- **a numeric column and a computed column attached to it, through one commit**: both resolve to what the column-level
    functions give, every hypothesis holds again afterwards, and the target as the chunk loop starts on it (`capCol`) is
    still numeric, well-formed, with every dirty chunk allocated -/
theorem commit_num_computed (s : Store) (t : Txn) (x ix : String) (k : NumKind) (col ic : Col) (hxr : x ≠ rowColumn)
    (hc : NumCol s x k col) (hfi : s.findCol ix = some ic) (hci : ic.kind.isComputed = true) (hatt : Attached s x ix)
    (hinv : ∀ v ∈ t.updates, (v.column = x ∨ isMarkerBuf v = true) → ChunkOK v) (hnb : ∀ v ∈ t.updates, v.column ≠ ix) :
    NumCol (s.commit t) x k (colChunks s.hash t.updates x t.dirtyChunks (capCol s t col)) ∧
    (s.commit t).findCol ix = some (compChunks s.hash t.updates x t.dirtyChunks (capCol s t col) (capCol s t ic)) ∧
    Attached (s.commit t) x ix ∧ (capCol s t col).kind = .num k ∧ ColWF (capCol s t col) ∧
    (∀ c ∈ t.dirtyChunks, c < (capCol s t col).nchunks) ∧ (capCol s t col).merge = col.merge := by
  have hd : col.kind.isData = true := by rw [hc.kind]; rfl
  obtain ⟨hcomp, hatt'⟩ := hatt.hyps t.updates hnb
  obtain ⟨_, m2, _, m4⟩ := capCol_meta s t col
  have hok := chunksOK_num s.hash t.updates x t.dirtyChunks (capCol s t col) k (m2.trans hc.kind)
  obtain ⟨col', f1, f2, f3, f4, f5, f6, rfl, _⟩ := commit_slot_ok s t x col (slotEffect col.merge k.width) hxr hc.find hd
    hc.wf hc.cov hcomp hok (by rw [hc.kind]; exact slotLaw_num s.hash k col.merge) hinv
  obtain ⟨_, _, _, _, c5, c6⟩ := capCol_data s t col hd
  exact ⟨⟨f1, f2.trans hc.kind, f4, commit_cov s t col _ hc.cov f5 f6, by rw [f3]; exact hc.merge⟩,
    commit_computed s t x ix col ic hxr hc.find hd hfi hci (hatt.once col hc.find) hcomp hatt' hok, hatt.commit t,
    m2.trans hc.kind, c5 hc.wf, c6 hc.cov, m4⟩

/-! ## G — `CreateIndex` after the data; the column before the index exists -/

/-- applying the snapshot of chunk `ch` of a numeric column to an index: the offsets of the chunk that are present
    get the rule's verdict on the current value, every other bit is left alone -/
theorem backfill_chunk_get (col idx : Col) (k : NumKind) (target : String) (rule : RuleFn)
    (hk : col.kind = .num k) (hik : idx.kind = .index target rule) (ch : Nat) (hch : ch < col.nchunks) (j : Nat) :
    Bits.get (applyOther idx (col.snapshotOps ch).1).1.bits j =
      if j / 16384 = ch ∧ Bits.get col.bits j = true then
        rule ⟨opPut, j, .fixed k.code (padTo k.width ((col.data[j]?).getD []))⟩
      else Bits.get idx.bits j := by
  rw [snapshotOps_raw col (by rw [hk]; rfl) ch hch, applyOther_index idx target rule hik]
  dsimp only
  rw [foldIdx_get, snapList_filter_chunk opPut ch (fun i => Bits.get col.bits i) (fun i => snapVal col i) j]
  by_cases h : j / 16384 = ch ∧ Bits.get col.bits j = true
  · rw [if_pos h, if_pos h]
    simp [bitEffect, snapVal, hk, getD_eq]
  · rw [if_neg h, if_neg h]; rfl

/-- one round of the back-fill loop -/
def bfStep (target : Col) (acc : Col × Bool) (chunk : Nat) : Col × Bool :=
  ((applyOther acc.1 (target.snapshotOps chunk).1).1,
   acc.2 || (target.snapshotOps chunk).2 || (applyOther acc.1 (target.snapshotOps chunk).1).2)

theorem backfill_eq (s : Store) (target idx : Col) (h : target.kind.isIndex = false) :
    s.backfill target idx = (List.range s.commits.size).foldl (bfStep target) (idx, false) := by
  unfold Store.backfill
  congr 1
  funext acc chunk
  obtain ⟨ic, p⟩ := acc
  simp [h, bfStep]

theorem backfill_upTo (target idx : Col) (k : NumKind) (t : String) (rule : RuleFn)
    (hk : target.kind = .num k) (hik : idx.kind = .index t rule) (n : Nat) (hn : n ≤ target.nchunks) :
    ((List.range n).foldl (bfStep target) (idx, false)).2 = false ∧
    SameButBits idx ((List.range n).foldl (bfStep target) (idx, false)).1 ∧
    ∀ j, Bits.get ((List.range n).foldl (bfStep target) (idx, false)).1.bits j =
      if j / 16384 < n ∧ Bits.get target.bits j = true then
        rule ⟨opPut, j, .fixed k.code (padTo k.width ((target.data[j]?).getD []))⟩
      else Bits.get idx.bits j := by
  induction n with
  | zero => simp [SameButBits.refl]
  | succ n ih =>
    obtain ⟨h1, h2, h3⟩ := ih (by omega)
    rw [foldl_range_succ]
    generalize (List.range n).foldl (bfStep target) (idx, false) = acc at h1 h2 h3
    have hak : acc.1.kind = .index t rule := by rw [h2.kind]; exact hik
    unfold bfStep
    refine ⟨?_, ?_, fun j => ?_⟩
    · rw [applyOther_index acc.1 t rule hak, h1, snapshotOps_raw target (by rw [hk]; rfl) n (by omega)]
      rfl
    · rw [applyOther_index acc.1 t rule hak]
      exact SameButBits.trans h2 (foldIdx_same rule _ _)
    · dsimp only
      rw [backfill_chunk_get target acc.1 k t rule hk hak n (by omega) j, h3]
      generalize j / 16384 = q
      by_cases hb : Bits.get target.bits j = true
      · by_cases e : q = n
        · rw [if_pos ⟨e, hb⟩, if_pos ⟨by omega, hb⟩]
        · rw [if_neg (fun h => e h.1)]
          by_cases l : q < n
          · rw [if_pos ⟨l, hb⟩, if_pos ⟨by omega, hb⟩]
          · rw [if_neg (fun h => l h.1), if_neg (fun h => l (by omega))]
      · rw [if_neg (fun h => hb h.2), if_neg (fun h => hb h.2), if_neg (fun h => hb h.2)]

theorem get_fresh_index (name : String) (kind : Kind) (t : String) (rule : RuleFn) (hk : kind = .index t rule)
    (cap j : Nat) : Bits.get (Col.grow { name := name, kind := kind } cap).bits j = false := by
  subst hk
  unfold Col.grow
  simp only
  rw [get_grow]
  rfl

/-- no row is present beyond the committed chunks -/
def Live (s : Store) (col : Col) : Prop := ∀ o, s.commits.size ≤ o / 16384 → Bits.get col.bits o = false

theorem commit_numCol (s : Store) (t : Txn) (x : String) (k : NumKind) (col : Col) (hxr : x ≠ rowColumn)
    (hc : NumCol s x k col) (hcomp : ∀ v ∈ t.updates, ∀ c, s.findCol v.column = some c → x ∉ c.computed)
    (hinv : ∀ v ∈ t.updates, (v.column = x ∨ isMarkerBuf v = true) → ChunkOK v) (hl : Live s col) :
    ∃ col', NumCol (s.commit t) x k col' ∧ Live (s.commit t) col' ∧ col'.computed = col.computed := by
  have hd : col.kind.isData = true := by rw [hc.kind]; rfl
  obtain ⟨_, m2, m3, _⟩ := capCol_meta s t col
  have hok := chunksOK_num s.hash t.updates x t.dirtyChunks (capCol s t col) k (m2.trans hc.kind)
  obtain ⟨col', f1, f2, f3, f4, f5, f6, f7, f8⟩ := commit_slot_ok s t x col (slotEffect col.merge k.width) hxr hc.find hd
    hc.wf hc.cov hcomp hok (by rw [hc.kind]; exact slotLaw_num s.hash k col.merge) hinv
  refine ⟨col', ⟨f1, f2.trans hc.kind, f4, commit_cov s t col col' hc.cov f5 f6, by rw [f3]; exact hc.merge⟩, ?_, ?_⟩
  · intro o ho
    have hs := f8 o
    rw [foldl_filter_none] at hs
    · have : Bits.get col'.bits o = (slot col' o).1 := rfl
      rw [this, hs]
      exact hl o (Nat.le_trans (commit_size_mono s t) ho)
    · intro o' ho' e
      have h1 := issued_chunk_dirty t x hinv o' ho'
      have h2 := commit_dirty_lt s t _ h1
      rw [e] at h2
      unfold chunkOf chunkSize at h2
      omega
  · rw [f7, (colChunks_shape _ _ _ _ _).computed, m3]

/-! ## H — triggers: the calls made during a commit -/

/-- the calls a trigger makes for a list of ops handed to it, in call order: one per `Put` / `Delete` -/
def eventsOf (ops : List Op) : List TrigEvent := (ops.filter isStoreOrDelete).map trigEvent

theorem eventsOf_append (a b : List Op) : eventsOf (a ++ b) = eventsOf a ++ eventsOf b := by
  unfold eventsOf
  rw [List.filter_append, List.map_append]

theorem capCol_trigger (s : Store) (t : Txn) (c : Col) (tg : String) (hk : c.kind = .trigger tg) : capCol s t c = c := by
  rcases capCol_cases s t c with ⟨e, _⟩ | ⟨m, _, e⟩ <;> rw [e]
  unfold Col.grow
  rw [hk]

theorem capCol_sorted (s : Store) (t : Txn) (c : Col) (tg : String) (hk : c.kind = .sorted tg) : capCol s t c = c := by
  rcases capCol_cases s t c with ⟨e, _⟩ | ⟨m, _, e⟩ <;> rw [e]
  unfold Col.grow
  rw [hk]

/-- the calls of a whole chunk loop (any data kind of the target), in call order -/
def seenEvents (hash : Bytes → Nat) (ups : List Buf) (x : String) : List Nat → Col → List TrigEvent
  | [], _ => []
  | ch :: cs, col =>
    eventsOf (seenChunk hash ups x ch col) ++ seenEvents hash ups x cs (applyData hash col ch (chunkOps ups x ch)).col

theorem compChunks_trigger (hash : Bytes → Nat) (ups : List Buf) (x tg : String) (cs : List Nat) :
    ∀ col ic : Col, ic.kind = .trigger tg →
      (compChunks hash ups x cs col ic).trig.reverse = ic.trig.reverse ++ seenEvents hash ups x cs col := by
  induction cs with
  | nil => intro col ic _; simp [compChunks, seenEvents]
  | cons c cs ih =>
    intro col ic hk
    rw [compChunks_cons, ih _ _ ((applyOther_sig ic _).kind.trans hk), applyOther_trigger ic tg hk,
      show (List.foldl trigStep ic _, false).1.trig.reverse = _ from foldTrig_log _ ic]
    simp [seenEvents, eventsOf]

/-- the calls for the ops `ops` applied to the numeric column `c`: in op order, `Put` / `Merge` ↦ a `Put` call with the
    value the column holds at that offset right after the op, `Delete` ↦ a `Delete` call, nothing for other types -/
def finalEvents (k : NumKind) (c : Col) (ops : List Op) : List TrigEvent :=
  (ops.mapIdx (fun j o => eventAfter (colAfter k c ops j) o)).filterMap id

/-- numeric target: the calls of one chunk pass — the `Delete` markers first, then the final values of the ops issued -/
theorem eventsOf_seenChunk_num (hash : Bytes → Nat) (ups : List Buf) (x : String) (ch : Nat) (k : NumKind) (col : Col)
    (hk : col.kind = .num k) (hch : ch < col.nchunks)
    (hin : InBounds (applyData hash col ch (markerOps ups ch)).col (opsFor ups x ch)) :
    eventsOf (seenChunk hash ups x ch col) =
      eventsOf (markerOps ups ch) ++ finalEvents k (applyData hash col ch (markerOps ups ch)).col (opsFor ups x ch) := by
  have hs := applyData_sameShape hash col ch (markerOps ups ch)
  unfold seenChunk
  rw [eventsOf_append, seenFor_num hash x ch k ups _ (hs.kind.trans hk) (by rw [hs.nchunks]; exact hch)]
  unfold eventsOf finalEvents
  rw [trig_rwList k _ _ hin]

/-- the calls of the chunk loop, numeric target -/
def numEvents (hash : Bytes → Nat) (ups : List Buf) (x : String) (k : NumKind) : List Nat → Col → List TrigEvent
  | [], _ => []
  | ch :: cs, col =>
    (eventsOf (markerOps ups ch) ++ finalEvents k (applyData hash col ch (markerOps ups ch)).col (opsFor ups x ch)) ++
      numEvents hash ups x k cs (applyData hash col ch (chunkOps ups x ch)).col

theorem seenEvents_num (hash : Bytes → Nat) (ups : List Buf) (x : String) (k : NumKind) (cs : List Nat) :
    ∀ col : Col, col.kind = .num k → ColWF col → (∀ c ∈ cs, c < col.nchunks) →
      (∀ c ∈ cs, ∀ o ∈ chunkOps ups x c, chunkOf o.idx = c) →
      seenEvents hash ups x cs col = numEvents hash ups x k cs col := by
  induction cs with
  | nil => intro _ _ _ _ _; rfl
  | cons c cs ih =>
    intro col hk hw hch hco
    have hsh := applyData_sameShape hash col c (chunkOps ups x c)
    have hsm := applyData_sameShape hash col c (markerOps ups c)
    have hin : InBounds (applyData hash col c (markerOps ups c)).col (opsFor ups x c) :=
      inBounds_of_chunk _ c _ (ColWF.of_shape hsm hw) (by rw [hsm.nchunks]; exact hch c (by simp))
        (fun o ho => hco c (by simp) o (by unfold chunkOps; simp [ho]))
    simp only [seenEvents, numEvents]
    rw [eventsOf_seenChunk_num hash ups x c k col hk (hch c (by simp)) hin,
      ih _ (hsh.kind.trans hk) (ColWF.of_shape hsh hw) (fun c' hc' => by rw [hsh.nchunks]; exact hch c' (by simp [hc']))
        (fun c' hc' => hco c' (by simp [hc']))]

/-! ### row by row -/

/-- the ops addressed to one row, rewritten from the row's slot alone -/
def rwSlot (merge : Bytes → Bytes → Bytes) (k : NumKind) : Bool × Bytes → List Op → List Op
  | _, [] => []
  | st, o :: os => outOpS merge k st o :: rwSlot merge k (slotEffect merge k.width st o) os

theorem rwList_filter_idx (k : NumKind) (ops : List Op) (c : Col) (i : Nat) (hin : InBounds c ops) :
    (rwList k c ops).filter (fun o => o.idx = i) =
      rwSlot c.merge k (slot c i) (ops.filter (fun o => o.idx = i)) := by
  induction ops generalizing c with
  | nil => rfl
  | cons o os ih =>
    have ho := hin o (by simp)
    have hs := stepCol_slot k c o i ho.1 ho.2
    have hm := (stepCol_shape k c o).merge
    rw [rwList, List.filter_cons, List.filter_cons, outOp_idx, ih _ (hin.tailK k), hm]
    by_cases e : o.idx = i
    · have hd : decide (o.idx = i) = true := by simpa using e
      rw [if_pos hd, if_pos hd, rwSlot, hs, if_pos e.symm, outOp_eq_outOpS, e]
    · have hd : ¬ decide (o.idx = i) = true := by simpa using e
      rw [if_neg hd, if_neg hd, hs, if_neg (fun h => e h.symm)]

theorem eventsOf_filter_idx (ops : List Op) (i : Nat) :
    (eventsOf ops).filter (fun e => e.idx = i) = eventsOf (ops.filter (fun o => o.idx = i)) := by
  induction ops with
  | nil => rfl
  | cons o os ih =>
    unfold eventsOf at ih ⊢
    by_cases hs : isStoreOrDelete o = true <;> by_cases e : o.idx = i <;>
      simp [hs, e, trigEvent, ih]

/-- the calls for one row: in issue order, a `Put` call with the value the slot holds right after the op for every
    `Put` / `Merge`, a `Delete` call for every `Delete`, nothing for other types -/
def rowEvents (merge : Bytes → Bytes → Bytes) (k : NumKind) : Bool × Bytes → List Op → List TrigEvent
  | _, [] => []
  | st, o :: os =>
    (if o.typ = opPut ∨ o.typ = opMerge then [⟨o.idx, opPut, (slotEffect merge k.width st o).2⟩]
     else if o.typ = opDelete then [⟨o.idx, opDelete, valRaw o.val⟩] else []) ++
      rowEvents merge k (slotEffect merge k.width st o) os

theorem eventsOf_cons (o : Op) (os : List Op) :
    eventsOf (o :: os) = (if isStoreOrDelete o = true then some (trigEvent o) else none).toList ++ eventsOf os := by
  unfold eventsOf
  cases h : isStoreOrDelete o <;> simp [h]

theorem eventsOf_rwSlot (merge : Bytes → Bytes → Bytes) (k : NumKind) (ops : List Op) (st : Bool × Bytes) :
    eventsOf (rwSlot merge k st ops) = rowEvents merge k st ops := by
  induction ops generalizing st with
  | nil => rfl
  | cons o os ih =>
    rw [rwSlot, rowEvents, eventsOf_cons, trig_of_outOpS, ih]
    congr 1
    by_cases h : o.typ = opPut ∨ o.typ = opMerge
    · rw [if_pos h, if_pos h]; rfl
    · rw [if_neg h, if_neg h]
      by_cases h3 : o.typ = opDelete
      · rw [if_pos h3, if_pos h3]; rfl
      · rw [if_neg h3, if_neg h3]; rfl

/-- the calls of the chunk loop for row `i`: those of the pass of the row's own chunk, from the slot the row had before -/
theorem seenEvents_row (hash : Bytes → Nat) (ups : List Buf) (x : String) (k : NumKind) (cs : List Nat) :
    ∀ col : Col, col.kind = .num k → cs.Nodup → ColWF col → (∀ c ∈ cs, c < col.nchunks) →
      (∀ c ∈ cs, ∀ o ∈ chunkOps ups x c, chunkOf o.idx = c) →
      (∀ c ∈ cs, ∀ o ∈ markerOps ups c, o.typ ≠ opMerge) →
      ∀ i, (seenEvents hash ups x cs col).filter (fun e => e.idx = i) =
        if chunkOf i ∈ cs then
          rowEvents col.merge k (slot col i) ((chunkOps ups x (chunkOf i)).filter (fun o => o.idx = i))
        else [] := by
  induction cs with
  | nil => intro col _ _ _ _ _ _ i; simp [seenEvents]
  | cons c cs ih =>
    intro col hk hnd hw hch hco hmk i
    have hc_notin : c ∉ cs := (List.nodup_cons.1 hnd).1
    have hnd' : cs.Nodup := (List.nodup_cons.1 hnd).2
    have hsh := applyData_sameShape hash col c (chunkOps ups x c)
    have hin : InBounds col (chunkOps ups x c) := inBounds_of_chunk col c _ hw (hch c (by simp)) (hco c (by simp))
    simp only [seenEvents]
    rw [List.filter_append, ih _ (hsh.kind.trans hk) hnd' (ColWF.of_shape hsh hw)
      (fun c' hc' => by rw [hsh.nchunks]; exact hch c' (by simp [hc'])) (fun c' hc' => hco c' (by simp [hc']))
      (fun c' hc' => hmk c' (by simp [hc'])) i,
      seenChunk_num hash ups x c k col hk (hch c (by simp)) (hmk c (by simp)), eventsOf_filter_idx,
      rwList_filter_idx k _ col i hin, eventsOf_rwSlot, hsh.merge]
    by_cases hic : chunkOf i = c
    · have h1 : chunkOf i ∉ cs := by rw [hic]; exact hc_notin
      have h2 : chunkOf i ∈ c :: cs := by rw [hic]; simp
      rw [if_neg h1, if_pos h2, hic, List.append_nil]
    · have hnone : (chunkOps ups x c).filter (fun o => o.idx = i) = [] := by
        rw [List.filter_eq_nil_iff]
        intro o ho e
        have e' : o.idx = i := by simpa using e
        exact hic (e' ▸ hco c (by simp) o ho)
      have hsame := applyData_chunk_frame hash col c (chunkOps ups x c) i (hco c (by simp)) hic
      rw [hnone, hsame]
      simp only [rowEvents, List.nil_append]
      by_cases hics : chunkOf i ∈ cs
      · rw [if_pos hics, if_pos (by simp [hics])]
      · have h2 : chunkOf i ∉ c :: cs := by
          intro h; rcases List.mem_cons.1 h with h | h
          · exact hic h
          · exact hics h
        rw [if_neg hics, if_neg h2]

theorem chunkOps_filter_idx (ups : List Buf) (x : String) (i : Nat)
    (h : ∀ v ∈ ups, (v.column = x ∨ isMarkerBuf v = true) → ChunkOK v) :
    (chunkOps ups x (chunkOf i)).filter (fun o => o.idx = i) =
      (markerAll ups ++ allFor ups x).filter (fun o => o.idx = i) := by
  unfold chunkOps
  rw [List.filter_append, List.filter_append, markerOps_filter_idx ups i (fun v hv hm => h v hv (Or.inr hm)),
    opsFor_filter_idx ups x i (fun v hv hx => h v hv (Or.inl hx))]

theorem rowEvents_length (merge : Bytes → Bytes → Bytes) (k : NumKind) (ops : List Op) (st : Bool × Bytes) :
    (rowEvents merge k st ops).length =
      (ops.filter (fun o => o.typ = opPut ∨ o.typ = opMerge ∨ o.typ = opDelete)).length := by
  rw [← eventsOf_rwSlot]
  unfold eventsOf
  rw [List.length_map]
  induction ops generalizing st with
  | nil => rfl
  | cons o os ih =>
    rw [rwSlot, List.filter_cons, List.filter_cons, isStoreOrDelete_outOpS]
    split <;> simp [ih]

theorem seenEvents_length (hash : Bytes → Nat) (ups : List Buf) (x : String) (k : NumKind) (cs : List Nat) :
    ∀ col : Col, col.kind = .num k → (∀ c ∈ cs, c < col.nchunks) →
      (∀ c ∈ cs, ∀ o ∈ markerOps ups c, o.typ ≠ opMerge) →
      (seenEvents hash ups x cs col).length =
        (cs.map (fun ch => ((chunkOps ups x ch).filter
          (fun o => o.typ = opPut ∨ o.typ = opMerge ∨ o.typ = opDelete)).length)).sum := by
  induction cs with
  | nil => intro _ _ _ _; rfl
  | cons c cs ih =>
    intro col hk hch hmk
    have hsh := applyData_sameShape hash col c (chunkOps ups x c)
    simp only [seenEvents, List.length_append, List.map_cons, List.sum_cons]
    rw [seenChunk_num hash ups x c k col hk (hch c (by simp)) (hmk c (by simp)),
      show (eventsOf (rwList k col (chunkOps ups x c))).length = _ from (List.length_map _).trans (count_rwList k _ col),
      ih _ (hsh.kind.trans hk) (fun c' hc' => by rw [hsh.nchunks]; exact hch c' (by simp [hc']))
        (fun c' hc' => hmk c' (by simp [hc']))]

/-! ## I — sorted indexes: the invariant, and agreement with a string column -/

theorem compChunks_sortInv (hash : Bytes → Nat) (ups : List Buf) (x : String) (cs : List Nat) :
    ∀ col ic : Col, SortInv ic → SortInv (compChunks hash ups x cs col ic) := by
  induction cs with
  | nil => intro _ ic h; exact h
  | cons c cs ih =>
    intro col ic h
    rw [compChunks_cons]
    exact ih _ _ (applyOther_inv ic _ h)

theorem isComputed_sorted {c : Col} {t : String} (h : c.kind = .sorted t) : c.kind.isComputed = true := by
  rw [h]; rfl

theorem inSync_chunk (hash : Bytes → Nat) (ups : List Buf) (x : String) (ch : Nat) (t : String) (col ix : Col)
    (hk : col.kind = .str ∨ col.kind = .record) (hik : ix.kind = .sorted t) (hch : ch < col.nchunks)
    (hin : InBounds col (chunkOps ups x ch)) (hmk : ∀ o ∈ markerOps ups ch, o.typ ≠ opMerge)
    (hinv : SortInv ix) (hs : InSync col ix)
    (hna : (applyData hash (applyData hash col ch (markerOps ups ch)).col ch (opsFor ups x ch)).appended = []) :
    InSync (applyData hash col ch (chunkOps ups x ch)).col (applyOther ix (seenChunk hash ups x ch col)).1 := by
  obtain ⟨e, happ⟩ := seenChunk_noAppend hash ups x ch col hmk hna
  rw [e]
  exact applyData_sync hash col ix t ch _ hk hik hch hin hinv hs happ

theorem inSync_chunks (hash : Bytes → Nat) (ups : List Buf) (x t : String) (cs : List Nat) :
    ∀ col ix : Col, (col.kind = .str ∨ col.kind = .record) → ix.kind = .sorted t → ColWF col →
      (∀ c ∈ cs, c < col.nchunks) → (∀ c ∈ cs, ∀ o ∈ chunkOps ups x c, chunkOf o.idx = c) →
      (∀ c ∈ cs, ∀ o ∈ markerOps ups c, o.typ ≠ opMerge) → SortInv ix → InSync col ix →
      NoAppend hash ups x cs col →
      InSync (colChunks hash ups x cs col) (compChunks hash ups x cs col ix) := by
  induction cs with
  | nil => intro col ix _ _ _ _ _ _ _ hs _; exact hs
  | cons c cs ih =>
    intro col ix hk hik hw hch hco hmk hinv hs hna
    rw [colChunks_cons, compChunks_cons]
    have hsh := applyData_sameShape hash col c (chunkOps ups x c)
    have hin : InBounds col (chunkOps ups x c) := inBounds_of_chunk col c _ hw (hch c (by simp)) (hco c (by simp))
    apply ih
    · rw [hsh.kind]; exact hk
    · exact (applyOther_sig ix _).kind.trans hik
    · exact ColWF.of_shape hsh hw
    · intro c' hc'; rw [hsh.nchunks]; exact hch c' (by simp [hc'])
    · intro c' hc'; exact hco c' (by simp [hc'])
    · intro c' hc'; exact hmk c' (by simp [hc'])
    · exact applyOther_inv ix _ hinv
    · exact inSync_chunk hash ups x c t col ix hk hik (hch c (by simp)) hin (hmk c (by simp)) hinv hs hna.1
    · exact hna.2

theorem inSync_capCol (s : Store) (t : Txn) (col ix : Col) (tg : String) (hd : col.kind.isData = true)
    (hik : ix.kind = .sorted tg) (hs : InSync col ix) : InSync (capCol s t col) (capCol s t ix) := by
  rw [capCol_sorted s t ix tg hik]
  intro o
  have h := (capCol_data s t col hd).2.2.2.1 o
  unfold slot at h
  simp only [Prod.mk.injEq] at h
  unfold strVal
  rw [h.1, h.2]
  exact hs o

/-- the state of a string / record target column the sorted-index theorems need -/
structure StrCol (s : Store) (x : String) (col : Col) : Prop where
  find : s.findCol x = some col
  kind : col.kind = .str ∨ col.kind = .record
  wf : ColWF col
  cov : s.commits.size ≤ col.nchunks

end ColumnVerif.Store
