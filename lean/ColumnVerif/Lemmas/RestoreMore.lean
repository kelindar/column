import ColumnVerif.Lemmas.StoreRead
/-!
# Helper lemmas for C07more — the row counter through `commit` / `readState`, snapshot ops as a function of what
  readers see

* `count`: no `Apply` touches `Store.count` (`StorePlumb.Passes`); the only writers are the recount at the end of
  `commitMarkers`, `next()` and `free()`. Hence every relation `R (Bits.count fill) count` that holds on the diagonal (`=`, `≤`) is kept by `commit`,
  and a commit whose `row` buffer is not empty establishes `count = Bits.count fill` whatever held before.
* `snapshotOps` of a numeric column only depends on what `read` returns on the chunk (modulo `padTo`).
-/
namespace ColumnVerif.Store
open ColumnVerif.Codec ColumnVerif.Bits

/-! ## the counter and the fill list through one chunk pass, the chunk loop, `commit` -/

theorem commitMarkers_recount (s : Store) (chunk : Nat) (m : Buf) :
    (s.commitMarkers chunk m).count = Bits.count (s.commitMarkers chunk m).fill := rfl

theorem markStore_countRel (R : Nat → Nat → Prop) (hR : ∀ n, R n n) (s : Store) (chunk : Nat) (cr : Bool) (ups : List Buf)
    (h : R (Bits.count s.fill) s.count) :
    R (Bits.count (markStore s chunk cr ups).fill) (markStore s chunk cr ups).count := by
  have hp : R (Bits.count (preStore s chunk).fill) (preStore s chunk).count := h
  unfold markStore
  split
  · split
    · rw [commitMarkers_recount]; exact hR _
    · exact hp
  · exact hp

theorem markStore_recount (s : Store) (chunk : Nat) (ups : List Buf) (m : Buf) (hm : ups.find? isMarkerBuf = some m) :
    (markStore s chunk true ups).count = Bits.count (markStore s chunk true ups).fill := by
  unfold markStore
  rw [if_pos rfl, hm]
  rfl

theorem commitChunk_count_fill (s : Store) (chunk : Nat) (cr : Bool) (ups : List Buf) :
    (s.commitChunk chunk cr ups).1.count = (markStore s chunk cr ups).count ∧
    (s.commitChunk chunk cr ups).1.fill = (markStore s chunk cr ups).fill := by
  rw [commitChunk_def]
  obtain ⟨_, _, f3, _, _, _, f7⟩ := finishChunk_fields (s.nextId + 1) chunk cr
    ((markStore s chunk cr ups).commitUpdates chunk ups)
  have hp := (StorePlumb.commitUpdates_passes (markStore s chunk cr ups) chunk ups).fill
  rw [f3, f7, hp.count, hp.fill]
  exact ⟨rfl, rfl⟩

theorem commitChunk_countRel (R : Nat → Nat → Prop) (hR : ∀ n, R n n) (s : Store) (chunk : Nat) (cr : Bool) (ups : List Buf)
    (h : R (Bits.count s.fill) s.count) :
    R (Bits.count (s.commitChunk chunk cr ups).1.fill) (s.commitChunk chunk cr ups).1.count := by
  obtain ⟨e1, e2⟩ := commitChunk_count_fill s chunk cr ups
  rw [e1, e2]
  exact markStore_countRel R hR s chunk cr ups h

theorem commitChunk_recount (s : Store) (chunk : Nat) (ups : List Buf) (m : Buf) (hm : ups.find? isMarkerBuf = some m) :
    (s.commitChunk chunk true ups).1.count = Bits.count (s.commitChunk chunk true ups).1.fill := by
  obtain ⟨e1, e2⟩ := commitChunk_count_fill s chunk true ups
  rw [e1, e2]
  exact markStore_recount s chunk ups m hm

theorem commitLoop_countRel (R : Nat → Nat → Prop) (hR : ∀ n, R n n) (cr : Bool) (cs : List Nat) :
    ∀ (s : Store) (ups : List Buf), R (Bits.count s.fill) s.count →
      R (Bits.count (commitLoop cr cs s ups).1.fill) (commitLoop cr cs s ups).1.count := by
  induction cs with
  | nil => intro s ups h; exact h
  | cons c cs ih =>
    intro s ups h
    rw [commitLoop_cons]
    exact ih _ _ (commitChunk_countRel R hR s c cr ups h)

theorem commitLoop_recount (cs : List Nat) (hcs : cs ≠ []) (s : Store) (ups : List Buf) (m : Buf)
    (hm : ups.find? isMarkerBuf = some m) :
    (commitLoop true cs s ups).1.count = Bits.count (commitLoop true cs s ups).1.fill := by
  cases cs with
  | nil => exact absurd rfl hcs
  | cons c cs =>
    rw [commitLoop_cons]
    exact commitLoop_countRel (fun n c => c = n) (fun _ => rfl) true cs _ _ (commitChunk_recount s c ups m hm)

theorem capStore_count_fill (s : Store) (t : Txn) :
    (capStore s t).count = s.count ∧ Bits.count (capStore s t).fill = Bits.count s.fill :=
  capStore_induct (fun s' => s'.count = s.count ∧ Bits.count s'.fill = Bits.count s.fill) s t (fun _ => ⟨rfl, rfl⟩)
    (fun last _ => ⟨(StorePlumb.commitCapacity_quiet s last).2.2.2.1,
      count_congr _ _ (commitCapacity_fields s last).2.1⟩)

/-- **`commit` keeps `FillInv` and quiescence**: every relation between the number of set fill bits and the row counter that
    holds on the diagonal (`count = Bits.count fill`, `Bits.count fill ≤ count`) is kept by any commit of any transaction -/
theorem commit_countRel (R : Nat → Nat → Prop) (hR : ∀ n, R n n) (s : Store) (t : Txn)
    (h : R (Bits.count s.fill) s.count) : R (Bits.count (s.commit t).fill) (s.commit t).count := by
  rw [commit_eq']
  apply commitLoop_countRel R hR
  obtain ⟨e1, e2⟩ := capStore_count_fill s t
  rw [e1, e2]; exact h

theorem commit_recount (s : Store) (t : Txn) (m : Buf) (hm : t.updates.find? isMarkerBuf = some m)
    (hd : t.dirtyChunks ≠ []) : (s.commit t).count = Bits.count (s.commit t).fill := by
  rw [commit_eq']
  have hcr : t.markers.isSome = true := by
    have : t.markers = some m := hm
    rw [this]; rfl
  rw [hcr]
  exact commitLoop_recount t.dirtyChunks hd (capStore s t) t.updates m hm

/-! ## a chunk's snapshot ops are a function of the presence bits and the (padded) values of the chunk -/

theorem snapList_congr (typ lo n : Nat) (p p' : Nat → Bool) (g g' : Nat → Val)
    (hp : ∀ x, x < n → p x = p' x) (hg : ∀ x, x < n → p x = true → g x = g' x) :
    snapList typ lo n p g = snapList typ lo n p' g' := by
  unfold snapList
  have hf : (List.range n).filter p = (List.range n).filter p' := by
    apply List.filter_congr
    intro x hx
    exact hp x (List.mem_range.1 hx)
  rw [← hf]
  apply List.map_congr_left
  intro x hx
  obtain ⟨h1, h2⟩ := List.mem_filter.1 hx
  rw [hg x (List.mem_range.1 h1) h2]

theorem padTo_idem (w : Nat) (bs : Bytes) : padTo w (padTo w bs) = padTo w bs := by
  unfold padTo
  by_cases h : bs.length = 0
  · rw [if_pos h]
    split <;> rfl
  · rw [if_neg h, if_neg h]

/-- `snapshotOps_congr`, array form: two numeric columns of the same kind that both have chunk `ch`, with the same presence
    bits on the chunk and, at every present offset, the same value up to `padTo width` (what `Snapshot` writes), produce the
    same snapshot of the chunk (ops and panic flag) -/
theorem snapshotOps_congr_bits (c1 c2 : Col) (k : NumKind) (hk1 : c1.kind = .num k) (hk2 : c2.kind = .num k) (ch : Nat)
    (h1 : ch < c1.nchunks) (h2 : ch < c2.nchunks)
    (hb : ∀ i, i / 16384 = ch → Bits.get c1.bits i = Bits.get c2.bits i)
    (hv : ∀ i, i / 16384 = ch → Bits.get c1.bits i = true →
      padTo k.width (c1.data.getD i []) = padTo k.width (c2.data.getD i [])) :
    c1.snapshotOps ch = c2.snapshotOps ch := by
  rw [snapshotOps_raw c1 (by rw [hk1]; rfl) ch h1, snapshotOps_raw c2 (by rw [hk2]; rfl) ch h2]
  refine congrArg (fun l => (l, false)) (snapList_congr _ _ _ _ _ _ _ ?_ ?_)
  · intro x hx
    exact hb _ (by omega)
  · intro x hx hp
    unfold snapVal
    rw [hk1, hk2]
    simp only
    rw [hv _ (by omega) hp]

theorem snapshotOps_congr_slot (c1 c2 : Col) (k : NumKind) (hk1 : c1.kind = .num k) (hk2 : c2.kind = .num k) (ch : Nat)
    (h1 : ch < c1.nchunks) (h2 : ch < c2.nchunks)
    (hs : ∀ i, i / 16384 = ch → (slot c1 i).1 = (slot c2 i).1 ∧
      ((slot c1 i).1 = true → padTo k.width (slot c1 i).2 = padTo k.width (slot c2 i).2)) :
    c1.snapshotOps ch = c2.snapshotOps ch := by
  apply snapshotOps_congr_bits c1 c2 k hk1 hk2 ch h1 h2
  · intro i hi
    exact (hs i hi).1
  · intro i hi hp
    rw [getD_eq, getD_eq]
    exact (hs i hi).2 hp

/-- **`snapshotOps_congr`**, reader form: two numeric columns of the same kind that both have chunk `ch` and on which every
    typed read of the chunk agrees up to `padTo width` (in particular: agrees) produce the same snapshot of the chunk -/
theorem snapshotOps_congr_pad (c1 c2 : Col) (k : NumKind) (hk1 : c1.kind = .num k) (hk2 : c2.kind = .num k) (ch : Nat)
    (h1 : ch < c1.nchunks) (h2 : ch < c2.nchunks)
    (hr : ∀ i, i / 16384 = ch → (c1.read i).map (padTo k.width) = (c2.read i).map (padTo k.width)) :
    c1.snapshotOps ch = c2.snapshotOps ch := by
  have key : ∀ i, i / 16384 = ch → Bits.get c1.bits i = Bits.get c2.bits i ∧
      (Bits.get c1.bits i = true → padTo k.width (c1.data.getD i []) = padTo k.width (c2.data.getD i [])) := by
    intro i hi
    have h := hr i hi
    rw [read_data c1 (by rw [hk1]; rfl) i, read_data c2 (by rw [hk2]; rfl) i] at h
    by_cases b1 : Bits.get c1.bits i = true
    · by_cases b2 : Bits.get c2.bits i = true
      · rw [if_pos ⟨by omega, b1⟩, if_pos ⟨by omega, b2⟩] at h
        simp only [Option.map_some, Option.some.injEq] at h
        exact ⟨by rw [b1, b2], fun _ => h⟩
      · rw [if_pos ⟨by omega, b1⟩, if_neg (fun x => b2 x.2)] at h
        cases h
    · by_cases b2 : Bits.get c2.bits i = true
      · rw [if_neg (fun x => b1 x.2), if_pos ⟨by omega, b2⟩] at h
        cases h
      · have e1 : Bits.get c1.bits i = false := by simpa using b1
        have e2 : Bits.get c2.bits i = false := by simpa using b2
        exact ⟨by rw [e1, e2], fun x => absurd x b1⟩
  exact snapshotOps_congr_bits c1 c2 k hk1 hk2 ch h1 h2 (fun i hi => (key i hi).1) (fun i hi => (key i hi).2)

theorem snapshotOps_congr (c1 c2 : Col) (k : NumKind) (hk1 : c1.kind = .num k) (hk2 : c2.kind = .num k) (ch : Nat)
    (h1 : ch < c1.nchunks) (h2 : ch < c2.nchunks) (hr : ∀ i, i / 16384 = ch → c1.read i = c2.read i) :
    c1.snapshotOps ch = c2.snapshotOps ch :=
  snapshotOps_congr_pad c1 c2 k hk1 hk2 ch h1 h2 (fun i hi => by rw [hr i hi])

theorem rowBufOf_congr (s1 s2 : Store) (ch : Nat) (h : ∀ j, j / 16384 = ch → Bits.get s1.fill j = Bits.get s2.fill j) :
    rowBufOf s1 ch = rowBufOf s2 ch := by
  unfold rowBufOf rowMarkers
  refine congrArg (fun l => (Buf.empty rowColumn).putAll l) (snapList_congr _ _ _ _ _ _ _ ?_ ?_)
  · intro x hx
    exact h _ (by omega)
  · intro _ _ _; rfl

/-! ## the commit table after `readState` -/

theorem chunkTxn_last (s : Store) (n : Nat) : (chunkTxn s n).dirtyChunks.getLast? = some n := by
  have hmem : n ∈ (chunkTxn s n).dirtyChunks := by
    rw [mem_dirtyChunks]; left; simp [chunkTxn]
  cases hl : (chunkTxn s n).dirtyChunks.getLast? with
  | none =>
    rw [List.getLast?_eq_none_iff] at hl
    rw [hl] at hmem
    cases hmem
  | some last => rw [chunkTxn_dirty s n last (List.mem_of_getLast? hl)]

theorem commit_commits_size_of_last (s : Store) (t : Txn) (n : Nat) (h : t.dirtyChunks.getLast? = some n) :
    (s.commit t).commits.size = max s.commits.size (n + 1) := by
  rw [commit_eq', (commitLoop_gen _ _ _ _).2.1, capStore_of_last s t n h, (commitCapacity_fields s n).1]

theorem commit_chunkTxn_commits_size (s s1 : Store) (n : Nat) :
    (s1.commit (chunkTxn s n)).commits.size = max s1.commits.size (n + 1) :=
  commit_commits_size_of_last s1 _ n (chunkTxn_last s n)

theorem readState_commits_size_upTo (s s0 : Store) (n : Nat) :
    ((List.range n).foldl (fun s0 ch => s0.commit (chunkTxn s ch)) s0).commits.size = max s0.commits.size n := by
  refine readChunks_induct s s0 (fun n st => st.commits.size = max s0.commits.size n) n (by simp) ?_
  intro n st _ ih
  rw [commit_chunkTxn_commits_size, ih]
  omega

/-! ## a commit without `row` markers leaves the counter alone -/

theorem commitLoop_count_noMarkers (cs : List Nat) :
    ∀ (s : Store) (ups : List Buf), (commitLoop false cs s ups).1.count = s.count := by
  induction cs with
  | nil => intro s ups; rfl
  | cons c cs ih =>
    intro s ups
    rw [commitLoop_cons, ih, (commitChunk_count_fill s c false ups).1]
    rfl

/-- no non-empty `row` buffer: no `commitMarkers`, no recount -/
theorem commit_count_noMarkers (s : Store) (t : Txn) (h : t.updates.find? isMarkerBuf = none) :
    (s.commit t).count = s.count := by
  rw [commit_eq']
  have hcr : t.markers.isSome = false := by
    have : t.markers = none := h
    rw [this]; rfl
  rw [hcr, commitLoop_count_noMarkers, (capStore_count_fill s t).1]

theorem rowMarkers_nil (s : Store) (ch : Nat) (hdead : ∀ j, j / 16384 = ch → Bits.get s.fill j = false) :
    rowMarkers s ch = [] := by
  unfold rowMarkers snapList
  have : (List.range 16384).filter (fun x => Bits.get s.fill (16384 * ch + x)) = [] := by
    rw [List.filter_eq_nil_iff]
    intro x hx
    rw [hdead _ (by have := List.mem_range.1 hx; omega)]
    decide
  rw [this]; rfl

theorem chunkTxn_noMarker (s : Store) (ch : Nat) (hr : s.findCol rowColumn = none)
    (hdead : ∀ j, j / 16384 = ch → Bits.get s.fill j = false) :
    (chunkTxn s ch).updates.find? isMarkerBuf = none := by
  rw [List.find?_eq_none]
  intro b hb
  unfold chunkTxn at hb
  simp only at hb
  rw [chunkState_buffers] at hb
  unfold isMarkerBuf
  rcases List.mem_cons.1 hb with hb | hb
  · rw [hb]
    unfold rowBufOf
    rw [(putAll_empty_rangeOps rowColumn (rowMarkers s ch) ch (rowMarkers_chunk s ch)).2.2.2.1, rowMarkers_nil s ch hdead]
    simp
  · unfold colBufsOf at hb
    obtain ⟨c, hc, rfl⟩ := List.mem_map.1 hb
    have hne := findCol_none_names hr c (List.mem_filter.1 hc).1
    rw [putAll_column]
    have : (Buf.empty c.name).column = c.name := rfl
    rw [this]
    simp [hne]

end ColumnVerif.Store
