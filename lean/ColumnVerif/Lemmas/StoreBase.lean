import ColumnVerif.Lemmas.StorePlumb
/-!
What the lemmas about `Store.commit` on a data column share, whatever the column's kind: `ColWF` / `ChunkOK` and the ops of a
chunk (`rangeOps_chunk`, `inBounds_of_chunk`); the frame of one round of `commitUpdates` (`cuStep_frame`) and how the
buffers it hands on relate to the ones it was given (`BufRel`, `BufRelP`, the `Rel2` lemmas); the ops `commit` applies to a
column (`opsFor`, `markerOps` per chunk, `allFor`, `markerAll` per transaction) and `commitChunk` cut at the marker step
(`markStore`, `commitChunk_def`); `Col.grow`, `commitCapacity` and the store in front of the chunk loop (`capCol`,
`capStore_*`); what every chunk pass keeps (`commitChunk_gen`, `commitLoop_gen`, `commit_commits_size`).
-/
namespace ColumnVerif.Store
open ColumnVerif.Codec ColumnVerif.Bits

/-! ## well-formed column arrays; buffers whose sections hold ops of their own chunk -/

/-- the arrays of a data column have exactly one slot per offset of every allocated chunk -/
structure ColWF (c : Col) : Prop where
  bsize : c.bits.size = 16384 * c.nchunks
  dsize : c.data.size = 16384 * c.nchunks

instance (c : Col) : Decidable (ColWF c) :=
  if h : c.bits.size = 16384 * c.nchunks ∧ c.data.size = 16384 * c.nchunks then isTrue ⟨h.1, h.2⟩
  else isFalse (fun w => h ⟨w.bsize, w.dsize⟩)

theorem ColWF.of_shape {c c' : Col} (hs : SameShape c c') (h : ColWF c) : ColWF c' :=
  ⟨by rw [hs.bsize, hs.nchunks]; exact h.bsize, by rw [hs.dsize, hs.nchunks]; exact h.dsize⟩

theorem inBounds_of_chunk (c : Col) (chunk : Nat) (ops : List Op) (hw : ColWF c) (hch : chunk < c.nchunks)
    (h : ∀ o ∈ ops, chunkOf o.idx = chunk) : InBounds c ops := by
  intro o ho
  have := h o ho
  unfold chunkOf chunkSize at this
  rw [hw.bsize, hw.dsize]
  have h2 : 16384 * (chunk + 1) ≤ 16384 * c.nchunks := Nat.mul_le_mul_left _ hch
  omega

/-- the part of `Buf.Inv` the read-back needs: every op sits in a section of its own chunk -/
def ChunkOK (b : Buf) : Prop := ∀ s ∈ b.rsecs, ∀ o ∈ s.rops, chunkOf o.idx = s.chunk

/-- reading one chunk = filtering the op list by chunk (`Buf.rangeOps_eq_filter` under the weaker invariant) -/
theorem rangeOps_eq_filter_ok (b : Buf) (c : Nat) (h : ChunkOK b) :
    b.rangeOps c = b.allOps.filter (fun o => chunkOf o.idx = c) := by
  have hc : ∀ s ∈ b.secs, ∀ o ∈ s.ops, chunkOf o.idx = s.chunk := by
    intro s hs o ho
    exact h s (by simpa [Buf.secs] using hs) o (by simpa [Sec.ops] using ho)
  unfold Buf.rangeOps Buf.range Buf.allOps
  generalize b.secs = secs at hc
  induction secs with
  | nil => simp
  | cons s rest ih =>
    have ih' := ih (fun s' hs' => hc s' (by simp [hs']))
    simp only [List.filter_cons, List.map_cons, List.flatten_cons, List.filter_append]
    by_cases hsc : s.chunk = c
    · simp only [hsc, decide_true, if_true, List.map_cons, List.flatten_cons, ih']
      congr 1
      symm
      rw [List.filter_eq_self]
      intro o ho
      have := hc s (by simp) o ho
      simp [this, hsc]
    · simp only [hsc, decide_false, Bool.false_eq_true, if_false, ih']
      have : s.ops.filter (fun o => decide (chunkOf o.idx = c)) = [] := by
        rw [List.filter_eq_nil_iff]
        intro o ho
        have := hc s (by simp) o ho
        simp [this, hsc]
      simp [this]

theorem rangeOps_chunk (u : Buf) (h : ChunkOK u) (c : Nat) : ∀ o ∈ u.rangeOps c, chunkOf o.idx = c := by
  intro o ho
  rw [rangeOps_eq_filter_ok u c h] at ho
  simpa using (List.mem_filter.1 ho).2

/-! ## kinds whose `Put` stores the raw value -/

/-- kinds whose `Apply` stores the raw bytes of a `Put` (everything but enum) -/
def Kind.storesRaw : Kind → Bool
  | .num _ | .str | .record | .key => true
  | _ => false


theorem Kind.storesRaw_data {k : Kind} (h : k.storesRaw = true) : k.isData = true ∧ k ≠ .enum := by
  cases k
  case num | str | record | key => exact ⟨rfl, Kind.noConfusion⟩
  all_goals cases h

/-! ## one round of `commitUpdates`: what it leaves alone -/

theorem applyNamed_frame (chunk : Nat) (ops : List Op) (s : Store) (n x : String) (hx : x ≠ n) :
    (applyNamed chunk ops s n).findCol x = s.findCol x := by
  unfold applyNamed
  cases h : s.findCol n with
  | none => rfl
  | some c =>
    simp only
    rw [findCol_with_panicked, setCol_found s c _ n h (applyAny_sig s.hash c chunk ops).name x, if_neg hx]


theorem computedPass_frame (s : Store) (names : List String) (chunk : Nat) (u : Buf) (x : String) (hx : x ∉ names) :
    (computedPass s names chunk u).findCol x = s.findCol x := by
  rw [computedPass_eq]
  apply foldl_invariant (fun s' => s'.findCol x = s.findCol x) _ _ s rfl
  intro s1 ops _ h1
  apply foldl_invariant (fun s' => s'.findCol x = s.findCol x) _ _ s1 h1
  intro s2 n hn h2
  rw [applyNamed_frame chunk ops s2 n x (fun e => hx (e ▸ hn))]
  exact h2


theorem mainPass_general (hash : Bytes → Nat) (col : Col) (chunk : Nat) (u : Buf) :
    SameShape col (mainPass hash col chunk u).1 ∧ (mainPass hash col chunk u).2.1.column = u.column :=
  ⟨(StorePlumb.mainPass_inv hash col chunk u).1, (StorePlumb.mainPass_inv hash col chunk u).2.1⟩

theorem otherMain_frame (s : Store) (chunk : Nat) (u : Buf) (x : String) (hx : x ≠ u.column) :
    (otherMain s chunk u).findCol x = s.findCol x := by
  unfold otherMain
  apply foldl_invariant (fun s' => s'.findCol x = s.findCol x) _ _ s rfl
  intro s1 ops _ h1
  rw [applyNamed_frame chunk ops s1 u.column x hx]
  exact h1


/-- how a buffer of the transaction relates to its rewritten version after the passes of the chunks `D` -/
def BufRel (x : String) (D : List Nat) (u u' : Buf) : Prop :=
  u'.column = u.column ∧ (u.column = rowColumn → u' = u) ∧
  (u.column = x → ∀ c2, c2 ∉ D → u'.range c2 = u.range c2)


theorem BufRel.refl (x : String) (D : List Nat) (u : Buf) : BufRel x D u u := ⟨rfl, fun _ => rfl, fun _ _ _ => rfl⟩


theorem cuStep_sim (chunk : Nat) (s : Store) (done : List Buf) (b : Bool) (u : Buf) :
    Sim s (cuStep chunk (s, done, b) u).1 := (StorePlumb.cuStep_passes chunk (s, done, b) u).sim

theorem cuStep_frame (chunk : Nat) (s : Store) (done : List Buf) (b : Bool) (u : Buf) (x : String)
    (hne : u.column ≠ x) (hcomp : ∀ c, s.findCol u.column = some c → x ∉ c.computed) :
    (cuStep chunk (s, done, b) u).1.findCol x = s.findCol x := by
  rcases cuStep_cases chunk (s, done, b) u with ⟨_, e⟩ | ⟨col, _, hf, ⟨_, e⟩ | ⟨_, e⟩⟩ <;> rw [e]
  · rw [computedPass_frame _ _ _ _ x (hcomp col hf), findCol_with_panicked,
      setCol_found s col _ u.column hf (mainPass_general s.hash col chunk u).1.name x, if_neg (fun e => hne e.symm)]
  · rw [computedPass_frame _ _ _ _ x (hcomp col hf), otherMain_frame s chunk u x (fun e => hne e.symm)]

/-! ## the ops of a chunk pass; `commitChunk` cut at the marker step -/

/-- the ops the buffers named `x` hold for `chunk`, in buffer order -/
def opsFor (ups : List Buf) (x : String) (chunk : Nat) : List Op :=
  ((ups.filter (fun b => b.column == x)).map (fun b => b.rangeOps chunk)).flatten


theorem opsFor_cons_self (u : Buf) (ups : List Buf) (x : String) (chunk : Nat) (h : u.column = x) :
    opsFor (u :: ups) x chunk = u.rangeOps chunk ++ opsFor ups x chunk := by
  unfold opsFor
  have : (u.column == x) = true := by simpa using h
  rw [List.filter_cons, if_pos this]; rfl


theorem opsFor_cons_other (u : Buf) (ups : List Buf) (x : String) (chunk : Nat) (h : u.column ≠ x) :
    opsFor (u :: ups) x chunk = opsFor ups x chunk := by
  unfold opsFor
  have : ¬ (u.column == x) = true := by simpa using h
  rw [List.filter_cons, if_neg this]

theorem opsFor_forall (ups : List Buf) (x : String) (c : Nat) (P : Op → Prop)
    (h : ∀ v ∈ ups, v.column = x → ∀ o ∈ v.rangeOps c, P o) : ∀ o ∈ opsFor ups x c, P o := by
  intro o ho
  unfold opsFor at ho
  obtain ⟨l, hl, hol⟩ := List.mem_flatten.1 ho
  obtain ⟨v, hv, rfl⟩ := List.mem_map.1 hl
  have hv' := List.mem_filter.1 hv
  exact h v hv'.1 (by simpa using hv'.2) o hol

theorem commitMarkers_findCol (s : Store) (chunk : Nat) (m : Buf) (x : String) :
    (s.commitMarkers chunk m).findCol x = (s.findCol x).map (markCol s.hash chunk (m.range chunk)) :=
  findCol_map _ (fun c => (markCol_sig s.hash chunk _ c).name) (commitMarkers_cols s chunk m).1 x

/-- `findMarkers`' predicate -/
def isMarkerBuf (b : Buf) : Bool := !b.isEmpty && b.column == rowColumn

/-- the marker ops of a chunk, as `commitChunk` finds them -/
def markerOps (ups : List Buf) (chunk : Nat) : List Op :=
  match ups.find? isMarkerBuf with
  | some m => m.rangeOps chunk
  | none => []

/-- `commitChunk` up to and including the marker step: `preStore`, then the markers -/
def markStore (s : Store) (chunk : Nat) (cr : Bool) (ups : List Buf) : Store :=
  if cr then
    match ups.find? isMarkerBuf with
    | some m => (preStore s chunk).commitMarkers chunk m
    | none => preStore s chunk
  else preStore s chunk

theorem commitChunk_def (s : Store) (chunk : Nat) (cr : Bool) (ups : List Buf) :
    s.commitChunk chunk cr ups =
      finishChunk (s.nextId + 1) chunk cr ((markStore s chunk cr ups).commitUpdates chunk ups) := rfl

theorem finishChunk_fields (id chunk : Nat) (cr : Bool) (r : Store × List Buf × Bool) :
    (finishChunk id chunk cr r).2 = r.2.1 ∧ (finishChunk id chunk cr r).1.cols = r.1.cols ∧
    (finishChunk id chunk cr r).1.fill = r.1.fill ∧ (finishChunk id chunk cr r).1.panicked = r.1.panicked ∧
    (finishChunk id chunk cr r).1.commits = r.1.commits ∧ (finishChunk id chunk cr r).1.hash = r.1.hash ∧
    (finishChunk id chunk cr r).1.count = r.1.count := by
  rw [finishChunk_eq]
  exact ⟨rfl, rfl, rfl, rfl, rfl, rfl, rfl⟩

theorem markStore_colsRel (s : Store) (chunk : Nat) (cr : Bool) (ups : List Buf) : ColsRel s (markStore s chunk cr ups) := by
  have hp : ColsRel s (preStore s chunk) := ColsRel.of_cols rfl
  unfold markStore
  split
  · split
    · exact hp.trans (commitMarkers_colsRel _ chunk _)
    · exact hp
  · exact hp

theorem markStore_regSim (s : Store) (chunk : Nat) (cr : Bool) (ups : List Buf) : RegSim s (markStore s chunk cr ups) :=
  (markStore_colsRel s chunk cr ups).reg

theorem commitChunk_colsRel (s : Store) (chunk : Nat) (cr : Bool) (ups : List Buf) :
    ColsRel s (s.commitChunk chunk cr ups).1 := by
  rw [commitChunk_def]
  exact ((markStore_colsRel s chunk cr ups).trans (StorePlumb.commitUpdates_passes _ chunk ups).cols).trans
    (ColsRel.of_cols (finishChunk_fields _ _ _ _).2.1)

/-! ## pointwise-related buffer lists -/

theorem Rel2.columns {x : String} {D : List Nat} {ups ups' : List Buf} (h : Rel2 (BufRel x D) ups ups') :
    ∀ v' ∈ ups', ∃ v ∈ ups, BufRel x D v v' := h.mem_right

theorem find_marker_of_rel2 {R : Buf → Buf → Prop}
    (hR : ∀ u u', R u u' → u'.column = u.column ∧ (u.column = rowColumn → u' = u)) {ups ups' : List Buf}
    (h : Rel2 R ups ups') : ups'.find? isMarkerBuf = ups.find? isMarkerBuf := by
  refine Rel2.find?_eq isMarkerBuf (fun u u' hab => ?_) h
  obtain ⟨h1, h2⟩ := hR u u' hab
  by_cases hr : u.column = rowColumn
  · rw [h2 hr]; exact ⟨rfl, fun _ => rfl⟩
  · have hf : ∀ v : Buf, v.column = u.column → isMarkerBuf v = false := by
      intro v hv
      unfold isMarkerBuf
      have : (v.column == rowColumn) = false := by rw [hv]; simpa using hr
      rw [this]; simp
    rw [hf u rfl, hf u' h1]
    exact ⟨rfl, fun e => by cases e⟩

theorem Rel2.find_marker {x : String} {D : List Nat} {ups ups' : List Buf} (h : Rel2 (BufRel x D) ups ups') :
    ups'.find? isMarkerBuf = ups.find? isMarkerBuf := find_marker_of_rel2 (fun _ _ hab => ⟨hab.1, hab.2.1⟩) h

theorem Rel2.opsFor {x : String} {D : List Nat} {ups ups' : List Buf} (h : Rel2 (BufRel x D) ups ups') (c2 : Nat)
    (hc2 : c2 ∉ D) : opsFor ups' x c2 = opsFor ups x c2 := by
  induction h with
  | nil => rfl
  | @cons a b as bs hab _ ih =>
    obtain ⟨h1, _, h3⟩ := hab
    by_cases hx : a.column = x
    · rw [opsFor_cons_self a as x c2 hx, opsFor_cons_self b bs x c2 (h1.trans hx), ih]
      unfold Buf.rangeOps
      rw [h3 hx c2 hc2]
    · rw [opsFor_cons_other a as x c2 hx, opsFor_cons_other b bs x c2 (by rw [h1]; exact hx), ih]


/-! ## ops of the chunks of a loop address their own chunk -/

/-- the sections of the chunks `cs` of the buffers of `x` and of the marker buffer hold ops of their own chunk
    (`Buf.Inv.chunk_ok`) -/
def ChunkOps (x : String) (ups : List Buf) (cs : List Nat) : Prop :=
  ∀ v ∈ ups, (v.column = x ∨ isMarkerBuf v = true) → ∀ c ∈ cs, ∀ o ∈ v.rangeOps c, chunkOf o.idx = c

theorem markerOps_chunk (x : String) (ups : List Buf) (cs : List Nat) (h : ChunkOps x ups cs) (c : Nat) (hc : c ∈ cs) :
    ∀ o ∈ markerOps ups c, chunkOf o.idx = c := by
  unfold markerOps
  cases hm : ups.find? isMarkerBuf with
  | none => intro o ho; cases ho
  | some m =>
    intro o ho
    exact h m (List.mem_of_find?_eq_some hm) (Or.inr (List.find?_some hm)) c hc o ho

theorem opsFor_chunk (x : String) (ups : List Buf) (cs : List Nat) (h : ChunkOps x ups cs) (c : Nat) (hc : c ∈ cs) :
    ∀ o ∈ opsFor ups x c, chunkOf o.idx = c :=
  opsFor_forall ups x c _ (fun v hv hx => h v hv (Or.inl hx) c hc)

theorem foldl_filter_none {β : Type} (f : β → Op → β) (ops : List Op) (i : Nat) (st : β) (h : ∀ o ∈ ops, o.idx ≠ i) :
    (ops.filter (fun o => o.idx = i)).foldl f st = st := by
  have : ops.filter (fun o => o.idx = i) = [] := by
    rw [List.filter_eq_nil_iff]; intro o ho; simpa using h o ho
  rw [this]; rfl

/-! ## `Col.grow` and `commitCapacity` -/

theorem get_append_replicate_false (b : Bitmap) (n i : Nat) : Bits.get (b ++ Array.replicate n false) i = Bits.get b i := by
  unfold Bits.get
  rw [Array.getElem?_append]
  split
  · rfl
  · rename_i h
    simp only [Array.getElem?_replicate]
    have : b[i]? = none := Array.getElem?_eq_none (by omega)
    rw [this]
    split <;> rfl

theorem data_append_replicate_nil (a : Array Bytes) (n i : Nat) :
    ((a ++ Array.replicate n [])[i]?).getD [] = (a[i]?).getD [] := by
  rw [Array.getElem?_append]
  split
  · rfl
  · rename_i h
    simp only [Array.getElem?_replicate]
    have : a[i]? = none := Array.getElem?_eq_none (by omega)
    rw [this]
    split <;> rfl

theorem grow_data (c : Col) (hd : c.kind.isData = true) (idx : Nat) :
    (c.grow idx).seek = c.seek ∧ (c.grow idx).intern = c.intern ∧ c.nchunks ≤ (c.grow idx).nchunks ∧
    idx / 16384 < (c.grow idx).nchunks ∧ (∀ i, slot (c.grow idx) i = slot c i) ∧ (ColWF c → ColWF (c.grow idx)) ∧
    c.bits.size ≤ (c.grow idx).bits.size ∧ c.data.size ≤ (c.grow idx).data.size := by
  rw [grow_data_eq c hd idx]
  split
  · rename_i h
    refine ⟨rfl, rfl, by simp only; omega, by simp only; omega, ?_, ?_, by simp, by simp⟩
    · intro i
      unfold slot
      simp only [get_append_replicate_false, data_append_replicate_nil]
    · intro hw
      have h2 : 16384 * c.nchunks ≤ 16384 * (idx / 16384 + 1) := Nat.mul_le_mul_left _ (Nat.le_of_lt h)
      refine ⟨?_, ?_⟩
      · simp only [Array.size_append, Array.size_replicate]
        have := hw.bsize
        omega
      · simp only [Array.size_append, Array.size_replicate]
        have := hw.dsize
        omega
  · rename_i h
    exact ⟨rfl, rfl, Nat.le_refl _, by omega, fun i => rfl, fun hw => hw, Nat.le_refl _, Nat.le_refl _⟩

theorem commitCapacity_findCol (s : Store) (last : Nat) (x : String) :
    (s.commitCapacity last).findCol x =
      if s.commits.size ≥ last + 1 then s.findCol x else (s.findCol x).map (fun c => c.grow (16384 * last + 16383)) := by
  unfold Store.commitCapacity
  split
  · rfl
  · exact findCol_map _ (fun c => grow_name c _) rfl x

/-! ## the ops a transaction issued, chunk by chunk and as a whole -/

/-- every op the buffers named `x` hold, in issue order -/
def allFor (ups : List Buf) (x : String) : List Op := ((ups.filter (fun b => b.column == x)).map Buf.allOps).flatten

/-- every marker the transaction holds, in issue order -/
def markerAll (ups : List Buf) : List Op :=
  match ups.find? isMarkerBuf with
  | some m => m.allOps
  | none => []

theorem allFor_cons_self (u : Buf) (ups : List Buf) (x : String) (h : u.column = x) :
    allFor (u :: ups) x = u.allOps ++ allFor ups x := by
  unfold allFor
  have : (u.column == x) = true := by simpa using h
  rw [List.filter_cons, if_pos this]; rfl

theorem allFor_cons_other (u : Buf) (ups : List Buf) (x : String) (h : u.column ≠ x) :
    allFor (u :: ups) x = allFor ups x := by
  unfold allFor
  have : ¬ (u.column == x) = true := by simpa using h
  rw [List.filter_cons, if_neg this]

theorem rangeOps_filter_idx (u : Buf) (h : ChunkOK u) (i : Nat) :
    (u.rangeOps (chunkOf i)).filter (fun o => o.idx = i) = u.allOps.filter (fun o => o.idx = i) := by
  rw [rangeOps_eq_filter_ok u _ h, List.filter_filter]
  apply List.filter_congr
  intro o _
  by_cases e : o.idx = i
  · simp [e]
  · simp [e]

theorem opsFor_filter_idx (ups : List Buf) (x : String) (i : Nat) (h : ∀ v ∈ ups, v.column = x → ChunkOK v) :
    (opsFor ups x (chunkOf i)).filter (fun o => o.idx = i) = (allFor ups x).filter (fun o => o.idx = i) := by
  induction ups with
  | nil => rfl
  | cons u us ih =>
    have ih' := ih (fun v hv => h v (by simp [hv]))
    by_cases hx : u.column = x
    · rw [opsFor_cons_self u us x _ hx, allFor_cons_self u us x hx, List.filter_append, List.filter_append, ih',
        rangeOps_filter_idx u (h u (by simp) hx) i]
    · rw [opsFor_cons_other u us x _ hx, allFor_cons_other u us x hx, ih']

theorem markerOps_filter_idx (ups : List Buf) (i : Nat) (h : ∀ v ∈ ups, isMarkerBuf v = true → ChunkOK v) :
    (markerOps ups (chunkOf i)).filter (fun o => o.idx = i) = (markerAll ups).filter (fun o => o.idx = i) := by
  unfold markerOps markerAll
  cases hm : ups.find? isMarkerBuf with
  | none => rfl
  | some m => exact rangeOps_filter_idx m (h m (List.mem_of_find?_eq_some hm) (List.find?_some hm)) i

theorem allOps_chunk_mem (b : Buf) (h : ChunkOK b) : ∀ o ∈ b.allOps, chunkOf o.idx ∈ b.chunks := by
  intro o ho
  unfold Buf.allOps at ho
  obtain ⟨l, hl, hol⟩ := List.mem_flatten.1 ho
  obtain ⟨sec, hsec, rfl⟩ := List.mem_map.1 hl
  have h1 : sec ∈ b.rsecs := by simpa [Buf.secs] using hsec
  have h2 : o ∈ sec.rops := by simpa [Sec.ops] using hol
  rw [h sec h1 o h2]
  unfold Buf.chunks
  exact List.mem_map.2 ⟨sec, hsec, rfl⟩

theorem allFor_mem (ups : List Buf) (x : String) (o : Op) (ho : o ∈ allFor ups x) : ∃ v ∈ ups, v.column = x ∧ o ∈ v.allOps := by
  unfold allFor at ho
  obtain ⟨l, hl, hol⟩ := List.mem_flatten.1 ho
  obtain ⟨v, hv, rfl⟩ := List.mem_map.1 hl
  have hv' := List.mem_filter.1 hv
  exact ⟨v, hv'.1, by simpa using hv'.2, hol⟩

/-! ## the store the chunk loop starts with (`capStore`), column by column (`capCol`) -/

/-- what `commitCapacity` (called with the last dirty chunk) makes of a column -/
def capCol (s : Store) (t : Txn) (c : Col) : Col :=
  match t.dirtyChunks.getLast? with
  | some last => if s.commits.size ≥ last + 1 then c else c.grow (16384 * last + 16383)
  | none => c

theorem capStore_findCol_eq (s : Store) (t : Txn) (x : String) :
    (capStore s t).findCol x = (s.findCol x).map (capCol s t) := by
  unfold capStore capCol
  cases hl : t.dirtyChunks.getLast? with
  | none => simp
  | some last =>
    simp only
    rw [commitCapacity_findCol]
    split
    · simp
    · rfl

theorem capStore_hash (s : Store) (t : Txn) : (capStore s t).hash = s.hash := by
  unfold capStore
  cases t.dirtyChunks.getLast? with
  | none => rfl
  | some last =>
    simp only
    unfold Store.commitCapacity
    split <;> rfl

theorem capCol_meta (s : Store) (t : Txn) (c : Col) :
    (capCol s t c).name = c.name ∧ (capCol s t c).kind = c.kind ∧ (capCol s t c).computed = c.computed ∧
    (capCol s t c).merge = c.merge := by
  unfold capCol
  cases t.dirtyChunks.getLast? with
  | none => exact ⟨rfl, rfl, rfl, rfl⟩
  | some last =>
    simp only
    split
    · exact ⟨rfl, rfl, rfl, rfl⟩
    · exact grow_meta c _

theorem capCol_data (s : Store) (t : Txn) (c : Col) (hd : c.kind.isData = true) :
    (capCol s t c).seek = c.seek ∧ (capCol s t c).intern = c.intern ∧ c.nchunks ≤ (capCol s t c).nchunks ∧
    (∀ i, slot (capCol s t c) i = slot c i) ∧ (ColWF c → ColWF (capCol s t c)) ∧
    (s.commits.size ≤ c.nchunks → ∀ ch ∈ t.dirtyChunks, ch < (capCol s t c).nchunks) := by
  have hsorted := dirtyChunks_sorted t
  unfold capCol
  cases hl : t.dirtyChunks.getLast? with
  | none =>
    rw [List.getLast?_eq_none_iff] at hl
    refine ⟨rfl, rfl, Nat.le_refl _, fun i => rfl, fun hw => hw, fun _ ch hch => ?_⟩
    rw [hl] at hch; cases hch
  | some last =>
    simp only
    have hle := sorted_le_getLast _ hsorted last hl
    split
    · rename_i hge
      refine ⟨rfl, rfl, Nat.le_refl _, fun i => rfl, fun hw => hw, fun hcov ch hch => ?_⟩
      have := hle ch hch
      omega
    · obtain ⟨g1, g2, g3, g4, g5, g6, _⟩ := grow_data c hd (16384 * last + 16383)
      refine ⟨g1, g2, g3, g5, g6, fun _ ch hch => ?_⟩
      have := hle ch hch
      omega

theorem capStore_back (s : Store) (t : Txn) (n : String) (c : Col) (h : (capStore s t).findCol n = some c) :
    ∃ c0, s.findCol n = some c0 ∧ c.computed = c0.computed ∧ c.kind = c0.kind := by
  rw [capStore_findCol_eq] at h
  cases hc0 : s.findCol n with
  | none => rw [hc0] at h; cases h
  | some c0 =>
    rw [hc0] at h
    cases h
    obtain ⟨_, m2, m3, _⟩ := capCol_meta s t c0
    exact ⟨c0, rfl, m3, m2⟩

theorem capStore_computed (s : Store) (t : Txn) (n : String) (c : Col) (h : (capStore s t).findCol n = some c) :
    ∃ c0, s.findCol n = some c0 ∧ c.computed = c0.computed :=
  let ⟨c0, h0, e, _⟩ := capStore_back s t n c h
  ⟨c0, h0, e⟩

theorem issued_chunk_dirty (t : Txn) (x : String)
    (hinv : ∀ v ∈ t.updates, (v.column = x ∨ isMarkerBuf v = true) → ChunkOK v) :
    ∀ o ∈ markerAll t.updates ++ allFor t.updates x, chunkOf o.idx ∈ t.dirtyChunks := by
  intro o ho
  rw [mem_dirtyChunks]
  right
  rcases List.mem_append.1 ho with ho | ho
  · unfold markerAll at ho
    cases hm : t.updates.find? isMarkerBuf with
    | none => rw [hm] at ho; cases ho
    | some m =>
      rw [hm] at ho
      have hmem := List.mem_of_find?_eq_some hm
      exact ⟨m, hmem, allOps_chunk_mem m (hinv m hmem (Or.inr (List.find?_some hm))) o ho⟩
  · obtain ⟨v, hv, hvx, hov⟩ := allFor_mem t.updates x o ho
    exact ⟨v, hv, allOps_chunk_mem v (hinv v hv (Or.inl hvx)) o hov⟩

/-! ## predicates on transactions and registries the property files assume -/

def BufsDistinct (ups : List Buf) : Prop := (ups.map (·.column)).Nodup

instance (ups : List Buf) : Decidable (BufsDistinct ups) := by unfold BufsDistinct; exact inferInstance

/-- the computed columns attached to any column are bitmap indexes, triggers or sorted indexes (what `createComputed`
    registers) -/
def ComputedKinds (s : Store) : Prop :=
  ∀ n c, s.findCol n = some c → ∀ m ∈ c.computed, ∀ c', s.findCol m = some c' → c'.kind.isComputed = true


/-! ## what a chunk pass, the chunk loop and `commit` keep, for any store and any buffers -/

/-- how a buffer relates to its rewritten version after one chunk pass (for any store): same name; `row` buffers and
    buffers of non-data columns are not rewritten -/
def BufRelP (s : Store) (u u' : Buf) : Prop :=
  u'.column = u.column ∧ (u.column = rowColumn → u' = u) ∧
  (∀ c, s.findCol u.column = some c → c.kind.isData = false → u' = u)


theorem BufRelP.refl (s : Store) (u : Buf) : BufRelP s u u := ⟨rfl, fun _ => rfl, fun _ _ _ => rfl⟩


theorem cuBuf_relP (chunk : Nat) (s0 s : Store) (u : Buf) (hs : RegSim s0 s) : BufRelP s0 u (cuBuf chunk s u) := by
  unfold cuBuf
  split
  · exact BufRelP.refl s0 u
  · rename_i hskip
    have hnr : u.column ≠ rowColumn := by
      intro e; apply hskip; simp [e]
    split
    · rename_i col hf
      split
      · rename_i hd
        refine ⟨(mainPass_general s.hash col chunk u).2, fun e => absurd e hnr, fun c hc hcd => ?_⟩
        obtain ⟨c', hc', sg⟩ := hs.sig u.column c hc
        rw [hf] at hc'
        cases hc'
        rw [sg.kind, hcd] at hd
        cases hd
      · exact BufRelP.refl s0 u
    · exact BufRelP.refl s0 u

theorem cuStep_relP (chunk : Nat) (s0 s : Store) (done : List Buf) (b : Bool) (u : Buf) (hs : RegSim s0 s) :
    ∃ u', (cuStep chunk (s, done, b) u).2.1 = done ++ [u'] ∧ BufRelP s0 u u' :=
  ⟨_, cuStep_snd chunk (s, done, b) u, cuBuf_relP chunk s0 s u hs⟩

theorem cuFold_sim (chunk : Nat) (ups : List Buf) (s : Store) (done : List Buf) (b : Bool) :
    Sim s (ups.foldl (cuStep chunk) (s, done, b)).1 := (StorePlumb.cuFold_spec chunk ups (s, done, b)).1.sim

theorem markStore_commits_size (s : Store) (chunk : Nat) (cr : Bool) (ups : List Buf) :
    (markStore s chunk cr ups).commits.size = s.commits.size := by
  have hp : (preStore s chunk).commits.size = s.commits.size := by unfold preStore; simp
  unfold markStore
  split
  · split
    · rw [commitMarkers_eq]; exact hp
    · exact hp
  · exact hp

theorem commitChunk_gen (s : Store) (chunk : Nat) (cr : Bool) (ups : List Buf) :
    RegSim s (s.commitChunk chunk cr ups).1 ∧ Rel2 (BufRelP s) ups (s.commitChunk chunk cr ups).2 ∧
    (s.commitChunk chunk cr ups).1.commits.size = s.commits.size ∧
    (∀ P, Stable P → AllCols P s → AllCols P (s.commitChunk chunk cr ups).1) ∧
    (s.commitChunk chunk cr ups).1.fill = (markStore s chunk cr ups).fill := by
  have hc := commitChunk_colsRel s chunk cr ups
  refine ⟨hc.reg, ?_, ?_, fun P hP h => hc.allCols hP h, ?_⟩ <;> rw [commitChunk_def]
  all_goals
    obtain ⟨f1, _, f3, _, f5, _⟩ := finishChunk_fields (s.nextId + 1) chunk cr
      ((markStore s chunk cr ups).commitUpdates chunk ups)
    have hp := StorePlumb.commitUpdates_passes (markStore s chunk cr ups) chunk ups
  · obtain ⟨ups', hu1, hu2⟩ := StorePlumb.cuFold_bufs chunk (BufRelP s) (RegSim s) (fun _ _ h hp => h.trans hp.cols.reg)
      (fun s1 u h => cuBuf_relP chunk s s1 u h) ups (markStore s chunk cr ups, [], false) (markStore_regSim s chunk cr ups)
    rw [f1, commitUpdates_eq, hu1]; simpa using hu2
  · rw [f5, hp.silent.commits, markStore_commits_size]
  · rw [f3, hp.fill.fill]

theorem commitCapacity_cases (s : Store) (last : Nat) :
    (s.commits.size ≥ last + 1 ∧ s.commitCapacity last = s) ∨
    (¬ s.commits.size ≥ last + 1 ∧
      (s.commitCapacity last).cols = s.cols.map (fun c => c.grow (16384 * last + 16383)) ∧
      (s.commitCapacity last).commits.size = last + 1 ∧
      (s.commitCapacity last).fill = Bits.grow s.fill (16384 * last + 16383) ∧
      (s.commitCapacity last).panicked = s.panicked) := by
  unfold Store.commitCapacity
  by_cases h : s.commits.size ≥ last + 1
  · left; rw [if_pos h]; exact ⟨h, rfl⟩
  · right; rw [if_neg h]
    refine ⟨h, rfl, ?_, rfl, rfl⟩
    simp only [Array.size_append, Array.size_replicate]
    omega

theorem commitLoop_gen (cr : Bool) (cs : List Nat) :
    ∀ (s : Store) (ups : List Buf), RegSim s (commitLoop cr cs s ups).1 ∧
      (commitLoop cr cs s ups).1.commits.size = s.commits.size ∧
      (∀ P, Stable P → AllCols P s → AllCols P (commitLoop cr cs s ups).1) := by
  induction cs with
  | nil => intro s ups; exact ⟨RegSim.refl s, rfl, fun _ _ h => h⟩
  | cons c cs ih =>
    intro s ups
    obtain ⟨hreg, _, hsz, hall, _⟩ := commitChunk_gen s c cr ups
    obtain ⟨i1, i2, i3⟩ := ih (s.commitChunk c cr ups).1 (s.commitChunk c cr ups).2
    rw [commitLoop_cons]
    exact ⟨RegSim.trans hreg i1, i2.trans hsz, fun P hP h => i3 P hP (hall P hP h)⟩

theorem commit_commits_size (s : Store) (t : Txn) :
    (s.commit t).commits.size = s.commits.size ∨
    ∃ last ∈ t.dirtyChunks, s.commits.size < last + 1 ∧ (s.commit t).commits.size = last + 1 := by
  rw [commit_eq', (commitLoop_gen _ _ _ _).2.1]
  refine capStore_induct (fun s' => s'.commits.size = s.commits.size ∨
    ∃ last ∈ t.dirtyChunks, s.commits.size < last + 1 ∧ s'.commits.size = last + 1) s t (fun _ => .inl rfl) ?_
  intro last hl
  rcases commitCapacity_cases s last with ⟨_, h2⟩ | ⟨h1, _, h3, _, _⟩
  · rw [h2]; exact .inl rfl
  · exact .inr ⟨last, List.mem_of_getLast? hl, by omega, h3⟩

end ColumnVerif.Store
