import ColumnVerif.Model.Store
import ColumnVerif.Lemmas.Bits
import ColumnVerif.Lemmas.Buffer
/-! Lemmas: the slot of an offset in a data column (presence bit, raw bytes), the effect of one op on it, and what a
    pass keeps of a column (`SameShape`). -/
namespace ColumnVerif.Store
open ColumnVerif.Codec ColumnVerif.Bits

/-- presence bit and raw slot of offset `i` -/
def slot (c : Col) (i : Nat) : Bool × Bytes := (Bits.get c.bits i, (c.data[i]?).getD [])

/-- effect of one op on the slot of its own offset (`w` = 0 for strings: no padding) -/
def slotEffect (merge : Bytes → Bytes → Bytes) (w : Nat) (st : Bool × Bytes) (o : Op) : Bool × Bytes :=
  if o.typ = opPut then (true, valRaw o.val)
  else if o.typ = opMerge then (true, merge (padTo w st.2) (valRaw o.val))
  else if o.typ = opDelete then (false, st.2)
  else st

theorem slotEffect_put {m : Bytes → Bytes → Bytes} {w : Nat} {st : Bool × Bytes} {o : Op} (h : o.typ = opPut) :
    slotEffect m w st o = (true, valRaw o.val) := if_pos h

theorem slotEffect_merge {m : Bytes → Bytes → Bytes} {w : Nat} {st : Bool × Bytes} {o : Op} (h : o.typ = opMerge) :
    slotEffect m w st o = (true, m (padTo w st.2) (valRaw o.val)) := by
  unfold slotEffect; rw [if_neg (by rw [h]; decide), if_pos h]

theorem slotEffect_delete {m : Bytes → Bytes → Bytes} {w : Nat} {st : Bool × Bytes} {o : Op} (h : o.typ = opDelete) :
    slotEffect m w st o = (false, st.2) := by
  unfold slotEffect; rw [if_neg (by rw [h]; decide), if_neg (by rw [h]; decide), if_pos h]

theorem slotEffect_other {m : Bytes → Bytes → Bytes} {w : Nat} {st : Bool × Bytes} {o : Op}
    (h1 : o.typ ≠ opPut) (h2 : o.typ ≠ opMerge) (h3 : o.typ ≠ opDelete) : slotEffect m w st o = st := by
  unfold slotEffect; rw [if_neg h1, if_neg h2, if_neg h3]

theorem slotEffect_no_merge (m m' : Bytes → Bytes → Bytes) (w w' : Nat) (st : Bool × Bytes) (o : Op)
    (h : o.typ ≠ opMerge) : slotEffect m w st o = slotEffect m' w' st o := by
  unfold slotEffect; rw [if_neg h, if_neg h]

theorem padTo_zero (bs : Bytes) : padTo 0 bs = bs := by
  unfold padTo
  split
  · rename_i h; rw [List.eq_nil_of_length_eq_zero h]; rfl
  · rfl

/-- (`Store.natToBE_length` is the name the snapshot lemmas use) -/
theorem natToBE_length (n v : Nat) : (natToBE n v).length = n := Codec.natToBE_length n v

theorem beNat_natToBE4 (h : Nat) (hh : h < 4294967296) : beNat (natToBE 4 h) = h := by
  rw [beNat_natToBE]; exact Nat.mod_eq_of_lt (by simpa using hh)

theorem getD_eq (a : Array Bytes) (i : Nat) : a.getD i [] = (a[i]?).getD [] := by
  simp [Array.getD_eq_getD_getElem?]

theorem lt_size_of_get {b : Bitmap} {i : Nat} (h : Bits.get b i = true) : i < b.size :=
  Decidable.byContradiction fun hn => by rw [get_of_ge b i (Nat.le_of_not_lt hn)] at h; cases h

theorem getD_setIfInBounds {α : Type} (a : Array α) (i j : Nat) (v d : α) (h : i < a.size) :
    ((a.setIfInBounds i v)[j]?).getD d = if j = i then v else (a[j]?).getD d := by
  rw [Array.getElem?_setIfInBounds]
  by_cases e : i = j
  · subst e; simp [h]
  · have : ¬ j = i := fun h => e h.symm
    simp [e, this]

theorem get_setIfInBounds (b : Bitmap) (i j : Nat) (v : Bool) (h : i < b.size) :
    Bits.get (b.setIfInBounds i v) j = if j = i then v else Bits.get b j := getD_setIfInBounds b i j v false h

theorem data_setIfInBounds (a : Array Bytes) (i j : Nat) (v : Bytes) (h : i < a.size) :
    ((a.setIfInBounds i v)[j]?).getD [] = if j = i then v else (a[j]?).getD [] := getD_setIfInBounds a i j v [] h

theorem get_setIfInBounds_ne (b : Bitmap) (i j : Nat) (v : Bool) (h : i ≠ j) :
    Bits.get (b.setIfInBounds i v) j = Bits.get b j := by
  unfold Bits.get
  rw [Array.getElem?_setIfInBounds_ne h]

theorem slot_set {c c' : Col} {j : Nat} {b : Bool} {v : Bytes} (i : Nat) (eb : c'.bits = c.bits.setIfInBounds j b)
    (ed : c'.data = c.data.setIfInBounds j v) (hb : j < c.bits.size) (hd : j < c.data.size) :
    slot c' i = if i = j then (b, v) else slot c i := by
  unfold slot
  rw [eb, ed, get_setIfInBounds _ _ _ _ hb, data_setIfInBounds _ _ _ _ hd]
  split <;> rfl

theorem slot_setBit {c c' : Col} {j : Nat} {b : Bool} (i : Nat) (eb : c'.bits = c.bits.setIfInBounds j b)
    (ed : c'.data = c.data) (hb : j < c.bits.size) : slot c' i = if i = j then (b, (slot c i).2) else slot c i := by
  unfold slot
  rw [eb, ed, get_setIfInBounds _ _ _ _ hb]
  split <;> rfl

theorem read_slot (c : Col) (i : Nat) (hd : c.kind.isData = true) (he : c.kind ≠ .enum) :
    c.read i = if i / 16384 < c.nchunks ∧ (slot c i).1 = true then some (slot c i).2 else none := by
  unfold Col.read slot
  rw [getD_eq]
  cases hk : c.kind
  case enum => exact absurd hk he
  case num | str | key | record => rfl
  all_goals rw [hk] at hd; cases hd

/-- shape facts kept by every step -/
structure SameShape (c c' : Col) : Prop where
  kind : c'.kind = c.kind
  merge : c'.merge = c.merge
  nchunks : c'.nchunks = c.nchunks
  bsize : c'.bits.size = c.bits.size
  dsize : c'.data.size = c.data.size
  name : c'.name = c.name
  computed : c'.computed = c.computed

theorem SameShape.refl (c : Col) : SameShape c c := ⟨rfl, rfl, rfl, rfl, rfl, rfl, rfl⟩

theorem SameShape.trans {a b c : Col} (h1 : SameShape a b) (h2 : SameShape b c) : SameShape a c :=
  ⟨h2.kind.trans h1.kind, h2.merge.trans h1.merge, h2.nchunks.trans h1.nchunks, h2.bsize.trans h1.bsize,
   h2.dsize.trans h1.dsize, h2.name.trans h1.name, h2.computed.trans h1.computed⟩

/-- every offset of a section lies inside the column's arrays -/
def InBounds (c : Col) (ops : List Op) : Prop := ∀ o ∈ ops, o.idx < c.bits.size ∧ o.idx < c.data.size

instance (c : Col) (ops : List Op) : Decidable (InBounds c ops) := by
  unfold InBounds; exact inferInstance

theorem InBounds.of_shape {c c' : Col} {ops : List Op} (hs : SameShape c c') (h : InBounds c ops) :
    InBounds c' ops := by
  intro x hx
  rw [hs.bsize, hs.dsize]; exact h x hx

theorem filter_idx_last (pre post : List Op) (p : Op) (hpost : ∀ o ∈ post, o.idx ≠ p.idx) :
    (pre ++ p :: post).filter (fun o => o.idx = p.idx) = pre.filter (fun o => o.idx = p.idx) ++ [p] := by
  have hnil : post.filter (fun o => o.idx = p.idx) = [] :=
    List.filter_eq_nil_iff.2 (fun o ho => by simpa using hpost o ho)
  rw [List.filter_append, List.filter_cons, if_pos (decide_eq_true rfl), hnil]

theorem InBounds.tail {c : Col} {o : Op} {ops : List Op} (h : InBounds c (o :: ops)) : InBounds c ops :=
  fun x hx => h x (by simp [hx])

end ColumnVerif.Store
