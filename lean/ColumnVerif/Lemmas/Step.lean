import ColumnVerif.Lemmas.Apply
/-!
One op of a data column's `Apply` (`stepOf`) in closed form, and the pass (`applyData`) as a fold of it.

`stepOf` threads three things through a section: the column, the ops as they are left in the section (reversed) and the
puts appended through the parent buffer. Only the column feeds back into the next step, so a step is three functions of
the column and the op (`colOf`, `opOf`, `appOf`; `stepOf_eq`), a pass is their folds (`applyData_eq`), and a fact about a
pass is an induction over the op list that never sees the accumulators.

Seen through `slot`, a step changes the slot of its own offset only, by a function of that slot and the op alone (`effOf`,
`colOf_slot`); so after a pass the slot of every offset is the fold of the ops addressed to it (`applyData_slot`), whatever
the kind. The induction behind it, `foldl_pointwise`, is stated for any state and any view.
-/
namespace ColumnVerif.Store
open ColumnVerif.Codec ColumnVerif.Bits

/-- the value a `Merge` stores: numeric columns pad an empty slot to their width first -/
def mergeVal (k : Kind) (c : Col) (o : Op) : Bytes :=
  match k with
  | .num nk => c.merge (padTo nk.width (c.data.getD o.idx [])) (valRaw o.val)
  | _ => c.merge (c.data.getD o.idx []) (valRaw o.val)

def putCol (hash : Bytes → Nat) (k : Kind) (c : Col) (o : Op) : Col :=
  match k with
  | .num _ | .str | .record =>
    { c with bits := c.bits.setIfInBounds o.idx true, data := c.data.setIfInBounds o.idx (valRaw o.val) }
  | .enum =>
    { c with bits := c.bits.setIfInBounds o.idx true, data := c.data.setIfInBounds o.idx (natToBE 4 (hash (valRaw o.val))),
             intern := if c.intern.contains (hash (valRaw o.val)) then c.intern
                       else c.intern.insert (hash (valRaw o.val)) (valRaw o.val) }
  | .key =>
    { c with bits := c.bits.setIfInBounds o.idx true, data := c.data.setIfInBounds o.idx (valRaw o.val),
             seek := (if Bits.get c.bits o.idx ∧ c.data.getD o.idx [] ≠ valRaw o.val ∧
                          c.seek.get? (c.data.getD o.idx []) = some o.idx
                      then c.seek.erase (c.data.getD o.idx []) else c.seek).insert (valRaw o.val) o.idx }
  | _ => c

/-- enum and key columns ignore a `Merge` -/
def mergeCol (k : Kind) (c : Col) (o : Op) : Col :=
  match k with
  | .num _ | .str | .record =>
    { c with bits := c.bits.setIfInBounds o.idx true, data := c.data.setIfInBounds o.idx (mergeVal k c o) }
  | _ => c

def delCol (k : Kind) (c : Col) (o : Op) : Col :=
  match k with
  | .num _ | .str | .record | .enum => { c with bits := c.bits.setIfInBounds o.idx false }
  | .key => { c with bits := c.bits.setIfInBounds o.idx false, seek := c.seek.erase (c.data.getD o.idx []) }
  | _ => c

/-- the column after the op -/
def colOf (hash : Bytes → Nat) (k : Kind) (c : Col) (o : Op) : Col :=
  if o.typ = opPut then putCol hash k c o
  else if o.typ = opMerge then mergeCol k c o
  else if o.typ = opDelete then delCol k c o
  else c

/-- the op as the step leaves it in the section: a numeric merge becomes a put of the merged value, a string merge too
    if the length fits, else it is marked `Skip` -/
def opOf (k : Kind) (c : Col) (o : Op) : Op :=
  if o.typ = opMerge then
    match k with
    | .num nk => swapInPlace o (.fixed nk.code (mergeVal k c o))
    | .str | .record =>
      if (mergeVal k c o).length = (valRaw o.val).length then swapInPlace o (.str (mergeVal k c o)) else markSkip o
    | _ => o
  else o

/-- the puts the step appends through the parent buffer: the result of a resizing string merge -/
def appOf (k : Kind) (c : Col) (o : Op) : List Op :=
  match k with
  | .str | .record =>
    if o.typ = opMerge ∧ (mergeVal k c o).length ≠ (valRaw o.val).length then [⟨opPut, o.idx, .str (mergeVal k c o)⟩]
    else []
  | _ => []

theorem put_ne_merge {o : Op} (h : o.typ = opPut) : ¬ o.typ = opMerge := by rw [h]; decide
theorem merge_ne_put {o : Op} (h : o.typ = opMerge) : ¬ o.typ = opPut := by rw [h]; decide
theorem delete_ne_put {o : Op} (h : o.typ = opDelete) : ¬ o.typ = opPut := by rw [h]; decide
theorem delete_ne_merge {o : Op} (h : o.typ = opDelete) : ¬ o.typ = opMerge := by rw [h]; decide

/-! ### a step by the type of its op -/

theorem colOf_put {o : Op} (h : o.typ = opPut) (hash : Bytes → Nat) (k : Kind) (c : Col) :
    colOf hash k c o = putCol hash k c o := if_pos h

theorem colOf_merge {o : Op} (h : o.typ = opMerge) (hash : Bytes → Nat) (k : Kind) (c : Col) :
    colOf hash k c o = mergeCol k c o := by
  unfold colOf; rw [if_neg (merge_ne_put h), if_pos h]

theorem colOf_delete {o : Op} (h : o.typ = opDelete) (hash : Bytes → Nat) (k : Kind) (c : Col) :
    colOf hash k c o = delCol k c o := by
  unfold colOf; rw [if_neg (delete_ne_put h), if_neg (delete_ne_merge h), if_pos h]

theorem colOf_other {o : Op} (h1 : o.typ ≠ opPut) (h2 : o.typ ≠ opMerge) (h3 : o.typ ≠ opDelete) (hash : Bytes → Nat)
    (k : Kind) (c : Col) : colOf hash k c o = c := by
  unfold colOf; rw [if_neg h1, if_neg h2, if_neg h3]

/-- the pass leaves the columns that are not data columns alone (they have their own `Apply`) -/
theorem colOf_not_data (hash : Bytes → Nat) (c : Col) (o : Op) {k : Kind} (hk : k.isData = false) :
    colOf hash k c o = c ∧ opOf k c o = o ∧ appOf k c o = [] := by
  cases k
  case bool | index | trigger | sorted => simp only [colOf, putCol, mergeCol, delCol, opOf, appOf, ite_self, and_self]
  all_goals cases hk

theorem stepStr_eq (hash : Bytes → Nat) (c : Col) (done app : List Op) (o : Op) :
    stepStr (c, done, app) o = (colOf hash .str c o, opOf .str c o :: done, app ++ appOf .str c o) := by
  unfold stepStr colOf opOf appOf
  dsimp only
  by_cases h1 : o.typ = opPut
  · rw [if_pos h1, if_pos h1, if_neg (put_ne_merge h1), if_neg (fun h => put_ne_merge h1 h.1), List.append_nil]; rfl
  · rw [if_neg h1, if_neg h1]
    by_cases h2 : o.typ = opMerge
    · rw [if_pos h2, if_pos h2, if_pos h2]
      have hv : mergeVal .str c o = c.merge (c.data.getD o.idx []) (valRaw o.val) := rfl
      rw [hv]
      by_cases hl : (c.merge (c.data.getD o.idx []) (valRaw o.val)).length = (valRaw o.val).length
      · rw [if_pos hl, if_pos hl, if_neg (fun h => h.2 hl), List.append_nil]; rfl
      · rw [if_neg hl, if_neg hl, if_pos ⟨h2, hl⟩]; rfl
    · rw [if_neg h2, if_neg h2, if_neg h2, if_neg (fun (h : _ ∧ _) => h2 h.1), List.append_nil]
      by_cases h3 : o.typ = opDelete
      · rw [if_pos h3, if_pos h3]; rfl
      · rw [if_neg h3, if_neg h3]

/-- `stepOf` in closed form. For the kinds without a choice both sides compute to the same triple once the op type is known
    (`Delete` = 0, `Put` = 2, `Merge` = 3, anything else); only a string merge leaves one (does the result fit in place?). -/
theorem stepOf_eq (hash : Bytes → Nat) (k : Kind) (acc : ApplyAcc) (o : Op) :
    stepOf hash k acc o = (colOf hash k acc.1 o, opOf k acc.1 o :: acc.2.1, acc.2.2 ++ appOf k acc.1 o) := by
  obtain ⟨c, done, app⟩ := acc
  cases k
  case str | record => exact stepStr_eq hash c done app o
  all_goals
    obtain ⟨t, i, v⟩ := o
    show _ = (_, _, app ++ [])
    rw [List.append_nil]
    rcases t with _ | _ | _ | _ | n <;> rfl

/-- the section as the pass leaves it -/
def rwOps (hash : Bytes → Nat) (k : Kind) : Col → List Op → List Op
  | _, [] => []
  | c, o :: os => opOf k c o :: rwOps hash k (colOf hash k c o) os

/-- the puts the pass appends -/
def appOps (hash : Bytes → Nat) (k : Kind) : Col → List Op → List Op
  | _, [] => []
  | c, o :: os => appOf k c o ++ appOps hash k (colOf hash k c o) os

theorem foldl_stepOf (hash : Bytes → Nat) (k : Kind) (ops : List Op) (acc : ApplyAcc) :
    ops.foldl (stepOf hash k) acc =
      (ops.foldl (colOf hash k) acc.1, (rwOps hash k acc.1 ops).reverse ++ acc.2.1, acc.2.2 ++ appOps hash k acc.1 ops) := by
  induction ops generalizing acc with
  | nil => simp [rwOps, appOps]
  | cons o os ih => simp [ih, stepOf_eq, rwOps, appOps]

theorem applyData_of_ge (hash : Bytes → Nat) (c : Col) (chunk : Nat) (ops : List Op) (h : chunk ≥ c.nchunks) :
    applyData hash c chunk ops = { col := c, ops := ops, appended := [], panic := true } := by
  unfold applyData
  rw [if_pos h]

theorem applyData_eq (hash : Bytes → Nat) (c : Col) (chunk : Nat) (ops : List Op) (h : chunk < c.nchunks) :
    applyData hash c chunk ops =
      { col := ops.foldl (colOf hash c.kind) c, ops := rwOps hash c.kind c ops, appended := appOps hash c.kind c ops } := by
  unfold applyData
  rw [if_neg (by omega), foldl_stepOf]
  simp

theorem rwOps_append (hash : Bytes → Nat) (k : Kind) (c : Col) (a b : List Op) :
    rwOps hash k c (a ++ b) = rwOps hash k c a ++ rwOps hash k (a.foldl (colOf hash k) c) b := by
  induction a generalizing c with
  | nil => rfl
  | cons o os ih => simp [rwOps, ih]

theorem appOps_append (hash : Bytes → Nat) (k : Kind) (c : Col) (a b : List Op) :
    appOps hash k c (a ++ b) = appOps hash k c a ++ appOps hash k (a.foldl (colOf hash k) c) b := by
  induction a generalizing c with
  | nil => rfl
  | cons o os ih => simp [appOps, ih]

theorem rwOps_length (hash : Bytes → Nat) (k : Kind) (c : Col) (ops : List Op) :
    (rwOps hash k c ops).length = ops.length := by
  induction ops generalizing c with
  | nil => rfl
  | cons o os ih => simp [rwOps, ih]

/-! ### what one step does to the column -/

theorem colOf_writes (hash : Bytes → Nat) (k : Kind) (c : Col) (o : Op) :
    ∃ bits data seek intern,
      colOf hash k c o = { c with bits := bits, data := data, seek := seek, intern := intern } ∧
      (bits = c.bits ∨ ∃ v, bits = c.bits.setIfInBounds o.idx v) ∧
      (data = c.data ∨ ∃ v, data = c.data.setIfInBounds o.idx v) ∧
      (k ≠ .key → seek = c.seek) ∧ (k ≠ .enum → intern = c.intern) := by
  have other : ∀ c' : Col, c' = c → ∃ bits data seek intern,
      c' = { c with bits := bits, data := data, seek := seek, intern := intern } ∧
      (bits = c.bits ∨ ∃ v, bits = c.bits.setIfInBounds o.idx v) ∧
      (data = c.data ∨ ∃ v, data = c.data.setIfInBounds o.idx v) ∧
      (k ≠ .key → seek = c.seek) ∧ (k ≠ .enum → intern = c.intern) :=
    fun _ e => ⟨_, _, _, _, e, .inl rfl, .inl rfl, fun _ => rfl, fun _ => rfl⟩
  by_cases hd : k.isData = true
  · by_cases h1 : o.typ = opPut
    · rw [colOf_put h1]
      cases k
      case enum => exact ⟨_, _, _, _, rfl, .inr ⟨_, rfl⟩, .inr ⟨_, rfl⟩, fun _ => rfl, fun h => absurd rfl h⟩
      case key => exact ⟨_, _, _, _, rfl, .inr ⟨_, rfl⟩, .inr ⟨_, rfl⟩, fun h => absurd rfl h, fun _ => rfl⟩
      case num | str | record => exact ⟨_, _, _, _, rfl, .inr ⟨_, rfl⟩, .inr ⟨_, rfl⟩, fun _ => rfl, fun _ => rfl⟩
      all_goals cases hd
    · by_cases h2 : o.typ = opMerge
      · rw [colOf_merge h2]
        cases k
        case num | str | record => exact ⟨_, _, _, _, rfl, .inr ⟨_, rfl⟩, .inr ⟨_, rfl⟩, fun _ => rfl, fun _ => rfl⟩
        case enum | key => exact other _ rfl
        all_goals cases hd
      · by_cases h3 : o.typ = opDelete
        · rw [colOf_delete h3]
          cases k
          case key => exact ⟨_, _, _, _, rfl, .inr ⟨_, rfl⟩, .inl rfl, fun h => absurd rfl h, fun _ => rfl⟩
          case num | str | record | enum => exact ⟨_, _, _, _, rfl, .inr ⟨_, rfl⟩, .inl rfl, fun _ => rfl, fun _ => rfl⟩
          all_goals cases hd
        · exact other _ (colOf_other h1 h2 h3 hash k c)
  · exact other _ (colOf_not_data hash c o (Bool.eq_false_iff.2 hd)).1

theorem colOf_shape (hash : Bytes → Nat) (k : Kind) (c : Col) (o : Op) : SameShape c (colOf hash k c o) := by
  obtain ⟨_, _, _, _, e, hb, hd, _⟩ := colOf_writes hash k c o
  rw [e]
  refine ⟨rfl, rfl, rfl, ?_, ?_, rfl, rfl⟩
  · rcases hb with rfl | ⟨_, rfl⟩ <;> simp
  · rcases hd with rfl | ⟨_, rfl⟩ <;> simp

theorem colOf_slot_ne (hash : Bytes → Nat) (k : Kind) (c : Col) (o : Op) (i : Nat) (hne : o.idx ≠ i) :
    slot (colOf hash k c o) i = slot c i := by
  obtain ⟨bits, data, _, _, e, hb, hd, _⟩ := colOf_writes hash k c o
  rw [e]
  have h1 : Bits.get bits i = Bits.get c.bits i := by
    rcases hb with rfl | ⟨_, rfl⟩
    · rfl
    · exact get_setIfInBounds_ne _ _ _ _ hne
  have h2 : (data[i]?).getD [] = (c.data[i]?).getD [] := by
    rcases hd with rfl | ⟨_, rfl⟩
    · rfl
    · rw [Array.getElem?_setIfInBounds_ne hne]
  exact Prod.ext h1 h2

theorem stepOf_sameShape (hash : Bytes → Nat) (k : Kind) (acc : ApplyAcc) (o : Op) :
    SameShape acc.1 (stepOf hash k acc o).1 := by
  rw [stepOf_eq]; exact colOf_shape hash k acc.1 o

theorem foldl_colOf_shape (hash : Bytes → Nat) (k : Kind) (ops : List Op) (c : Col) :
    SameShape c (ops.foldl (colOf hash k) c) := by
  induction ops generalizing c with
  | nil => exact SameShape.refl c
  | cons o os ih => exact (colOf_shape hash k c o).trans (ih _)

theorem foldStepOf_sameShape (hash : Bytes → Nat) (k : Kind) (ops : List Op) (acc : ApplyAcc) :
    SameShape acc.1 (ops.foldl (stepOf hash k) acc).1 := by
  rw [foldl_stepOf]; exact foldl_colOf_shape hash k ops acc.1

/-! ### the slot of every offset after a pass -/

/-- effect of one op on the raw slot of its own offset in an enum column (a `Merge` does nothing) -/
def enumEffect (hash : Bytes → Nat) (st : Bool × Bytes) (o : Op) : Bool × Bytes :=
  if o.typ = opPut then (true, natToBE 4 (hash (valRaw o.val)))
  else if o.typ = opDelete then (false, st.2)
  else st

/-- effect of one op on the slot of its own offset, by the kind of the column: numeric columns pad an empty slot to their
    width before a merge, string and record columns do not, enum columns store the hash, enum and key columns ignore a merge -/
def effOf (hash : Bytes → Nat) (k : Kind) (m : Bytes → Bytes → Bytes) (st : Bool × Bytes) (o : Op) : Bool × Bytes :=
  match k with
  | .num nk => slotEffect m nk.width st o
  | .str | .record => slotEffect m 0 st o
  | .enum => enumEffect hash st o
  | .key => if o.typ = opPut then (true, valRaw o.val) else if o.typ = opDelete then (false, st.2) else st
  | _ => st

/-- By the kind and the op type (`Delete` = 0, `Put` = 2, `Merge` = 3, anything else) both sides are known: the step sets
    bit and value, or the bit, or nothing. -/
theorem colOf_slot (hash : Bytes → Nat) (k : Kind) (c : Col) (o : Op) (i : Nat)
    (hb : o.idx < c.bits.size) (hd : o.idx < c.data.size) :
    slot (colOf hash k c o) i = if i = o.idx then effOf hash k c.merge (slot c i) o else slot c i := by
  -- the value a merge stores is computed from the slot of the op's own offset
  have hm : ∀ f : Bytes → Bytes,
      (if i = o.idx then (true, c.merge (f (c.data.getD o.idx [])) (valRaw o.val)) else slot c i) =
      if i = o.idx then (true, c.merge (f (slot c i).2) (valRaw o.val)) else slot c i := by
    intro f
    by_cases e : i = o.idx
    · rw [if_pos e, if_pos e, e, getD_eq]; rfl
    · rw [if_neg e, if_neg e]
  cases k
  case bool | index | trigger | sorted => rw [(colOf_not_data hash c o rfl).1]; exact (ite_self _).symm
  case enum | key =>
    obtain ⟨t, j, v⟩ := o
    rcases t with _ | _ | _ | _ | n
    · exact slot_setBit i rfl rfl hb
    · exact (ite_self _).symm
    · exact slot_set i rfl rfl hb hd
    · exact (ite_self _).symm
    · exact (ite_self _).symm
  case num nk =>
    obtain ⟨t, j, v⟩ := o
    rcases t with _ | _ | _ | _ | n
    · exact slot_setBit i rfl rfl hb
    · exact (ite_self _).symm
    · exact slot_set i rfl rfl hb hd
    · exact (slot_set i rfl rfl hb hd).trans (hm (padTo nk.width))
    · exact (ite_self _).symm
  case str | record =>
    obtain ⟨t, j, v⟩ := o
    rcases t with _ | _ | _ | _ | n
    · exact slot_setBit i rfl rfl hb
    · exact (ite_self _).symm
    · exact slot_set i rfl rfl hb hd
    · refine (slot_set i rfl rfl hb hd).trans ((hm id).trans ?_)
      show _ = if i = j then (true, c.merge (padTo 0 (slot c i).2) (valRaw v)) else slot c i
      rw [padTo_zero]; rfl
    · exact (ite_self _).symm

/-- A fold whose step, seen through `view`, changes only the entry of the op's own offset: entry `i` after the fold is the
    fold of the entry effect `E` over the ops addressed to `i`. `P s o` is what the step needs of the state to treat `o`
    (bounds, a fixed merge function); every step keeps it for the ops still to come. -/
theorem foldl_pointwise {σ β : Type} (f : σ → Op → σ) (view : σ → Nat → β) (E : β → Op → β) (P : σ → Op → Prop)
    (keep : ∀ s o o', P s o → P s o' → P (f s o) o')
    (step : ∀ s o i, P s o → view (f s o) i = if i = o.idx then E (view s i) o else view s i)
    (ops : List Op) (s : σ) (i : Nat) (hP : ∀ o ∈ ops, P s o) :
    view (ops.foldl f s) i = (ops.filter (fun o => o.idx = i)).foldl E (view s i) := by
  induction ops generalizing s with
  | nil => rfl
  | cons o os ih =>
    have ho := hP o (List.mem_cons_self ..)
    rw [List.foldl_cons, ih _ (fun x hx => keep s o x ho (hP x (List.mem_cons_of_mem _ hx))), step s o i ho,
      List.filter_cons]
    by_cases e : o.idx = i
    · rw [if_pos e.symm, if_pos (decide_eq_true e)]; rfl
    · rw [if_neg (fun h => e h.symm), if_neg (by simpa using e)]

theorem foldl_colOf_slot (hash : Bytes → Nat) (k : Kind) (ops : List Op) (c : Col) (i : Nat) (hin : InBounds c ops) :
    slot (ops.foldl (colOf hash k) c) i = (ops.filter (fun o => o.idx = i)).foldl (effOf hash k c.merge) (slot c i) :=
  foldl_pointwise (colOf hash k) slot (effOf hash k c.merge)
    (fun s o => s.merge = c.merge ∧ o.idx < s.bits.size ∧ o.idx < s.data.size)
    (fun s o o' h h' => by
      have hs := colOf_shape hash k s o
      rw [hs.merge, hs.bsize, hs.dsize]; exact h')
    (fun s o i h => by rw [← h.1]; exact colOf_slot hash k s o i h.2.1 h.2.2)
    ops c i (fun o ho => ⟨rfl, hin o ho⟩)

theorem stepOf_slot (hash : Bytes → Nat) (k : Kind) (acc : ApplyAcc) (o : Op) (i : Nat)
    (hb : o.idx < acc.1.bits.size) (hd : o.idx < acc.1.data.size) :
    slot (stepOf hash k acc o).1 i = if i = o.idx then effOf hash k acc.1.merge (slot acc.1 i) o else slot acc.1 i := by
  rw [stepOf_eq]; exact colOf_slot hash k acc.1 o i hb hd

theorem foldStepOf_slot (hash : Bytes → Nat) (k : Kind) (ops : List Op) (acc : ApplyAcc) (i : Nat)
    (hin : InBounds acc.1 ops) :
    slot (ops.foldl (stepOf hash k) acc).1 i =
      (ops.filter (fun o => o.idx = i)).foldl (effOf hash k acc.1.merge) (slot acc.1 i) := by
  rw [foldl_stepOf]; exact foldl_colOf_slot hash k ops acc.1 i hin

theorem applyData_slot (hash : Bytes → Nat) (c : Col) (chunk : Nat) (ops : List Op) (i : Nat) (hc : chunk < c.nchunks)
    (hin : InBounds c ops) :
    slot (applyData hash c chunk ops).col i =
      (ops.filter (fun o => o.idx = i)).foldl (effOf hash c.kind c.merge) (slot c i) := by
  rw [applyData_eq hash c chunk ops hc]; exact foldl_colOf_slot hash c.kind ops c i hin

/-- `stepOf hash (.num k)` unfolds to `stepNum k`, which never calls `hash`: any function serves as the instance -/
theorem foldNum_slot (k : NumKind) (ops : List Op) (acc : ApplyAcc) (i : Nat) (hin : InBounds acc.1 ops) :
    slot (ops.foldl (stepNum k) acc).1 i =
      (ops.filter (fun o => o.idx = i)).foldl (slotEffect acc.1.merge k.width) (slot acc.1 i) :=
  foldStepOf_slot (fun _ => 0) (.num k) ops acc i hin

/-! ### what one step leaves in the section and appends -/

theorem opOf_idx (k : Kind) (c : Col) (o : Op) : (opOf k c o).idx = o.idx := by
  unfold opOf
  split
  · cases k <;> first | rfl | (dsimp only; split <;> rfl)
  · rfl

theorem appOf_idx (k : Kind) (c : Col) (o : Op) : ∀ x ∈ appOf k c o, x.idx = o.idx := by
  unfold appOf
  cases k
  case str | record => dsimp only; split <;> simp
  all_goals simp

theorem opOf_of_ne_merge (k : Kind) (c : Col) (o : Op) (h : o.typ ≠ opMerge) : opOf k c o = o := if_neg h

theorem appOf_of_ne_merge (k : Kind) (c : Col) (o : Op) (h : o.typ ≠ opMerge) : appOf k c o = [] := by
  cases k <;> simp [appOf, h]

theorem appOf_of_kind (k : Kind) (hk : k ≠ .str ∧ k ≠ .record) (c : Col) (o : Op) : appOf k c o = [] := by
  cases k
  case str | record => simp at hk
  all_goals rfl

/-! ### the pass -/

theorem rwOps_forall (hash : Bytes → Nat) (k : Kind) (P : Op → Prop) (ops : List Op) (c : Col)
    (h : ∀ c, ∀ o ∈ ops, P (opOf k c o)) : ∀ x ∈ rwOps hash k c ops, P x := by
  induction ops generalizing c with
  | nil => simp [rwOps]
  | cons o os ih =>
    intro x hx
    rcases List.mem_cons.1 hx with rfl | hx
    · exact h c o (by simp)
    · exact ih _ (fun c o ho => h c o (by simp [ho])) x hx

theorem appOps_forall (hash : Bytes → Nat) (k : Kind) (P : Op → Prop) (ops : List Op) (c : Col)
    (h : ∀ c, ∀ o ∈ ops, ∀ x ∈ appOf k c o, P x) : ∀ x ∈ appOps hash k c ops, P x := by
  induction ops generalizing c with
  | nil => simp [appOps]
  | cons o os ih =>
    intro x hx
    rcases List.mem_append.1 hx with hx | hx
    · exact h c o (by simp) x hx
    · exact ih _ (fun c o ho => h c o (by simp [ho])) x hx

theorem rwOps_eq_self (hash : Bytes → Nat) (k : Kind) (ops : List Op) (c : Col) (h : ∀ c, ∀ o ∈ ops, opOf k c o = o) :
    rwOps hash k c ops = ops := by
  induction ops generalizing c with
  | nil => rfl
  | cons o os ih => rw [rwOps, h c o (by simp), ih _ (fun c o ho => h c o (by simp [ho]))]

theorem appOps_eq_nil (hash : Bytes → Nat) (k : Kind) (ops : List Op) (c : Col) (h : ∀ c, ∀ o ∈ ops, appOf k c o = []) :
    appOps hash k c ops = [] := by
  induction ops generalizing c with
  | nil => rfl
  | cons o os ih => rw [appOps, h c o (by simp), ih _ (fun c o ho => h c o (by simp [ho]))]; rfl

theorem applyData_cases (hash : Bytes → Nat) (c : Col) (chunk : Nat) (ops : List Op) :
    applyData hash c chunk ops = { col := c, ops := ops, appended := [], panic := true } ∨
    applyData hash c chunk ops =
      { col := ops.foldl (colOf hash c.kind) c, ops := rwOps hash c.kind c ops, appended := appOps hash c.kind c ops } := by
  by_cases h : chunk < c.nchunks
  · exact .inr (applyData_eq hash c chunk ops h)
  · exact .inl (applyData_of_ge hash c chunk ops (by omega))

theorem applyData_panic (hash : Bytes → Nat) (c : Col) (chunk : Nat) (ops : List Op) :
    (applyData hash c chunk ops).panic = decide (chunk ≥ c.nchunks) := by
  unfold applyData
  split <;> simp [*]

theorem applyData_sameShape (hash : Bytes → Nat) (c : Col) (chunk : Nat) (ops : List Op) :
    SameShape c (applyData hash c chunk ops).col := by
  rcases applyData_cases hash c chunk ops with e | e <;> rw [e]
  · exact SameShape.refl c
  · exact foldl_colOf_shape hash c.kind ops c

theorem applyData_col_nil (hash : Bytes → Nat) (c : Col) (chunk : Nat) : (applyData hash c chunk []).col = c := by
  rcases applyData_cases hash c chunk [] with e | e <;> rw [e] <;> rfl

theorem applyData_ops_nil (hash : Bytes → Nat) (c : Col) (chunk : Nat) : (applyData hash c chunk []).ops = [] := by
  rcases applyData_cases hash c chunk [] with e | e <;> rw [e] <;> rfl

theorem applyData_appended_nil (hash : Bytes → Nat) (c : Col) (chunk : Nat) :
    (applyData hash c chunk []).appended = [] := by
  rcases applyData_cases hash c chunk [] with e | e <;> rw [e] <;> rfl

theorem applyData_append (hash : Bytes → Nat) (c : Col) (chunk : Nat) (a b : List Op) :
    (applyData hash c chunk (a ++ b)).col = (applyData hash (applyData hash c chunk a).col chunk b).col ∧
    (applyData hash c chunk (a ++ b)).ops =
      (applyData hash c chunk a).ops ++ (applyData hash (applyData hash c chunk a).col chunk b).ops ∧
    (applyData hash c chunk (a ++ b)).appended =
      (applyData hash c chunk a).appended ++ (applyData hash (applyData hash c chunk a).col chunk b).appended := by
  by_cases h : chunk < c.nchunks
  · have hs := foldl_colOf_shape hash c.kind a c
    rw [applyData_eq hash c chunk (a ++ b) h, applyData_eq hash c chunk a h,
      applyData_eq hash _ chunk b (by rw [hs.nchunks]; exact h), hs.kind, List.foldl_append, rwOps_append, appOps_append]
    exact ⟨rfl, rfl, rfl⟩
  · have h' : chunk ≥ c.nchunks := by omega
    rw [applyData_of_ge hash c chunk (a ++ b) h', applyData_of_ge hash c chunk a h', applyData_of_ge hash c chunk b h']
    exact ⟨rfl, rfl, rfl⟩

theorem applyData_col_append (hash : Bytes → Nat) (c : Col) (chunk : Nat) (a b : List Op) :
    (applyData hash c chunk (a ++ b)).col = (applyData hash (applyData hash c chunk a).col chunk b).col :=
  (applyData_append hash c chunk a b).1

theorem applyData_ops_append (hash : Bytes → Nat) (c : Col) (chunk : Nat) (a b : List Op) :
    (applyData hash c chunk (a ++ b)).ops =
      (applyData hash c chunk a).ops ++ (applyData hash (applyData hash c chunk a).col chunk b).ops :=
  (applyData_append hash c chunk a b).2.1

theorem applyData_appended_append (hash : Bytes → Nat) (c : Col) (chunk : Nat) (a b : List Op) :
    (applyData hash c chunk (a ++ b)).appended =
      (applyData hash c chunk a).appended ++ (applyData hash (applyData hash c chunk a).col chunk b).appended :=
  (applyData_append hash c chunk a b).2.2

theorem applyData_ops_length (hash : Bytes → Nat) (c : Col) (chunk : Nat) (ops : List Op) :
    (applyData hash c chunk ops).ops.length = ops.length := by
  rcases applyData_cases hash c chunk ops with e | e <;> rw [e]
  exact rwOps_length hash c.kind c ops

theorem applyData_idx (hash : Bytes → Nat) (c : Col) (chunk : Nat) (ops : List Op) (P : Nat → Prop)
    (h : ∀ o ∈ ops, P o.idx) :
    (∀ x ∈ (applyData hash c chunk ops).ops, P x.idx) ∧ (∀ x ∈ (applyData hash c chunk ops).appended, P x.idx) := by
  rcases applyData_cases hash c chunk ops with e | e <;> rw [e]
  · exact ⟨h, by simp⟩
  · exact ⟨rwOps_forall hash _ (fun x => P x.idx) ops c (fun c o ho => by rw [opOf_idx]; exact h o ho),
      appOps_forall hash _ (fun x => P x.idx) ops c (fun c o ho x hx => by rw [appOf_idx _ c o x hx]; exact h o ho)⟩

theorem applyData_slot_frame (hash : Bytes → Nat) (c : Col) (chunk : Nat) (ops : List Op) (i : Nat)
    (h : ∀ o ∈ ops, o.idx ≠ i) : slot (applyData hash c chunk ops).col i = slot c i := by
  rcases applyData_cases hash c chunk ops with e | e <;> rw [e]
  exact foldl_invariant (fun a => slot a i = slot c i) _ ops c rfl
    (fun b a ha hb => (colOf_slot_ne hash c.kind b a i (h a ha)).trans hb)

theorem applyData_of_no_merge (hash : Bytes → Nat) (c : Col) (chunk : Nat) (ops : List Op)
    (h : ∀ o ∈ ops, o.typ ≠ opMerge) :
    (applyData hash c chunk ops).ops = ops ∧ (applyData hash c chunk ops).appended = [] := by
  rcases applyData_cases hash c chunk ops with e | e <;> rw [e]
  · exact ⟨rfl, rfl⟩
  · exact ⟨rwOps_eq_self hash _ ops c (fun c o ho => opOf_of_ne_merge _ c o (h o ho)),
      appOps_eq_nil hash _ ops c (fun c o ho => appOf_of_ne_merge _ c o (h o ho))⟩

theorem applyData_appended_nil_of_kind (hash : Bytes → Nat) (c : Col) (chunk : Nat) (ops : List Op)
    (hk : c.kind ≠ .str ∧ c.kind ≠ .record) : (applyData hash c chunk ops).appended = [] := by
  rcases applyData_cases hash c chunk ops with e | e <;> rw [e]
  exact appOps_eq_nil hash _ ops c (fun c o _ => appOf_of_kind _ hk c o)

/-- a merge function whose result is as long as the delta ("last wins", fixed-width counters in a string column, …)
    never resizes: nothing is appended -/
theorem applyData_appended_nil_of_len (hash : Bytes → Nat) (c : Col) (chunk : Nat) (ops : List Op)
    (hm : ∀ v d, (c.merge v d).length = d.length) : (applyData hash c chunk ops).appended = [] := by
  rcases applyData_cases hash c chunk ops with e | e <;> rw [e]
  show appOps hash c.kind c ops = []
  clear e
  generalize c.kind = k
  induction ops generalizing c with
  | nil => rfl
  | cons o os ih =>
    have h0 : appOf k c o = [] := by
      unfold appOf
      cases k <;> first | rfl | exact if_neg (fun h => h.2 (hm _ _))
    rw [appOps, h0, ih _ (by rw [(colOf_shape hash k c o).merge]; exact hm)]; rfl

/-! ### which kinds rewrite a `Merge` -/

theorem opOf_typ_ne_merge (k : Kind) (hk : (∃ nk, k = .num nk) ∨ k = .str ∨ k = .record) (c : Col) (o : Op) :
    (opOf k c o).typ ≠ opMerge := by
  unfold opOf
  by_cases h : o.typ = opMerge
  · rw [if_pos h]
    rcases hk with ⟨nk, rfl⟩ | rfl | rfl
    · exact fun e => nomatch e
    all_goals (dsimp only; split <;> exact fun e => nomatch e)
  · rw [if_neg h]; exact h

theorem opOf_of_kind (k : Kind) (hk : (∀ nk, k ≠ .num nk) ∧ k ≠ .str ∧ k ≠ .record) (c : Col) (o : Op) :
    opOf k c o = o := by
  cases k
  case num nk => exact absurd rfl (hk.1 nk)
  case str => exact absurd rfl hk.2.1
  case record => exact absurd rfl hk.2.2
  all_goals exact ite_self _

theorem applyData_ops_typ_ne_merge (hash : Bytes → Nat) (c : Col) (chunk : Nat) (ops : List Op)
    (hk : (∃ nk, c.kind = .num nk) ∨ c.kind = .str ∨ c.kind = .record) (hc : chunk < c.nchunks) :
    ∀ o ∈ (applyData hash c chunk ops).ops, o.typ ≠ opMerge := by
  rw [applyData_eq hash c chunk ops hc]
  exact rwOps_forall hash _ (fun x => x.typ ≠ opMerge) ops c (fun c' o _ => opOf_typ_ne_merge _ hk c' o)

theorem applyData_ops_of_kind (hash : Bytes → Nat) (c : Col) (chunk : Nat) (ops : List Op)
    (hk : (∀ nk, c.kind ≠ .num nk) ∧ c.kind ≠ .str ∧ c.kind ≠ .record) : (applyData hash c chunk ops).ops = ops := by
  rcases applyData_cases hash c chunk ops with e | e <;> rw [e]
  exact rwOps_eq_self hash _ ops c (fun c' o _ => opOf_of_kind _ hk c' o)

/-! ### string and record columns -/

theorem colOf_str (hash : Bytes → Nat) (k : Kind) (hk : k = .str ∨ k = .record) (c : Col) (o : Op) :
    colOf hash k c o =
      if o.typ = opPut then
        { c with bits := c.bits.setIfInBounds o.idx true, data := c.data.setIfInBounds o.idx (valRaw o.val) }
      else if o.typ = opMerge then
        { c with bits := c.bits.setIfInBounds o.idx true,
                 data := c.data.setIfInBounds o.idx (c.merge (c.data.getD o.idx []) (valRaw o.val)) }
      else if o.typ = opDelete then { c with bits := c.bits.setIfInBounds o.idx false }
      else c := by
  rcases hk with rfl | rfl <;> rfl

theorem opOf_str (k : Kind) (hk : k = .str ∨ k = .record) (c : Col) (o : Op) :
    opOf k c o =
      if o.typ = opMerge then
        if (c.merge (c.data.getD o.idx []) (valRaw o.val)).length = (valRaw o.val).length then
          swapInPlace o (.str (c.merge (c.data.getD o.idx []) (valRaw o.val)))
        else markSkip o
      else o := by
  rcases hk with rfl | rfl <;> rfl

theorem appOf_str (k : Kind) (hk : k = .str ∨ k = .record) (c : Col) (o : Op) :
    appOf k c o =
      if o.typ = opMerge ∧ (c.merge (c.data.getD o.idx []) (valRaw o.val)).length ≠ (valRaw o.val).length then
        [⟨opPut, o.idx, .str (c.merge (c.data.getD o.idx []) (valRaw o.val))⟩]
      else [] := by
  rcases hk with rfl | rfl <;> rfl

end ColumnVerif.Store
