import ColumnVerif.Conc.Invariants
import ColumnVerif.Conc.SnapInvariants
/-!
# Progress lemmas for the two protocol machines (property C18)

Helpers for `Props/C18.lean`: enabledness of the steps of a thread (`Moves`), the extra invariant
the progress argument needs (`InvRM`: every registered reader is inside a read section), the termination
measures and the step-counting runs.
-/

namespace ColumnVerif.Progress

/-! ### sums over a finite list of thread ids -/

theorem sum_map_congr {f g : Nat → Nat} {ts : List Nat} (h : ∀ u ∈ ts, g u = f u) :
    (ts.map g).sum = (ts.map f).sum := by
  induction ts with
  | nil => rfl
  | cons a l ih =>
    simp only [List.map_cons, List.sum_cons]
    rw [h a (by simp), ih (fun u hu => h u (by simp [hu]))]

theorem sum_map_update {f g : Nat → Nat} {t : Nat} (h : ∀ u, u ≠ t → g u = f u) :
    ∀ ts : List Nat, ts.Nodup → t ∈ ts → (ts.map g).sum + f t = (ts.map f).sum + g t := by
  intro ts
  induction ts with
  | nil => intro _ hm; simp at hm
  | cons a l ih =>
    intro hnd hm
    have hnd' := List.nodup_cons.mp hnd
    simp only [List.map_cons, List.sum_cons]
    by_cases hat : a = t
    · subst hat
      have : (l.map g).sum = (l.map f).sum :=
        sum_map_congr (fun u hu => h u (fun e => hnd'.1 (e ▸ hu)))
      omega
    · have hm' : t ∈ l := by
        rcases List.mem_cons.mp hm with e | e
        · exact absurd e.symm hat
        · exact e
      have := ih hnd'.2 hm'
      rw [h a hat]
      omega

end ColumnVerif.Progress

/-! ## A. the commit machine -/

namespace ColumnVerif.Conc
open ColumnVerif.Progress

variable {cfg : ProtoCfg} {merge : Nat → Nat → Nat} {w0 w w' : W}

/-! ### every registered reader is inside a read section -/

structure InvRM (w : W) : Prop where
  /-- a registered reader of `c` is at `rheld c` / `readA c _` / `readAB c _ _` -/
  rpc : ∀ t c, t ∈ w.readers c → rchunk (w.pc t) = some c
  /-- a thread is registered at most once -/
  nodup : ∀ c, (w.readers c).Nodup

theorem InvRM.frame (h : InvRM w) (hr : w'.readers = w.readers)
    (hrc : ∀ u, rchunk (w'.pc u) = rchunk (w.pc u)) : InvRM w' := by
  constructor
  · intro t c; rw [hr, hrc]; exact h.rpc t c
  · intro c; rw [hr]; exact h.nodup c

theorem init_invRM (hi : Init w) : InvRM w := by
  constructor
  · intro t c h; rw [hi.readers] at h; simp at h
  · intro c; rw [hi.readers]; simp

theorem step_invRM (h : InvRM w) (hs : Step cfg merge w w') : InvRM w' := by
  cases hs with
  | racquire t c hpc htodo hh =>
    have hnot : ∀ d, t ∉ w.readers d := fun d hm => by
      have := h.rpc t d hm
      rw [hpc] at this; cases this
    refine ⟨fun u d hu => ?_, fun d => ?_⟩
    · rcases mem_push.mp hu with ⟨rfl, rfl⟩ | hu
      · simp only [setPc_self]; rfl
      · have hut : u ≠ t := fun e => hnot d (e ▸ hu)
        simp only [setPc_ne _ _ hut]; exact h.rpc u d hu
    · by_cases hdc : d = c
      · subst hdc; simp only [if_true]; exact List.nodup_cons.mpr ⟨hnot d, h.nodup d⟩
      · simp only [hdc, if_false]; exact h.nodup d
  | rrelease t c a b hpc =>
    refine ⟨fun u d hu => ?_, fun d => ?_⟩
    · have hm : u ≠ t ∧ u ∈ w.readers d := by
        by_cases hdc : d = c
        · subst hdc; simp only [if_true] at hu; exact (h.nodup d).mem_erase_iff.mp hu
        · simp only [hdc, if_false] at hu
          refine ⟨fun e => hdc ?_, hu⟩
          have := h.rpc u d hu
          rw [e, hpc] at this; cases this; rfl
      simp only [setPc_ne _ _ hm.1]; exact h.rpc u d hm.2
    · by_cases hdc : d = c
      · subst hdc; simp only [if_true]; exact (h.nodup d).erase t
      · simp only [hdc, if_false]; exact h.nodup d
  | _ => exact h.frame rfl (proj_setPc _ (by assumption))

theorem reach_invRM (hi : Init w0) (hr : Reach cfg merge w0 w) : InvRM w := by
  induction hr with
  | refl => exact init_invRM hi
  | step _ hs ih => exact step_invRM ih hs

/-! ### enabledness -/

/-- thread `t` has an enabled step: some step of the machine changes its program counter
    (every `Step` constructor changes the pc of exactly the acting thread: `step_actor`) -/
def Moves (cfg : ProtoCfg) (merge : Nat → Nat → Nat) (w : W) (t : Nat) : Prop :=
  ∃ w', Step cfg merge w w' ∧ w'.pc t ≠ w.pc t

theorem eq_of_setPc_ne {t u : Nat} {p : PC} (h : setPc w t p u ≠ w.pc u) : u = t :=
  Decidable.byContradiction fun e => h (setPc_ne w p e)

theorem setPc_moves {t : Nat} {p q : PC} (hq : w.pc t = q) (hne : p ≠ q := by simp) :
    setPc w t p t ≠ w.pc t := by
  rw [setPc_self, hq]; exact hne

theorem step_actor (hs : Step cfg merge w w') :
    ∃ t, w'.pc t ≠ w.pc t ∧ ∀ u, u ≠ t → w'.pc u = w.pc u ∧ w'.todo u = w.todo u := by
  cases hs with
  | release t c id hpc => exact ⟨t, setPc_moves hpc, fun u hu => ⟨setPc_ne w _ hu, if_neg hu⟩⟩
  | _ => exact ⟨_, setPc_moves (by assumption), fun u hu => ⟨setPc_ne w _ hu, rfl⟩⟩

theorem busy_moves {t : Nat} (hi : w.pc t ≠ .idle) (hp : ∀ c id, w.pc t ≠ .pre c id) :
    Moves cfg merge w t := by
  cases hq : w.pc t with
  | idle => exact absurd hq hi
  | pre c id => exact absurd hq (hp c id)
  | held d id =>
    cases id with
    | none => exact ⟨_, Step.draw w t d hq, setPc_moves hq⟩
    | some id => exact ⟨_, Step.load w t d id hq, setPc_moves hq⟩
  | loaded d id seen => exact ⟨_, Step.storeAcc w t d id seen hq, setPc_moves hq⟩
  | wroteAcc d id => exact ⟨_, Step.writeA w t d id hq, setPc_moves hq⟩
  | wroteA d id => exact ⟨_, Step.writeB w t d id hq, setPc_moves hq⟩
  | wroteB d id => exact ⟨_, Step.emit w t d id hq, setPc_moves hq⟩
  | emitted d id => exact ⟨_, Step.release w t d id hq, setPc_moves hq⟩
  | rheld d => exact ⟨_, Step.rreadA w t d hq, setPc_moves hq⟩
  | readA d a => exact ⟨_, Step.rreadB w t d a hq, setPc_moves hq⟩
  | readAB d a b => exact ⟨_, Step.rrelease w t d a b hq, setPc_moves hq⟩

theorem wsection_moves {t c : Nat} (h : wchunk (w.pc t) = some c) : Moves cfg merge w t :=
  busy_moves (fun e => by rw [e] at h; cases h) (fun _ _ e => by rw [e] at h; cases h)

theorem rsection_moves {t c : Nat} (h : rchunk (w.pc t) = some c) : Moves cfg merge w t :=
  busy_moves (fun e => by rw [e] at h; cases h) (fun _ _ e => by rw [e] at h; cases h)

theorem idle_moves {t : Nat} (hp : w.pc t = .idle) (ht : w.todo t ≠ []) :
    Moves cfg merge w t := by
  cases hl : w.todo t with
  | nil => exact absurd hl ht
  | cons c rest =>
    cases hc : cfg.idInsideLatch with
    | true => exact ⟨_, Step.begin w t c rest hp hl hc, setPc_moves hp⟩
    | false => exact ⟨_, Step.beginEarlyId w t c rest hp hl hc, setPc_moves hp⟩

theorem idle_reader_moves {cfg : ProtoCfg} {merge : Nat → Nat → Nat} {w : W} {t c : Nat}
    (hp : w.pc t = .idle) (ht : w.todo t = []) (hh : w.holder c = none) : Moves cfg merge w t :=
  ⟨_, Step.racquire w t c hp ht hh, setPc_moves hp⟩

theorem moves_pre_iff {t c : Nat} {id : Option Nat} (hp : w.pc t = .pre c id) :
    Moves cfg merge w t ↔ (w.holder c = none ∧ w.readers c = []) := by
  constructor
  · rintro ⟨w', hs, hne⟩
    -- the step is taken by `t`, from `.pre c id`: only `acquire` starts there
    cases hs with
    | acquire u d i hpc hh hr =>
      obtain rfl := eq_of_setPc_ne hne
      rw [hp] at hpc; cases hpc; exact ⟨hh, hr⟩
    | _ =>
      obtain rfl := eq_of_setPc_ne hne
      rw [hp] at *; contradiction
  · rintro ⟨hh, hr⟩
    exact ⟨_, Step.acquire w t c id hp hh hr, setPc_moves hp⟩

/-! ### termination measure -/

/-- own steps of a thread until it is idle again -/
def rem : PC → Nat
  | .idle => 0
  | .pre _ none => 8
  | .pre _ (some _) => 7
  | .held _ none => 7
  | .held _ (some _) => 6
  | .loaded _ _ _ => 5
  | .wroteAcc _ _ => 4
  | .wroteA _ _ => 3
  | .wroteB _ _ => 2
  | .emitted _ _ => 1
  | .rheld _ => 3
  | .readA _ _ => 2
  | .readAB _ _ _ => 1

/-- 1 while the head of `todo` is being committed (from `begin` to `release`; the chunk is popped
    from `todo` only by `release`) -/
def busy : PC → Nat
  | .pre _ _ => 1
  | .held _ _ => 1
  | .loaded _ _ _ => 1
  | .wroteAcc _ _ => 1
  | .wroteA _ _ => 1
  | .wroteB _ _ => 1
  | .emitted _ _ => 1
  | _ => 0

/-- per-thread measure: 9 own steps for every chunk not yet begun (`begin` + 8 steps from `pre` to
    idle) + the steps left in the current section -/
def tmu (w : W) (t : Nat) : Nat := 9 * ((w.todo t).length - busy (w.pc t)) + rem (w.pc t)

/-- the measure of a finite set of threads -/
def mu (ts : List Nat) (w : W) : Nat := (ts.map (tmu w)).sum

theorem tmu_congr {u : Nat} (hp : w'.pc u = w.pc u) (ht : w'.todo u = w.todo u) :
    tmu w' u = tmu w u := by
  unfold tmu; rw [hp, ht]

/-- a step inside a section: same `todo`, same `busy`, one step less to go (in the form `step_tmu`
    states it) -/
theorem tmu_dec {t : Nat} {p q : PC} {P : Prop} (hq : w.pc t = q) (hp : w'.pc t = p)
    (ht : w'.todo t = w.todo t) (hb : busy p = busy q := by rfl)
    (hr : rem p + 1 = rem q := by rfl) : tmu w' t + 1 ≤ tmu w t ∧ (P → tmu w' t + 1 = tmu w t) := by
  unfold tmu; rw [ht, hp, hq, hb]; omega

theorem step_tmu (hT : InvT w0 w) (hs : Step cfg merge w w') :
    ∃ t, w'.pc t ≠ w.pc t ∧ (∀ u, u ≠ t → w'.pc u = w.pc u ∧ tmu w' u = tmu w u) ∧
      (((∃ c, w'.pc t = .rheld c) ∧ tmu w' t = tmu w t + 3) ∨
       ((∀ c, w'.pc t ≠ .rheld c) ∧ tmu w' t + 1 ≤ tmu w t ∧
          (cfg.idInsideLatch = true → tmu w' t + 1 = tmu w t))) := by
  obtain ⟨a, hch, hoth⟩ := step_actor hs
  refine ⟨a, hch, fun u hu => ⟨(hoth u hu).1, tmu_congr (hoth u hu).1 (hoth u hu).2⟩, ?_⟩
  clear hoth
  -- `a` is the thread of the constructor; the sections it has no special case for are `tmu_dec`
  cases hs with
  | begin t c rest hpc htodo _ =>
    obtain rfl := eq_of_setPc_ne hch
    simp only [tmu, setPc_self, hpc, htodo, rem, busy, List.length_cons]
    exact Or.inr ⟨nofun, by omega, fun _ => by omega⟩
  | beginEarlyId t c rest hpc htodo hc =>
    obtain rfl := eq_of_setPc_ne hch
    simp only [tmu, setPc_self, hpc, htodo, rem, busy, List.length_cons, hc]
    exact Or.inr ⟨nofun, by omega, nofun⟩
  | acquire t c id hpc _ _ =>
    obtain rfl := eq_of_setPc_ne hch
    refine Or.inr ⟨fun d e => ?_, tmu_dec hpc (setPc_self w a _) rfl (by rfl) (by cases id <;> rfl)⟩
    simp only [setPc_self] at e; cases e
  | release t c id hpc =>
    obtain rfl := eq_of_setPc_ne hch
    obtain ⟨rest, hrest⟩ := hT.head a c (by rw [hpc]; rfl)
    simp only [tmu, setPc_self, hpc, hrest, rem, busy, if_true, List.tail_cons, List.length_cons]
    exact Or.inr ⟨nofun, by omega, fun _ => by omega⟩
  | racquire t c hpc htodo _ =>
    obtain rfl := eq_of_setPc_ne hch
    simp only [tmu, setPc_self, hpc, htodo, rem, busy, List.length_nil]
    exact Or.inl ⟨⟨c, rfl⟩, trivial⟩
  | _ =>
    obtain rfl := eq_of_setPc_ne hch
    refine Or.inr ⟨fun d e => ?_, tmu_dec (by assumption) (setPc_self w a _) rfl⟩
    simp only [setPc_self] at e; cases e

/-! ### step-counting runs -/

/-- A run from `w0` in which the steps of the threads in `ts` are counted:
    `n` = steps taken by threads in `ts`, `r` = how many of them are `racquire` (a reader entering),
    `k` = steps taken by other threads. The acting thread of a step is the one whose pc changes
    (`step_actor`); a step that moves a thread to `rheld c` is `racquire`. -/
inductive RunC (cfg : ProtoCfg) (merge : Nat → Nat → Nat) (ts : List Nat) (w0 : W) :
    Nat → Nat → Nat → W → Prop
  | refl : RunC cfg merge ts w0 0 0 0 w0
  | other {n r k w w'} : RunC cfg merge ts w0 n r k w → Step cfg merge w w' →
      (∀ t ∈ ts, w'.pc t = w.pc t) → RunC cfg merge ts w0 n r (k + 1) w'
  | work {n r k w w' t} : RunC cfg merge ts w0 n r k w → Step cfg merge w w' → t ∈ ts →
      w'.pc t ≠ w.pc t → (∀ c, w'.pc t ≠ .rheld c) → RunC cfg merge ts w0 (n + 1) r k w'
  | read {n r k w w' t c} : RunC cfg merge ts w0 n r k w → Step cfg merge w w' → t ∈ ts →
      w'.pc t ≠ w.pc t → w'.pc t = .rheld c → RunC cfg merge ts w0 (n + 1) (r + 1) k w'

theorem RunC.reach {ts : List Nat} {n r k : Nat} (h : RunC cfg merge ts w0 n r k w) :
    Reach cfg merge w0 w := by
  induction h with
  | refl => exact Reach.refl
  | other _ hs _ ih => exact Reach.step ih hs
  | work _ hs _ _ _ ih => exact Reach.step ih hs
  | read _ hs _ _ _ ih => exact Reach.step ih hs

theorem reach_runC (ts : List Nat) (h : Reach cfg merge w0 w) :
    ∃ n r k, RunC cfg merge ts w0 n r k w := by
  induction h with
  | refl => exact ⟨0, 0, 0, RunC.refl⟩
  | @step w w' _ hs ih =>
    obtain ⟨n, r, k, hrun⟩ := ih
    obtain ⟨t, hch, hoth⟩ := step_actor hs
    by_cases hm : t ∈ ts
    · by_cases hr : ∃ c, w'.pc t = .rheld c
      · obtain ⟨c, hc⟩ := hr
        exact ⟨n + 1, r + 1, k, RunC.read hrun hs hm hch hc⟩
      · exact ⟨n + 1, r, k, RunC.work hrun hs hm hch (fun c hc => hr ⟨c, hc⟩)⟩
    · refine ⟨n, r, k + 1, RunC.other hrun hs (fun u hu => (hoth u ?_).1)⟩
      rintro rfl; exact hm hu

theorem RunC.reads_le {cfg : ProtoCfg} {merge : Nat → Nat → Nat} {ts : List Nat} {w0 w : W} {n r k : Nat}
    (h : RunC cfg merge ts w0 n r k w) : r ≤ n := by
  induction h with
  | refl => exact Nat.le_refl _
  | other _ _ _ ih => exact ih
  | work _ _ _ _ _ ih => omega
  | read _ _ _ _ _ ih => omega

theorem mu_init (hi : Init w) (ts : List Nat) :
    mu ts w = 9 * (ts.map (fun t => (w.todo t).length)).sum := by
  unfold mu
  induction ts with
  | nil => rfl
  | cons a l ih =>
    have : tmu w a = 9 * (w.todo a).length := by unfold tmu; rw [hi.pc]; rfl
    simp only [List.map_cons, List.sum_cons, ih, this]; omega

theorem mu_step {ts : List Nat} {t : Nat} (hoth : ∀ u, u ≠ t → tmu w' u = tmu w u) :
    (t ∉ ts → mu ts w' = mu ts w) ∧
      (ts.Nodup → t ∈ ts → mu ts w' + tmu w t = mu ts w + tmu w' t) :=
  ⟨fun hm => sum_map_congr fun u hu => hoth u (by rintro rfl; exact hm hu),
    fun hts hm => sum_map_update hoth ts hts hm⟩

theorem runC_measure {ts : List Nat} {n r k : Nat} (hi : Init w0) (hts : ts.Nodup)
    (h : RunC cfg merge ts w0 n r k w) :
    n + mu ts w ≤ mu ts w0 + 4 * r ∧
      (cfg.idInsideLatch = true → n + mu ts w = mu ts w0 + 4 * r) := by
  induction h with
  | refl => exact ⟨by omega, fun _ => by omega⟩
  | @other n r k w w' hrun hs hsame ih =>
    obtain ⟨a, hch, hoth, _⟩ := step_tmu (reach_inv hi hrun.reach).todo hs
    rw [(mu_step fun u hu => (hoth u hu).2).1 fun hm => hch (hsame a hm)]; exact ih
  | @work n r k w w' t hrun hs hm hne hnr ih =>
    obtain ⟨a, _, hoth, hcase⟩ := step_tmu (reach_inv hi hrun.reach).todo hs
    obtain rfl : t = a := Decidable.byContradiction fun e => hne (hoth t e).1
    have hsum := (mu_step fun u hu => (hoth u hu).2).2 hts hm
    rcases hcase with ⟨⟨c, hc⟩, _⟩ | ⟨_, hle, heq⟩
    · exact absurd hc (hnr c)
    · exact ⟨by omega, fun hc => by have := heq hc; have := ih.2 hc; omega⟩
  | @read n r k w w' t c hrun hs hm hne hc ih =>
    obtain ⟨a, _, hoth, hcase⟩ := step_tmu (reach_inv hi hrun.reach).todo hs
    obtain rfl : t = a := Decidable.byContradiction fun e => hne (hoth t e).1
    have hsum := (mu_step fun u hu => (hoth u hu).2).2 hts hm
    rcases hcase with ⟨_, heq⟩ | ⟨hnr, _⟩
    · exact ⟨by omega, fun hc => by have := ih.2 hc; omega⟩
    · exact absurd hc (hnr c)

end ColumnVerif.Conc

/-! ## B. the snapshot machine -/

namespace ColumnVerif.Conc.Snap
open ColumnVerif.Progress

/-- writer `t` has an enabled step: some step of the machine changes its program counter -/
def Moves (w : W) (t : Nat) : Prop := ∃ w', Step w w' ∧ w'.pc t ≠ w.pc t

/-- the snapshot thread has an enabled step -/
def SMoves (w : W) : Prop := ∃ w', Step w w' ∧ w'.spc ≠ w.spc

/-! ### termination measure -/

/-- own steps of a writer until it is idle again -/
def rem : WPC → Nat
  | .idle => 0
  | .pre _ => 6
  | .held _ => 5
  | .drawn _ _ => 4
  | .applied _ _ => 3
  | .sawRecorder _ _ _ => 2
  | .recorded _ _ => 1

/-- 1 while the head of `todo` is being committed (from `begin` to `release`) -/
def busy : WPC → Nat
  | .idle => 0
  | _ => 1

/-- per-writer measure: 7 own steps for every chunk not yet begun + the steps left in the current one -/
def tmu (w : W) (t : Nat) : Nat := 7 * ((w.todo t).length - busy (w.pc t)) + rem (w.pc t)

/-- own steps of the snapshot thread until `copied` (0 before `sOpen`: the chunk list is chosen there) -/
def srem : SPC → Nat
  | .notStarted => 0
  | .opened todo => todo.length + 2
  | .closed => 1
  | .copied => 0

def mu (ts : List Nat) (w : W) : Nat := (ts.map (tmu w)).sum + srem w.spc

/-! ### what one step does -/

/-- the step of writer `t` from `q` to `p`; `hmu` is `tmu w' t + 1 = tmu w t` spelled out -/
theorem writer_step {w w' : W} {t : Nat} {q p : WPC} (hq : w.pc t = q) (hne : p ≠ q)
    (hmu : 7 * ((w'.todo t).length - busy p) + rem p + 1 = 7 * ((w.todo t).length - busy q) + rem q)
    (guard : ∀ c, q = .pre c → w.holder c = none) (hpc : w'.pc = setPc w t p := by rfl)
    (htodo : ∀ u, u ≠ t → w'.todo u = w.todo u := by exact fun _ _ => rfl)
    (hspc : w'.spc = w.spc := by rfl) :
    ∃ t, w'.spc = w.spc ∧ w'.pc t ≠ w.pc t ∧
      (∀ u, u ≠ t → w'.pc u = w.pc u ∧ tmu w' u = tmu w u) ∧ tmu w' t + 1 = tmu w t ∧
      ∀ c, w.pc t = .pre c → w.holder c = none := by
  have hp : w'.pc t = p := by rw [hpc, setPc_self]
  refine ⟨t, hspc, by rwa [hp, hq], fun u hu => ?_, by unfold tmu; rwa [hp, hq], hq ▸ guard⟩
  have hu' : w'.pc u = w.pc u := by rw [hpc, setPc_ne w p hu]
  exact ⟨hu', by unfold tmu; rw [hu', htodo u hu]⟩

theorem opened_ne (c : Nat) (rest : List Nat) : SPC.opened rest ≠ .opened (c :: rest) :=
  fun e => absurd (congrArg List.length (SPC.opened.inj e)) (Nat.ne_of_lt (Nat.lt_succ_self _))

theorem snap_step {w w' : W} {s s' : SPC} (hs : w.spc = s) (hne : s' ≠ s)
    (hcase : (s = .notStarted ∧ ∃ chunks, s' = .opened chunks) ∨
      (s ≠ .notStarted ∧ s' ≠ .notStarted ∧ srem s' + 1 = srem s))
    (guard : ∀ c rest, s = .opened (c :: rest) → w.holder c = none) (hs' : w'.spc = s' := by rfl)
    (hpc : w'.pc = w.pc := by rfl) (htodo : w'.todo = w.todo := by rfl) :
    (∀ u, w'.pc u = w.pc u ∧ tmu w' u = tmu w u) ∧ w'.spc ≠ w.spc ∧
      ((w.spc = .notStarted ∧ ∃ chunks, w'.spc = .opened chunks) ∨
       (w.spc ≠ .notStarted ∧ w'.spc ≠ .notStarted ∧ srem w'.spc + 1 = srem w.spc)) ∧
      ∀ c rest, w.spc = .opened (c :: rest) → w.holder c = none := by
  rw [hs, hs']
  exact ⟨fun u => ⟨by rw [hpc], by unfold tmu; rw [hpc, htodo]⟩, hne, hcase, guard⟩

/-- The last conjunct on either side is the one guard there is: `acquire` and `sRead` need the latch to be free. -/
theorem step_actor {w w' : W} (hs : Step w w') :
    (∃ t, w'.spc = w.spc ∧ w'.pc t ≠ w.pc t ∧
        (∀ u, u ≠ t → w'.pc u = w.pc u ∧ tmu w' u = tmu w u) ∧ tmu w' t + 1 = tmu w t ∧
        ∀ c, w.pc t = .pre c → w.holder c = none) ∨
    ((∀ u, w'.pc u = w.pc u ∧ tmu w' u = tmu w u) ∧ w'.spc ≠ w.spc ∧
        ((w.spc = .notStarted ∧ ∃ chunks, w'.spc = .opened chunks) ∨
         (w.spc ≠ .notStarted ∧ w'.spc ≠ .notStarted ∧ srem w'.spc + 1 = srem w.spc)) ∧
        ∀ c rest, w.spc = .opened (c :: rest) → w.holder c = none) := by
  cases hs with
  | begin t c rest hpc htodo =>
    -- `7 * (|rest| + 1 - 1) + 6 + 1 = 7 * (|rest| + 1 - 0) + 0`
    exact Or.inl (writer_step (t := t) (p := .pre c) hpc nofun
      (by rw [htodo]; exact (Nat.mul_succ 7 _).symm) nofun)
  | acquire t c hpc hh =>
    exact Or.inl (writer_step (t := t) (p := .held c) hpc nofun rfl fun d e => WPC.pre.inj e ▸ hh)
  | draw t c hpc => exact Or.inl (writer_step (t := t) (p := .drawn c _) hpc nofun rfl nofun)
  | apply t c id hpc => exact Or.inl (writer_step (t := t) (p := .applied c id) hpc nofun rfl nofun)
  | loadRecorder t c id hpc =>
    exact Or.inl (writer_step (t := t) (p := .sawRecorder c id _) hpc nofun rfl nofun)
  | appendLog t c id hpc => exact Or.inl (writer_step (t := t) (p := .recorded c id) hpc nofun rfl nofun)
  | skipLog t c id hpc => exact Or.inl (writer_step (t := t) (p := .recorded c id) hpc nofun rfl nofun)
  | release t c id hpc =>
    -- `7 * (|tail| - 0) + 0 + 1 = 7 * (|todo| - 1) + 1`, also for an empty `todo`
    have hmu : 7 * (List.length (if t = t then (w.todo t).tail else w.todo t) - 0) + 0 + 1 =
        7 * ((w.todo t).length - 1) + 1 := by rw [if_pos rfl, List.length_tail]; rfl
    exact Or.inl (writer_step (t := t) (p := .idle) hpc nofun hmu nofun
      (htodo := fun u hu => if_neg hu))
  | sOpen chunks hspc =>
    exact Or.inr (snap_step (s' := .opened chunks) hspc nofun (Or.inl ⟨rfl, chunks, rfl⟩) nofun)
  | sRead c rest hspc hh =>
    exact Or.inr (snap_step (s' := .opened rest) hspc (opened_ne c rest)
      (Or.inr ⟨nofun, nofun, rfl⟩) fun d r e => by cases e; exact hh)
  | sClose hspc =>
    exact Or.inr (snap_step (s' := .closed) hspc nofun (Or.inr ⟨nofun, nofun, rfl⟩) nofun)
  | sCopy hspc =>
    exact Or.inr (snap_step (s' := .copied) hspc nofun (Or.inr ⟨nofun, nofun, rfl⟩) nofun)

theorem step_of_pc_ne {w w' : W} {t : Nat} (hs : Step w w') (hne : w'.pc t ≠ w.pc t) :
    w'.spc = w.spc ∧ (∀ u, u ≠ t → w'.pc u = w.pc u ∧ tmu w' u = tmu w u) ∧
      tmu w' t + 1 = tmu w t ∧ ∀ c, w.pc t = .pre c → w.holder c = none := by
  rcases step_actor hs with ⟨a, hspc, _, hoth, h⟩ | ⟨hall, _⟩
  · have : t = a := Decidable.byContradiction fun e => hne (hoth t e).1
    exact this ▸ ⟨hspc, hoth, h⟩
  · exact absurd (hall t).1 hne

theorem step_of_spc_ne {w w' : W} (hs : Step w w') (hne : w'.spc ≠ w.spc) :
    (∀ u, w'.pc u = w.pc u ∧ tmu w' u = tmu w u) ∧
      ((w.spc = .notStarted ∧ ∃ chunks, w'.spc = .opened chunks) ∨
       (w.spc ≠ .notStarted ∧ w'.spc ≠ .notStarted ∧ srem w'.spc + 1 = srem w.spc)) ∧
      ∀ c rest, w.spc = .opened (c :: rest) → w.holder c = none := by
  rcases step_actor hs with ⟨_, hspc, _⟩ | ⟨hall, _, h⟩
  · exact absurd hspc hne
  · exact ⟨hall, h⟩

/-! ### enabledness -/

theorem moves_of_step {w w' : W} {t : Nat} {q p : WPC} (hs : Step w w') (hq : w.pc t = q)
    (hp : w'.pc t = p) (hne : p ≠ q) : Moves w t :=
  ⟨w', hs, by rwa [hp, hq]⟩

theorem writer_moves (w : W) (t : Nat) :
    Moves w t ∨ (w.pc t = .idle ∧ w.todo t = []) ∨ ∃ c, w.pc t = .pre c := by
  cases hp : w.pc t with
  | idle =>
    cases hl : w.todo t with
    | nil => exact Or.inr (Or.inl ⟨rfl, rfl⟩)
    | cons c rest => exact Or.inl (moves_of_step (.begin w t c rest hp hl) hp (setPc_self ..) nofun)
  | pre c => exact Or.inr (Or.inr ⟨c, rfl⟩)
  | held d => exact Or.inl (moves_of_step (.draw w t d hp) hp (setPc_self ..) nofun)
  | drawn d id => exact Or.inl (moves_of_step (.apply w t d id hp) hp (setPc_self ..) nofun)
  | applied d id => exact Or.inl (moves_of_step (.loadRecorder w t d id hp) hp (setPc_self ..) nofun)
  | sawRecorder d id on =>
    cases on with
    | true => exact Or.inl (moves_of_step (.appendLog w t d id hp) hp (setPc_self ..) nofun)
    | false => exact Or.inl (moves_of_step (.skipLog w t d id hp) hp (setPc_self ..) nofun)
  | recorded d id => exact Or.inl (moves_of_step (.release w t d id hp) hp (setPc_self ..) nofun)

theorem latch_moves {w : W} {t c : Nat} (h : InLatch (w.pc t) c) : Moves w t := by
  rcases writer_moves w t with hm | ⟨hp, _⟩ | ⟨d, hp⟩
  · exact hm
  · rw [hp] at h; cases h
  · rw [hp] at h; cases h

theorem moves_pre_iff {w : W} {t c : Nat} (hp : w.pc t = .pre c) :
    Moves w t ↔ w.holder c = none :=
  ⟨fun ⟨_, hs, hne⟩ => (step_of_pc_ne hs hne).2.2.2 c hp,
    fun hh => moves_of_step (.acquire w t c hp hh) hp (setPc_self ..) nofun⟩

theorem smoves_opened_iff {w : W} {c : Nat} {rest : List Nat} (hp : w.spc = .opened (c :: rest)) :
    SMoves w ↔ w.holder c = none :=
  ⟨fun ⟨_, hs, hne⟩ => (step_of_spc_ne hs hne).2.2 c rest hp,
    fun hh => ⟨_, .sRead w c rest hp hh, hp ▸ opened_ne c rest⟩⟩

theorem snapshot_moves (w : W) :
    SMoves w ∨ w.spc = .copied ∨ ∃ c rest, w.spc = .opened (c :: rest) := by
  cases hp : w.spc with
  | notStarted => exact Or.inl ⟨_, .sOpen w [] hp, by rw [hp]; nofun⟩
  | opened todo =>
    cases todo with
    | nil => exact Or.inl ⟨_, .sClose w hp, by rw [hp]; nofun⟩
    | cons c rest => exact Or.inr (Or.inr ⟨c, rest, rfl⟩)
  | closed => exact Or.inl ⟨_, .sCopy w hp, by rw [hp]; nofun⟩
  | copied => exact Or.inr (Or.inl rfl)

/-! ### step-counting runs -/

/-- A run from `w0` in which the steps of the writers in `ts` and of the snapshot thread are counted:
    `n` = counted steps, `k` = steps of other writers, `b` = the budget the snapshot thread was given:
    `sOpen chunks` adds `chunks.length + 3` (the `sOpen` itself, one `sRead` per chunk, `sClose`,
    `sCopy`). -/
inductive RunC (ts : List Nat) (w0 : W) : Nat → Nat → Nat → W → Prop
  | refl : RunC ts w0 0 0 0 w0
  | other {n b k w w'} : RunC ts w0 n b k w → Step w w' → (∀ t ∈ ts, w'.pc t = w.pc t) →
      w'.spc = w.spc → RunC ts w0 n b (k + 1) w'
  | writer {n b k w w' t} : RunC ts w0 n b k w → Step w w' → t ∈ ts → w'.pc t ≠ w.pc t →
      RunC ts w0 (n + 1) b k w'
  | sopen {n b k w w' chunks} : RunC ts w0 n b k w → Step w w' → w.spc = .notStarted →
      w'.spc = .opened chunks → RunC ts w0 (n + 1) (b + (chunks.length + 3)) k w'
  | snap {n b k w w'} : RunC ts w0 n b k w → Step w w' → w.spc ≠ .notStarted → w'.spc ≠ w.spc →
      RunC ts w0 (n + 1) b k w'

theorem reach_runC (ts : List Nat) {w0 w : W} (h : Reach w0 w) : ∃ n b k, RunC ts w0 n b k w := by
  induction h with
  | refl => exact ⟨0, 0, 0, RunC.refl⟩
  | @step w w' hr hs ih =>
    obtain ⟨n, b, k, hrun⟩ := ih
    rcases step_actor hs with ⟨t, hspc, hch, hoth, _⟩ | ⟨_, hne, ⟨hns, chunks, hc⟩ | ⟨hns, _⟩, _⟩
    · by_cases hm : t ∈ ts
      · exact ⟨_, _, _, hrun.writer hs hm hch⟩
      · exact ⟨_, _, _, hrun.other hs (fun u hu => (hoth u fun e => hm (e ▸ hu)).1) hspc⟩
    · exact ⟨_, _, _, hrun.sopen hs hns hc⟩
    · exact ⟨_, _, _, hrun.snap hs hns hne⟩

theorem mu_init {w : W} (hi : Init w) (ts : List Nat) :
    mu ts w = 7 * (ts.map (fun t => (w.todo t).length)).sum := by
  unfold mu
  rw [hi.spc]
  induction ts with
  | nil => rfl
  | cons a l ih =>
    simp only [List.map_cons, List.sum_cons, srem, Nat.add_zero, Nat.mul_add] at ih ⊢
    rw [ih, tmu, hi.pc]; rfl

theorem sum_tmu_eq {ts : List Nat} {w w' : W} (hs : Step w w') (h : ∀ t ∈ ts, w'.pc t = w.pc t) :
    (ts.map (tmu w')).sum = (ts.map (tmu w)).sum := by
  rcases step_actor hs with ⟨a, _, hch, hoth, _⟩ | ⟨hall, _⟩
  · exact sum_map_congr fun u hu => (hoth u fun e => hch (e ▸ h u hu)).2
  · exact sum_map_congr fun u _ => (hall u).2

theorem runC_measure {ts : List Nat} {w0 w : W} {n b k : Nat} (hts : ts.Nodup)
    (h : RunC ts w0 n b k w) : n + mu ts w = mu ts w0 + b := by
  induction h with
  | refl => exact Nat.zero_add _
  | other hrun hs hsame hspc ih => rw [← ih, mu, mu, hspc, sum_tmu_eq hs hsame]
  | @writer n b k w w' t hrun hs hm hne ih =>
    obtain ⟨hspc, hoth, hdec, _⟩ := step_of_pc_ne hs hne
    have := sum_map_update (f := tmu w) (g := tmu w') (fun u hu => (hoth u hu).2) ts hts hm
    unfold mu at *; rw [hspc]; omega
  | @sopen n b k w w' chunks hrun hs hns hop ih =>
    have := sum_tmu_eq (ts := ts) hs fun t _ => ((step_of_spc_ne hs (by rw [hns, hop]; nofun)).1 t).1
    unfold mu at *; rw [this, hop]; rw [hns] at ih; simp only [srem] at *; omega
  | @snap n b k w w' hrun hs hns hne ih =>
    obtain ⟨hall, ⟨h0, _⟩ | ⟨_, _, hdec⟩, _⟩ := step_of_spc_ne hs hne
    · exact absurd h0 hns
    · have := sum_tmu_eq (ts := ts) hs fun t _ => (hall t).1
      unfold mu at *; omega

/-- `sOpen` fires at most once (`spc` never returns to `notStarted`): the budget is 0 before it and
    `chunks.length + 3` for the one chunk list chosen afterwards -/
theorem runC_budget {ts : List Nat} {w0 w : W} {n b k : Nat} (hi : Init w0)
    (h : RunC ts w0 n b k w) :
    (w.spc = .notStarted ∧ b = 0) ∨ (w.spc ≠ .notStarted ∧ ∃ chunks : List Nat, b = chunks.length + 3) := by
  induction h with
  | refl => exact Or.inl ⟨hi.spc, rfl⟩
  | other _ _ _ hspc ih => rw [hspc]; exact ih
  | writer _ hs _ hne ih => rw [(step_of_pc_ne hs hne).1]; exact ih
  | @sopen n b k w w' chunks _ _ hns hop ih =>
    rcases ih with ⟨_, hb⟩ | ⟨h, _⟩
    · exact Or.inr ⟨by rw [hop]; nofun, chunks, by omega⟩
    · exact absurd hns h
  | snap _ hs hns hne ih =>
    rcases ih with ⟨h, _⟩ | ⟨_, hb⟩
    · exact absurd h hns
    · rcases (step_of_spc_ne hs hne).2.1 with ⟨h0, _⟩ | ⟨_, hst, _⟩
      · exact absurd h0 hns
      · exact Or.inr ⟨hst, hb⟩

end ColumnVerif.Conc.Snap
