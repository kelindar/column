import ColumnVerif.Model.Expire
import ColumnVerif.Lemmas.Apply
/-!
# Lemmas: the 8 big-endian bytes of an `int64` deadline, and what the default merge (`addMerge64`) does to them

`bytesOfInt64` is the encoder a typed setter uses (`binary.BigEndian.PutUint64(uint64(v))`); `int64OfBytes` (Model/Expire)
the decoder. `wrap64` is two's-complement wrap-around of a mathematical integer into the `int64` range.
-/
namespace ColumnVerif.Store
open ColumnVerif.Codec ColumnVerif.Bits

/-- the 8 big-endian bytes of `uint64(x)` -/
def bytesOfInt64 (x : Int) : Bytes := natToBE 8 ((x % 2 ^ 64).toNat)

/-- two's-complement wrap-around into `[-2^63, 2^63)` -/
def wrap64 (x : Int) : Int := ((x + 2 ^ 63) % 2 ^ 64) - 2 ^ 63

/-- `x` fits an `int64` -/
def InI64 (x : Int) : Prop := -(2 ^ 63) ≤ x ∧ x < 2 ^ 63

instance (x : Int) : Decidable (InI64 x) := by unfold InI64; exact inferInstance

theorem pow63 : (2 : Int) ^ 63 = 9223372036854775808 := by decide
theorem pow64 : (2 : Int) ^ 64 = 18446744073709551616 := by decide
theorem pow256_8 : (256 : Nat) ^ 8 = 18446744073709551616 := by decide

/-! ## big-endian bytes -/

theorem beNat_lt (bs : Bytes) : beNat bs < 256 ^ bs.length := by
  induction bs with
  | nil => exact Nat.one_pos
  | cons b bs ih =>
    have hb : b.toNat + 1 ≤ 256 := UInt8.toNat_lt b
    calc beNat (b :: bs)
        < b.toNat * 256 ^ bs.length + 256 ^ bs.length := Nat.add_lt_add_left ih _
      _ = (b.toNat + 1) * 256 ^ bs.length := (Nat.succ_mul ..).symm
      _ ≤ 256 * 256 ^ bs.length := Nat.mul_le_mul_right _ hb
      _ = 256 ^ (bs.length + 1) := by rw [Nat.pow_succ, Nat.mul_comm]

theorem natToBE_add_mul (n a v : Nat) : natToBE n (a * 256 ^ n + v) = natToBE n v := by
  induction n generalizing a with
  | zero => rfl
  | succ n ih =>
    simp only [natToBE]
    have e : a * 256 ^ (n + 1) + v = (a * 256) * 256 ^ n + v := by
      rw [Nat.pow_succ, Nat.mul_assoc, Nat.mul_comm 256 (256 ^ n)]
    rw [e, ih (a * 256)]
    have hpos : 0 < 256 ^ n := Nat.pow_pos (by decide)
    have : (a * 256 * 256 ^ n + v) / 256 ^ n % 256 = v / 256 ^ n % 256 := by
      rw [Nat.add_comm, Nat.add_mul_div_right _ _ hpos, Nat.add_mul_mod_self_right]
    rw [this]

theorem natToBE_beNat (bs : Bytes) : natToBE bs.length (beNat bs) = bs := by
  induction bs with
  | nil => rfl
  | cons b bs ih =>
    simp only [List.length_cons, natToBE, beNat]
    rw [natToBE_add_mul, ih]
    have hlt := beNat_lt bs
    have hpos : 0 < 256 ^ bs.length := Nat.pow_pos (by decide)
    have : (b.toNat * 256 ^ bs.length + beNat bs) / 256 ^ bs.length % 256 = b.toNat := by
      rw [Nat.add_comm, Nat.add_mul_div_right _ _ hpos, Nat.div_eq_of_lt hlt, Nat.zero_add]
      have := UInt8.toNat_lt b
      exact Nat.mod_eq_of_lt (by omega)
    rw [this]
    simp

theorem beNat_lt8 (bs : Bytes) (h : bs.length = 8) : beNat bs < 18446744073709551616 := by
  have := beNat_lt bs
  rw [h, pow256_8] at this
  exact this

/-! ## `int64OfBytes` / `bytesOfInt64`

Decoder, encoder and `wrap64` all respect congruence modulo 2^64, and an `int64` is determined by its residue
(`InI64.eq_of_emod`): an identity between `int64` values is proved by comparing residues, without case splits on signs. -/

theorem InI64.eq_of_emod {a b : Int} (ha : InI64 a) (hb : InI64 b) (h : a % 2 ^ 64 = b % 2 ^ 64) : a = b := by
  unfold InI64 at ha hb
  rw [pow63] at ha hb
  rw [pow64] at h
  omega

theorem wrap64_emod (x : Int) : wrap64 x % 2 ^ 64 = x % 2 ^ 64 := by
  unfold wrap64
  rw [Int.emod_sub_emod, Int.add_sub_cancel]

theorem wrap64_range (x : Int) : InI64 (wrap64 x) := by
  have h0 := Int.emod_nonneg (x + 2 ^ 63) (b := 2 ^ 64) (by decide)
  have h1 := Int.emod_lt_of_pos (x + 2 ^ 63) (b := 2 ^ 64) (by decide)
  unfold InI64 wrap64
  generalize (x + 2 ^ 63) % 2 ^ 64 = r at h0 h1
  rw [pow64] at h1
  rw [pow63]
  omega

theorem wrap64_of_range (x : Int) (h : InI64 x) : wrap64 x = x := (wrap64_range x).eq_of_emod h (wrap64_emod x)

theorem wrap64_add_wrap64 (a b : Int) : wrap64 (a + wrap64 b) = wrap64 (a + b) :=
  (wrap64_range _).eq_of_emod (wrap64_range _) (by rw [wrap64_emod, wrap64_emod, Int.add_emod, wrap64_emod, ← Int.add_emod])

theorem bytesOfInt64_length (x : Int) : (bytesOfInt64 x).length = 8 := natToBE_length 8 _

theorem int64OfBytes_def (bs : Bytes) :
    int64OfBytes bs =
      if beNat bs ≥ 9223372036854775808 then (beNat bs : Int) - 18446744073709551616 else (beNat bs : Int) := rfl

theorem int64OfBytes_emod (bs : Bytes) : int64OfBytes bs % 2 ^ 64 = (beNat bs : Int) % 2 ^ 64 := by
  rw [int64OfBytes_def]
  split
  · exact Int.sub_emod_right _ _
  · rfl

theorem int64OfBytes_range (bs : Bytes) (h : bs.length = 8) : InI64 (int64OfBytes bs) := by
  have := beNat_lt8 bs h
  unfold InI64
  rw [int64OfBytes_def, pow63]
  split <;> omega

theorem beNat_bytesOfInt64 (x : Int) : (beNat (bytesOfInt64 x) : Int) = x % 2 ^ 64 := by
  have h0 := Int.emod_nonneg x (b := 2 ^ 64) (by decide)
  have h1 := Int.emod_lt_of_pos x (b := 2 ^ 64) (by decide)
  unfold bytesOfInt64
  generalize x % 2 ^ 64 = r at h0 h1
  rw [pow64] at h1
  rw [beNat_natToBE, pow256_8, Nat.mod_eq_of_lt (by omega), Int.toNat_of_nonneg h0]

theorem int64OfBytes_bytesOfInt64_wrap (x : Int) : int64OfBytes (bytesOfInt64 x) = wrap64 x :=
  (int64OfBytes_range _ (bytesOfInt64_length x)).eq_of_emod (wrap64_range x)
    (by rw [int64OfBytes_emod, beNat_bytesOfInt64, Int.emod_emod, wrap64_emod])

theorem addMerge64_length (v d : Bytes) : (addMerge64 v d).length = 8 := natToBE_length 8 _

theorem beNat_addMerge64 (v d : Bytes) : beNat (addMerge64 v d) = (beNat v + beNat d) % 2 ^ 64 := by
  unfold addMerge64
  rw [beNat_natToBE, pow256_8]
  exact Nat.mod_mod _ _

theorem int64OfBytes_padTo (bs : Bytes) : int64OfBytes (padTo 8 bs) = int64OfBytes bs := by
  unfold padTo
  split
  · rename_i h
    rw [List.eq_nil_of_length_eq_zero h]
    decide
  · rfl

theorem padTo_length8 (bs : Bytes) (h : bs.length = 8) : padTo 8 bs = bs := by
  unfold padTo
  rw [if_neg (by omega)]

theorem bytesOfInt64_congr (x y : Int) (h : x % 2 ^ 64 = y % 2 ^ 64) : bytesOfInt64 x = bytesOfInt64 y := by
  unfold bytesOfInt64
  rw [h]

theorem bytesOfInt64_wrap64 (x : Int) : bytesOfInt64 (wrap64 x) = bytesOfInt64 x :=
  bytesOfInt64_congr _ _ (wrap64_emod x)

theorem bytesOfInt64_int64OfBytes8 (bs : Bytes) (h : bs.length = 8) : bytesOfInt64 (int64OfBytes bs) = bs := by
  have hlt : (beNat bs : Int) < 2 ^ 64 := by have := beNat_lt8 bs h; rw [pow64]; omega
  unfold bytesOfInt64
  rw [int64OfBytes_emod, Int.emod_eq_of_lt (Int.natCast_nonneg _) hlt, Int.toNat_natCast, ← h, natToBE_beNat]

theorem int64OfBytes_addMerge64 (v d : Bytes) :
    int64OfBytes (addMerge64 v d) = wrap64 (int64OfBytes v + int64OfBytes d) := by
  refine (int64OfBytes_range _ (addMerge64_length v d)).eq_of_emod (wrap64_range _) ?_
  rw [int64OfBytes_emod, wrap64_emod, Int.add_emod, int64OfBytes_emod, int64OfBytes_emod, ← Int.add_emod,
    beNat_addMerge64, Int.natCast_emod]
  show (↑(beNat v + beNat d) : Int) % 2 ^ 64 % 2 ^ 64 = _
  rw [Int.emod_emod, Int.natCast_add]

theorem addMerge64_eq (v d : Bytes) : addMerge64 v d = bytesOfInt64 (int64OfBytes v + int64OfBytes d) := by
  rw [← bytesOfInt64_int64OfBytes8 (addMerge64 v d) (addMerge64_length v d), int64OfBytes_addMerge64, bytesOfInt64_wrap64]

theorem addMerge64_delta (old : Bytes) (delta : Int) :
    addMerge64 (padTo 8 old) (bytesOfInt64 delta) = bytesOfInt64 (int64OfBytes old + delta) := by
  rw [addMerge64_eq, int64OfBytes_padTo, int64OfBytes_bytesOfInt64_wrap]
  exact bytesOfInt64_congr _ _ (by rw [Int.add_emod, wrap64_emod, ← Int.add_emod])

theorem slotEffect_extend (st : Bool × Bytes) (p : Op) (hp : p.typ = opMerge) (delta : Int)
    (hv : valRaw p.val = bytesOfInt64 delta) :
    slotEffect addMerge64 NumKind.i64.width st p = (true, bytesOfInt64 (int64OfBytes st.2 + delta)) := by
  rw [slotEffect_merge hp, hv]
  show (true, addMerge64 (padTo 8 st.2) (bytesOfInt64 delta)) = _
  rw [addMerge64_delta]

end ColumnVerif.Store
