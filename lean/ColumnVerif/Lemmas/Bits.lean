import ColumnVerif.Model.Bits
/-! Lemmas about the bitmap model (`Array Bool`), and two facts about `foldl`: an invariant along a fold, and the fold over
    `List.range` every loop of the model is. -/
namespace ColumnVerif

/-- one more round of a loop over `0, …, n`. Stated once because `rw [List.range_succ, List.foldl_append]` followed by
    `simp only [List.foldl_cons]` closes by `rfl`, and on a goal about `commit (chunkTxn s n)` that `rfl` makes the kernel
    evaluate `List.range 16384` -/
theorem foldl_range_succ {α : Type} (f : α → Nat → α) (a : α) (n : Nat) :
    (List.range (n + 1)).foldl f a = f ((List.range n).foldl f a) n := by
  rw [List.range_succ, List.foldl_append]; rfl

theorem foldl_range_induct {α : Type} (f : α → Nat → α) (a : α) (P : Nat → α → Prop) (n : Nat) (h0 : P 0 a)
    (hs : ∀ k x, k < n → P k x → P (k + 1) (f x k)) : P n ((List.range n).foldl f a) := by
  induction n with
  | zero => exact h0
  | succ n ih =>
    rw [foldl_range_succ]
    exact hs n _ (Nat.lt_succ_self n) (ih (fun k x hk => hs k x (Nat.lt_succ_of_lt hk)))

theorem foldl_invariant {α β : Type} (P : β → Prop) (f : β → α → β) (l : List α) (b : β) (h0 : P b)
    (hstep : ∀ b a, a ∈ l → P b → P (f b a)) : P (l.foldl f b) := by
  induction l generalizing b with
  | nil => exact h0
  | cons x xs ih =>
    exact ih _ (hstep b x (by simp) h0) (fun b a ha hb => hstep b a (by simp [ha]) hb)

end ColumnVerif

namespace ColumnVerif.Bits

theorem get_of_ge (b : Bitmap) (i : Nat) (h : b.size ≤ i) : get b i = false := by
  unfold get; simp [Array.getElem?_eq_none h]

theorem get_eq_getElem (b : Bitmap) (i : Nat) (h : i < b.size) : get b i = b[i] := by
  unfold get; simp [h]

theorem size_growTo (b : Bitmap) (n : Nat) : (growTo b n).size = max b.size (64 * n) := by
  unfold growTo; split
  · simp; omega
  · omega

theorem get_growTo (b : Bitmap) (n i : Nat) : get (growTo b n) i = get b i := by
  unfold growTo
  split
  · unfold get
    rw [Array.getElem?_append]
    split
    · rfl
    · rename_i h
      simp only [Array.getElem?_replicate]
      have : b[i]? = none := Array.getElem?_eq_none (by omega)
      rw [this]
      split <;> rfl
  · rfl

theorem get_grow (b : Bitmap) (bit i : Nat) : get (grow b bit) i = get b i := get_growTo b _ i

theorem size_grow_gt (b : Bitmap) (bit : Nat) : bit < (grow b bit).size := by
  unfold grow; rw [size_growTo]; omega

theorem get_set (b : Bitmap) (i j : Nat) : get (set b i) j = (decide (j = i) || get b j) := by
  unfold set
  have hs := size_grow_gt b i
  have hg := get_grow b i j
  unfold get at *
  rw [Array.getElem?_setIfInBounds]
  by_cases hji : j = i
  · subst hji; simp [hs]
  · have : ¬ (i = j) := fun h => hji h.symm
    simp [this, hji, hg]

theorem get_remove (b : Bitmap) (i j : Nat) : get (remove b i) j = (!decide (j = i) && get b j) := by
  unfold remove get
  rw [Array.getElem?_setIfInBounds]
  by_cases hji : j = i
  · subst hji
    by_cases h : j < b.size
    · simp [h]
    · simp [h]
  · have : ¬ (i = j) := fun h => hji h.symm
    simp [this, hji]

theorem firstZero_some {b : Bitmap} {lo n i : Nat} (h : firstZero b lo n = some i) :
    lo ≤ i ∧ i < lo + n ∧ get b i = false := by
  induction n generalizing lo with
  | zero => simp [firstZero] at h
  | succ k ih =>
    unfold firstZero at h
    split at h
    · obtain ⟨a, b', c⟩ := ih h; exact ⟨by omega, by omega, c⟩
    · rename_i hm
      injection h with h; subst h
      exact ⟨by omega, by omega, by simpa using hm⟩

theorem firstZero_none {b : Bitmap} {lo n : Nat} (h : firstZero b lo n = none) :
    ∀ i, lo ≤ i → i < lo + n → get b i = true := by
  induction n generalizing lo with
  | zero => intro i h1 h2; omega
  | succ k ih =>
    unfold firstZero at h
    split at h
    · rename_i hm
      intro i h1 h2
      by_cases e : i = lo
      · subst e; exact hm
      · exact ih h i (by omega) (by omega)
    · simp at h

theorem count_le_size (b : Bitmap) : count b ≤ b.size := by
  unfold count
  have := List.countP_le_length (p := id) (l := b.toList)
  simpa using this

theorem count_eq_size_of_all (b : Bitmap) (h : ∀ i, i < b.size → get b i = true) : count b = b.size := by
  unfold count
  have : b.toList.countP id = b.toList.length := by
    rw [List.countP_eq_length]
    intro x hx
    obtain ⟨i, hi, rfl⟩ := List.mem_iff_getElem.mp hx
    have hi' : i < b.size := by simpa using hi
    have := h i hi'
    rw [get_eq_getElem b i hi'] at this
    simpa using this
  simpa using this

/-- `findFreeIndex` hands out an unoccupied offset whenever fewer bits are set than the
    (incremented) counter says — for every fill pattern, every length -/
theorem findFreeIndex_free (fill : Bitmap) (cnt : Nat) (hc : 0 < cnt) (hinv : count fill ≤ cnt - 1) :
    get fill (findFreeIndex fill cnt) = false := by
  unfold findFreeIndex
  split
  · exact get_of_ge fill _ (Nat.le_refl _)
  · rename_i hfull
    simp only
    split
    · rename_i i hi
      split at hi
      · exact (firstZero_some hi).2.2
      · simp at hi
    · split
      · rename_i i hi
        exact (firstZero_some hi).2.2
      · rename_i hnone
        exfalso
        have hall := firstZero_none hnone
        have := count_eq_size_of_all fill (fun i hi => hall i (by omega) (by omega))
        omega

theorem countP_set (l : List Bool) (i : Nat) (h : i < l.length) (v : Bool) :
    (l.set i v).countP id + l[i].toNat = l.countP id + v.toNat := by
  induction l generalizing i with
  | nil => simp at h
  | cons x xs ih =>
    cases i with
    | zero => cases x <;> cases v <;> simp
    | succ k =>
      simp only [List.set_cons_succ, List.countP_cons, List.getElem_cons_succ]
      have := ih k (by simpa using h)
      omega

theorem countP_set_true (l : List Bool) (i : Nat) (h : i < l.length) (hf : l[i] = false) :
    (l.set i true).countP id = l.countP id + 1 := by
  have := countP_set l i h true
  rw [hf] at this
  simpa using this

theorem countP_zero_of_getD (l : List Bool) (h : ∀ j : Nat, (l[j]?).getD false = false) : l.countP id = 0 := by
  induction l with
  | nil => rfl
  | cons x xs ih =>
    have h0 : x = false := by simpa using h 0
    subst h0
    rw [List.countP_cons, ih (fun j => by simpa using h (j + 1))]
    rfl

theorem countP_congr_getD (la : List Bool) :
    ∀ lb : List Bool, (∀ j : Nat, (la[j]?).getD false = (lb[j]?).getD false) → la.countP id = lb.countP id := by
  induction la with
  | nil =>
    intro lb h
    rw [countP_zero_of_getD lb (fun j => by simpa using (h j).symm)]
    rfl
  | cons x xs ih =>
    intro lb h
    cases lb with
    | nil => rw [countP_zero_of_getD (x :: xs) (fun j => by simpa using h j)]; rfl
    | cons y ys =>
      have h0 : x = y := by simpa using h 0
      subst h0
      rw [List.countP_cons, List.countP_cons, ih ys (fun j => by simpa using h (j + 1))]

theorem count_congr (a b : Bitmap) (h : ∀ j, get a j = get b j) : count a = count b := by
  unfold count
  apply countP_congr_getD
  intro j
  have := h j
  unfold get at this
  rw [Array.getElem?_toList, Array.getElem?_toList]
  exact this

theorem count_zero_of_get (a : Bitmap) (h : ∀ j, get a j = false) : count a = 0 := by
  rw [count_congr a #[] (fun j => by rw [h j]; rfl)]
  rfl

theorem count_growTo (b : Bitmap) (n : Nat) : count (growTo b n) = count b := count_congr _ _ (get_growTo b n)

theorem count_set_of_false (b : Bitmap) (i : Nat) (h : get b i = false) :
    count (set b i) = count b + 1 := by
  unfold set
  have hs := size_grow_gt b i
  have hg : get (grow b i) i = false := by rw [get_grow]; exact h
  rw [get_eq_getElem _ _ hs] at hg
  have : count ((grow b i).setIfInBounds i true) = count (grow b i) + 1 := by
    unfold count
    rw [Array.toList_setIfInBounds]
    exact countP_set_true _ i (by simpa using hs) (by simpa using hg)
  rw [this]
  unfold grow
  rw [count_growTo]

end ColumnVerif.Bits
