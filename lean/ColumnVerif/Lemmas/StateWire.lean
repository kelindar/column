import ColumnVerif.Model.StateWire
import ColumnVerif.Lemmas.Wire
/-!
Helper lemmas for `Model/StateWire`: the snapshot state section (`writeState` / `readState`) round
trips and is rejected on every strict prefix (`Decodes`, from the combinators of `Lemmas/Wire`);
the structural facts about `Store.snapshot` the reader relies on (buffer count per chunk = column
count of the header, chunk count = `nChunks`).
-/
namespace ColumnVerif.Store
open ColumnVerif.Codec ColumnVerif.Wire

/-- one chunk of the state section: the commit id is a `uint64`, the chunk carries exactly the
    number of buffers the header announces, every buffer fits `Buffer.WriteTo`'s format -/
structure ChunkState.WireWF (c : ChunkState) (columns : Nat) : Prop where
  last_lt : c.lastCommit < 2 ^ 64
  count_eq : c.buffers.length = columns
  bufs_wf : ∀ b ∈ c.buffers, (Buf.toRaw b).WF

instance (c : ChunkState) (columns : Nat) : Decidable (c.WireWF columns) :=
  decidable_of_iff (c.lastCommit < 2 ^ 64 ∧ c.buffers.length = columns ∧
      ∀ b ∈ c.buffers, (Buf.toRaw b).WF)
    ⟨fun h => ⟨h.1, h.2.1, h.2.2⟩, fun h => ⟨h.1, h.2, h.3⟩⟩

structure Snap.WireWF (snap : Snap) : Prop where
  columns_lt : snap.columns < 2 ^ 64
  chunks_lt : snap.chunks.length < 2 ^ 64
  chunks_wf : ∀ c ∈ snap.chunks, c.WireWF snap.columns

instance (snap : Snap) : Decidable snap.WireWF :=
  decidable_of_iff (snap.columns < 2 ^ 64 ∧ snap.chunks.length < 2 ^ 64 ∧
      ∀ c ∈ snap.chunks, c.WireWF snap.columns)
    ⟨fun h => ⟨h.1, h.2.1, h.2.2⟩, fun h => ⟨h.1, h.2, h.3⟩⟩

theorem Snap.wireWF_iff (snap : Snap) : snap.WireWF ↔
    snap.columns < 2 ^ 64 ∧ snap.chunks.length < 2 ^ 64 ∧
    ∀ c ∈ snap.chunks, c.lastCommit < 2 ^ 64 ∧ c.buffers.length = snap.columns ∧
      ∀ b ∈ c.buffers, (Buf.toRaw b).WF :=
  ⟨fun ⟨a, b, c⟩ => ⟨a, b, fun x hx => ⟨(c x hx).1, (c x hx).2, (c x hx).3⟩⟩,
   fun ⟨a, b, c⟩ => ⟨a, b, fun x hx => ⟨(c x hx).1, (c x hx).2.1, (c x hx).2.2⟩⟩⟩

end ColumnVerif.Store

namespace ColumnVerif.Wire
open ColumnVerif.Codec ColumnVerif.Store

/-! ### one chunk -/

/-- what `readState` rebuilds for one chunk -/
def chunkRaw (c : ChunkState) : RawChunkState := ⟨c.lastCommit, c.buffers.map Buf.toRaw⟩

/-- what `readState` parses out of the whole section -/
def stateRaw (snap : Snap) : Nat × List RawChunkState := (snap.columns, snap.chunks.map chunkRaw)

theorem bufs_decodes (columns : Nat) (c : ChunkState) (h : c.WireWF columns) :
    Decodes (readMany readRawBuf columns) (c.buffers.map encBuf).flatten (c.buffers.map Buf.toRaw) :=
  h.count_eq ▸ many_decodes c.buffers fun b hb => rawbuf_decodes (Buf.toRaw b) (h.bufs_wf b hb)

/-- a cut inside a chunk: in the commit id the error of `ReadUvarint` is passed on, in the buffers
    it is turned into a non-EOF error -/
theorem chunk_decodes (columns : Nat) (c : ChunkState) (h : c.WireWF columns) :
    Decodes (readChunkState columns) (encChunkState c) (chunkRaw c) := by
  unfold readChunkState encChunkState
  refine (uvarint_decodes c.lastCommit h.last_lt).seq ?_ fun s => by
    rcases readUvarint s with _ | ⟨_, _⟩ <;> rfl
  exact (bufs_decodes columns c h).mapWith (RawChunkState.mk c.lastCommit)
    (fun _ _ => ⟨.bad, rfl, fun _ _ => rfl⟩) fun s => by
      rcases readMany readRawBuf columns s with _ | ⟨_, _⟩ <;> rfl

theorem chunk_cut_in_buffers (columns : Nat) (c : ChunkState) (h : c.WireWF columns) (n : Nat)
    (e : Bool) (hlo : (encUvarint c.lastCommit).length ≤ n) (hn : n < (encChunkState c).length) :
    readChunkState columns ⟨(encChunkState c).take n, e⟩ = .error .bad := by
  unfold encChunkState at hn ⊢
  rw [List.length_append] at hn
  obtain ⟨err, h2, _⟩ := (bufs_decodes columns c h).cuts (n - (encUvarint c.lastCommit).length) e
    (by omega)
  unfold readChunkState
  rw [List.take_append, List.take_of_length_le hlo, (uvarint_decodes _ h.last_lt).reads]
  simp only [h2]

theorem readChunkState_nil (columns : Nat) : readChunkState columns ⟨[], false⟩ = .error .eof := rfl

/-! ### the section -/

theorem encState_eq (snap : Snap) : encState snap =
    encUvarint 1 ++ (encUvarint snap.columns ++ encRange encChunkState snap.chunks) := by
  simp [encState, encRange, List.append_assoc]

theorem state_decodes (snap : Snap) (h : snap.WireWF) :
    Decodes readStateRaw (encState snap) (stateRaw snap) := by
  rw [encState_eq]
  unfold readStateRaw
  refine (uvarint_decodes 1 (by decide)).seqWith ?_ (fun _ _ => ⟨.bad, rfl, fun _ _ => rfl⟩)
    fun s => by rcases readUvarint s with _ | ⟨_, _⟩ <;> rfl
  simp only [ne_eq, not_true_eq_false, if_false]
  refine (uvarint_decodes snap.columns h.columns_lt).seq ?_ fun s => by
    rcases readUvarint s with _ | ⟨_, _⟩ <;> rfl
  exact (range_decodes snap.chunks h.chunks_lt fun c hc =>
    chunk_decodes snap.columns c (h.chunks_wf c hc)).map (Prod.mk snap.columns) fun s => by
      rcases readRange (readChunkState snap.columns) s with _ | ⟨_, _⟩ <;> rfl

/-- an empty state section is an error whatever the end flag: `readState` turns a failed version
    read into a non-EOF error -/
theorem readStateRaw_nil (e : Bool) : readStateRaw ⟨[], e⟩ = .error .bad := by
  cases e <;> rfl

theorem readStateRaw_version (v : Nat) (hv : v < 2 ^ 64) (hne : v ≠ 1) (rest : Bytes) (e : Bool) :
    readStateRaw ⟨encUvarint v ++ rest, e⟩ = .error .bad := by
  unfold readStateRaw
  rw [uvarint_reads v hv]
  exact if_pos hne

theorem encState_length_pos (snap : Snap) : 0 < (encState snap).length := by
  rw [encState_eq, List.length_append]
  exact Nat.add_pos_left (encUvarint_length_pos 1) _

theorem toRaw_toBuf_ops (b : Buf) (h : b.Inv) :
    ∃ b', (Buf.toRaw b).toBuf = some b' ∧ b'.column = b.column ∧ b'.last = b.last ∧
      b'.secs = b.secs ∧ b'.allOps = b.allOps ∧ ∀ ch, b'.rangeOps ch = b.rangeOps ch :=
  ⟨_, toRaw_toBuf b h, rfl, rfl, rfl, rfl, fun _ => rfl⟩

/-! ### `Store.snapshot`: counts -/

theorem foldl_snoc_length {α β} (p : α → Bool) (f : α → β) (g : List β × Bool → α → Bool) (l : List α)
    (acc : List β × Bool) :
    (l.foldl (fun acc c => if p c then acc else (acc.1 ++ [f c], g acc c)) acc).1.length =
    acc.1.length + (l.filter (fun c => !p c)).length := by
  induction l generalizing acc with
  | nil => rfl
  | cons c cs ih =>
    rw [List.foldl_cons, ih, List.filter_cons]
    cases p c
    · simp only [Bool.false_eq_true, if_false, Bool.not_false, if_true, List.length_append,
        List.length_cons, List.length_nil]
      omega
    · rfl

/-- `row` buffer + one buffer per registry column that is not a bitmap index -/
theorem chunkState_buffers_length (s : Store) (ch : Nat) :
    (s.chunkState ch).1.buffers.length = (s.cols.filter (fun c => !c.kind.isIndex)).size + 1 := by
  show (s.cols.foldl _ ([], false)).1.length + 1 = _
  rw [← Array.foldl_toList, ← Array.length_toList, Array.toList_filter]
  exact congrArg (· + 1)
    ((foldl_snoc_length (fun c : Col => c.kind.isIndex) _ _ _ _).trans (Nat.zero_add _))

theorem snapshot_fold (s : Store) (l : List Nat) (acc : List ChunkState × Bool) :
    (l.foldl (fun (acc : List ChunkState × Bool) c =>
      (acc.1 ++ [(s.chunkState c).1], acc.2 || (s.chunkState c).2)) acc).1 =
    acc.1 ++ l.map (fun c => (s.chunkState c).1) := by
  induction l generalizing acc with
  | nil => simp
  | cons c cs ih => simp only [List.foldl_cons, ih]; simp

theorem snapshot_chunks (s : Store) :
    (s.snapshot).1.chunks = (List.range s.nChunks).map (fun c => (s.chunkState c).1) :=
  (snapshot_fold s _ ([], false)).trans (List.nil_append _)

theorem snapshot_columns (s : Store) :
    (s.snapshot).1.columns = (s.cols.filter (fun c => !c.kind.isIndex)).size + 1 := rfl

end ColumnVerif.Wire
