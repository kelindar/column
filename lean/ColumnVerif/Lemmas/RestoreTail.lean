import ColumnVerif.Lemmas.StoreReplica
/-!
`Restore` = state section + the logged commits newer than each chunk's stored commit id (C08 / C07 at store level).

* A — `Store.restore` unfolded: `readState`, then `replayAll` over the tail filtered by the id test (`Snap.lastOf`,
  `Snap.newer`, `restore_eq_replayAll`, `filter_newer_*`).
* B — commit ids: `IdsOK` (no chunk stores an id above `nextId`), kept by `commitCapacity`, `commitChunk`, `commit`,
  `replay`; `Store.new` and `createColumn`; the ids `emittedBy` / `emittedByAll` carry (`emittedBy_ids`,
  `emittedByAll_ids`); what a snapshot stores (`lastOf_snapshot`); `emittedByAll_newer`.
* C — the stored id of a chunk after commits: an emitted entry's id is stored with its chunk, later commits only raise it
  (`commits_getD_mono`, `emittedByAll_le_commits`): entries logged BEFORE the state was taken fail the id test.
* D — reads in sync (`SlotRd`, `RdSync`): the relation that ignores the bytes of absent slots is kept by a lock-step pass
  (`applyData_rd_slot`, `passInv_rd`), hence by histories (`commits_replay_rd`).
* E — `readState` of a snapshot into a fresh target gives `RdSync` / `NumSync` / `FillSync` (`rdSync_readState`,
  `numSync_readState`, `fillSync_readState`); a fresh target (`new_findCol_none`).
* F — what a commit keeps of the conditions on the source (`commit_num_source`, `commit_fill_committed`).
-/
namespace ColumnVerif.Store
open ColumnVerif.Codec ColumnVerif.Bits

/-! ## A — `restore` is `readState`, then `replayAll` over the filtered tail -/

/-- the commit id the state section stores with chunk `ch` (`0` when the state holds no such chunk) -/
def Snap.lastOf (snap : Snap) (ch : Nat) : Nat := ((snap.chunks[ch]?).map (·.lastCommit)).getD 0

/-- the test `Restore` applies to a logged commit: its id is above the id stored with its chunk -/
def Snap.newer (snap : Snap) (e : Emitted) : Bool := decide (e.id > snap.lastOf e.chunk)

theorem Snap.lastOf_eq (snap : Snap) (ch : Nat) :
    (match snap.chunks[ch]? with | some c => c.lastCommit | none => 0) = snap.lastOf ch := by
  unfold Snap.lastOf
  cases snap.chunks[ch]? <;> rfl

theorem Snap.lastOf_tail (snap : Snap) (tl : List Emitted) (ch : Nat) :
    ({ snap with tail := tl } : Snap).lastOf ch = snap.lastOf ch := rfl

theorem Snap.newer_tail (snap : Snap) (tl : List Emitted) : ({ snap with tail := tl } : Snap).newer = snap.newer := rfl

theorem readState_tail (s : Store) (snap : Snap) (tl : List Emitted) :
    s.readState { snap with tail := tl } = s.readState snap := rfl

theorem foldl_cond_eq_filter {α β : Type} (p : α → Bool) (f : β → α → β) (l : List α) :
    ∀ (b : β), l.foldl (fun b a => if p a = true then f b a else b) b = (l.filter p).foldl f b := by
  induction l with
  | nil => intro b; rfl
  | cons a l ih =>
    intro b
    simp only [List.foldl_cons, List.filter_cons]
    by_cases h : p a = true
    · rw [if_pos h, if_pos h, List.foldl_cons]; exact ih _
    · rw [if_neg h, if_neg h]; exact ih _

/-- **`Restore` unfolded**: the state section is read, then the logged commits that pass the id test are replayed, in
    order (`replayAll`: `r.replay e.chunk (e.received k)` for each) -/
theorem restore_eq_replayAll (s : Store) (snap : Snap) (k : LoggerKind) :
    s.restore snap k = replayAll k (s.readState snap) (snap.tail.filter snap.newer) := by
  unfold Store.restore replayAll
  simp only
  rw [← foldl_cond_eq_filter]
  congr 1
  funext r e
  unfold Snap.newer Snap.lastOf
  cases snap.chunks[e.chunk]? with
  | none => simp
  | some c => simp

theorem filter_newer_none (snap : Snap) (es : List Emitted) (h : ∀ e ∈ es, e.id ≤ snap.lastOf e.chunk) :
    es.filter snap.newer = [] := by
  rw [List.filter_eq_nil_iff]
  intro e he
  unfold Snap.newer
  have := h e he
  simp only [decide_eq_true_eq]
  omega

theorem filter_newer_all (snap : Snap) (es : List Emitted) (h : ∀ e ∈ es, snap.lastOf e.chunk < e.id) :
    es.filter snap.newer = es := by
  rw [List.filter_eq_self]
  intro e he
  unfold Snap.newer
  simpa using h e he

/-! ## B — commit ids -/

/-- no chunk stores a commit id that was not handed out yet -/
def IdsOK (s : Store) : Prop := ∀ ch, s.commits.getD ch 0 ≤ s.nextId

theorem getD_setIfInBounds_nat (a : Array Nat) (i j v : Nat) :
    (a.setIfInBounds i v).getD j 0 = if j = i ∧ i < a.size then v else a.getD j 0 := by
  rw [Array.getD_eq_getD_getElem?, Array.getD_eq_getD_getElem?, Array.getElem?_setIfInBounds]
  by_cases e : i = j
  · subst e
    by_cases h : i < a.size
    · rw [if_pos rfl, if_pos h, if_pos ⟨rfl, h⟩]; rfl
    · rw [if_pos rfl, if_neg h, if_neg (fun x => h x.2), Array.getElem?_eq_none (Nat.le_of_not_lt h)]
  · rw [if_neg e, if_neg (fun x => e x.1.symm)]

theorem getD_append_replicate_zero (a : Array Nat) (n j : Nat) :
    (a ++ Array.replicate n 0).getD j 0 = a.getD j 0 := by
  rw [Array.getD_eq_getD_getElem?, Array.getD_eq_getD_getElem?, Array.getElem?_append]
  by_cases h : j < a.size
  · rw [if_pos h]
  · rw [if_neg h, Array.getElem?_eq_none (xs := a) (Nat.le_of_not_lt h), Array.getElem?_replicate]
    by_cases h2 : j - a.size < n
    · rw [if_pos h2]; rfl
    · rw [if_neg h2]

theorem commitCapacity_getD (s : Store) (last ch : Nat) :
    (s.commitCapacity last).commits.getD ch 0 = s.commits.getD ch 0 := by
  unfold Store.commitCapacity
  by_cases h : s.commits.size ≥ last + 1
  · rw [if_pos h]
  · rw [if_neg h]; exact getD_append_replicate_zero _ _ _

theorem capStore_getD (s : Store) (t : Txn) (ch : Nat) : (capStore s t).commits.getD ch 0 = s.commits.getD ch 0 :=
  capStore_induct (fun s' => s'.commits.getD ch 0 = s.commits.getD ch 0) s t (fun _ => rfl)
    (fun last _ => commitCapacity_getD s last ch)

theorem commitChunk_getD (s : Store) (c : Nat) (cr : Bool) (ups : List Buf) (ch : Nat) :
    (s.commitChunk c cr ups).1.commits.getD ch 0 =
      if ch = c ∧ c < s.commits.size then s.nextId + 1 else s.commits.getD ch 0 := by
  rw [(StorePlumb.commitChunk_spec s c cr ups).2.2.1]
  exact getD_setIfInBounds_nat _ _ _ _

theorem commitChunk_idsOK (s : Store) (c : Nat) (cr : Bool) (ups : List Buf) (h : IdsOK s) :
    IdsOK (s.commitChunk c cr ups).1 := by
  intro ch
  rw [commitChunk_getD, StorePlumb.commitChunk_nextId]
  by_cases hc : ch = c ∧ c < s.commits.size
  · rw [if_pos hc]; exact Nat.le_refl _
  · rw [if_neg hc]; exact Nat.le_succ_of_le (h ch)

theorem commitLoop_idsOK (cr : Bool) (cs : List Nat) :
    ∀ (s : Store) (ups : List Buf), IdsOK s → IdsOK (commitLoop cr cs s ups).1 := by
  induction cs with
  | nil => intro s ups h; exact h
  | cons c cs ih =>
    intro s ups h
    rw [commitLoop_cons]
    exact ih _ _ (commitChunk_idsOK s c cr ups h)

theorem capStore_idsOK (s : Store) (t : Txn) (h : IdsOK s) : IdsOK (capStore s t) := by
  intro ch
  rw [capStore_getD, (capStore_quiet s t).2.2]
  exact h ch

theorem commit_idsOK (s : Store) (t : Txn) (h : IdsOK s) : IdsOK (s.commit t) := by
  rw [commit_eq']
  exact commitLoop_idsOK _ _ _ _ (capStore_idsOK s t h)

theorem commits_idsOK (ts : List Txn) : ∀ (s : Store), IdsOK s → IdsOK (ts.foldl Store.commit s) := by
  induction ts with
  | nil => intro s h; exact h
  | cons t ts ih => intro s h; exact ih _ (commit_idsOK s t h)

theorem replay_idsOK (s : Store) (ch : Nat) (bufs : List Buf) (h : IdsOK s) : IdsOK (s.replay ch bufs) :=
  commit_idsOK s _ h

theorem createColumn_idsOK (s : Store) (name : String) (kind : Kind) (merge : Bytes → Bytes → Bytes) (h : IdsOK s) :
    IdsOK (s.createColumn name kind merge).1 := by
  intro ch
  rw [(createColumn_frame s name kind merge).1, (createColumn_frame s name kind merge).2.2.2.2.1]
  exact h ch

theorem new_idsOK (cap : Nat) (lg : LoggerKind) (hash : Bytes → Nat) : IdsOK (Store.new cap lg hash) := by
  rw [new_eq_createColumn]
  exact createColumn_idsOK _ _ _ _ (fun _ => Nat.le_refl 0)

/-- the ids of the entries the chunk loop emits: above the store's `nextId`, at most one per chunk -/
theorem loopEmitted_ids (cr : Bool) (cs : List Nat) :
    ∀ (s : Store) (ups : List Buf), ∀ e ∈ loopEmitted cr cs s ups, s.nextId < e.id ∧ e.id ≤ s.nextId + cs.length := by
  induction cs with
  | nil => intro s ups e he; cases he
  | cons c cs ih =>
    intro s ups e he
    rw [loopEmitted_cons] at he
    rw [List.length_cons, ← Nat.add_assoc]
    rcases List.mem_append.1 he with he | he
    · rcases chunkEmitted_cases cr c s ups with hce | ⟨hce, _⟩ <;> rw [hce] at he
      · rw [List.mem_singleton.1 he]
        exact ⟨Nat.lt_succ_self _, Nat.succ_le_succ (Nat.le_add_right _ _)⟩
      · cases he
    · have := ih _ _ e he
      rw [StorePlumb.commitChunk_nextId] at this
      exact ⟨Nat.lt_trans (Nat.lt_succ_self _) this.1, by rw [Nat.add_right_comm]; exact this.2⟩

theorem commitLoop_nextId (cr : Bool) (cs : List Nat) :
    ∀ (s : Store) (ups : List Buf), (commitLoop cr cs s ups).1.nextId = s.nextId + cs.length := by
  induction cs with
  | nil => intro s ups; rfl
  | cons c cs ih =>
    intro s ups
    rw [commitLoop_cons, ih, StorePlumb.commitChunk_nextId, List.length_cons, Nat.add_right_comm, Nat.add_assoc]

theorem commit_nextId (s : Store) (t : Txn) : (s.commit t).nextId = s.nextId + t.dirtyChunks.length := by
  rw [commit_eq', commitLoop_nextId, (capStore_quiet s t).2.2]

/-- **the ids a commit hands to the logger**: fresh — above `nextId` — and accounted for in the new `nextId` -/
theorem emittedBy_ids (p : Store) (t : Txn) : ∀ e ∈ emittedBy p t, p.nextId < e.id ∧ e.id ≤ (p.commit t).nextId := by
  intro e he
  have := loopEmitted_ids _ _ _ _ e he
  rw [(capStore_quiet p t).2.2] at this
  rw [commit_nextId]
  exact this

theorem commits_nextId_le (ts : List Txn) : ∀ (p : Store), p.nextId ≤ (ts.foldl Store.commit p).nextId := by
  induction ts with
  | nil => intro p; exact Nat.le_refl _
  | cons t ts ih =>
    intro p
    exact Nat.le_trans (commit_nextId p t ▸ Nat.le_add_right _ _) (ih (p.commit t))

theorem emittedByAll_ids (ts : List Txn) :
    ∀ (p : Store), ∀ e ∈ emittedByAll p ts, p.nextId < e.id ∧ e.id ≤ (ts.foldl Store.commit p).nextId := by
  induction ts with
  | nil => intro p e he; cases he
  | cons t ts ih =>
    intro p e he
    simp only [emittedByAll] at he
    simp only [List.foldl_cons]
    rcases List.mem_append.1 he with he | he
    · exact ⟨(emittedBy_ids p t e he).1, Nat.le_trans (emittedBy_ids p t e he).2 (commits_nextId_le ts (p.commit t))⟩
    · exact ⟨Nat.lt_of_le_of_lt (commit_nextId p t ▸ Nat.le_add_right _ _) (ih (p.commit t) e he).1,
        (ih (p.commit t) e he).2⟩

theorem lastOf_snapshot (s : Store) (ch : Nat) : (s.snapshot).1.lastOf ch = s.commits.getD ch 0 := by
  unfold Snap.lastOf
  rw [snapshot_chunks]
  by_cases h : ch < s.nChunks
  · rw [List.getElem?_map, List.getElem?_range h]
    rfl
  · rw [List.getElem?_eq_none (by simp; omega)]
    unfold Store.nChunks at h
    rw [Array.getD_eq_getD_getElem?, Array.getElem?_eq_none (by omega)]
    rfl

/-- **nothing of the tail is filtered out**: the state was taken of `p0` (ids consistent), the tail was emitted by commits
    on `p0` — every entry's id is above `p0.nextId`, hence above the id the state stores with its chunk -/
theorem emittedByAll_newer (p0 : Store) (ts : List Txn) (h : IdsOK p0) :
    ∀ e ∈ emittedByAll p0 ts, (p0.snapshot).1.lastOf e.chunk < e.id := by
  intro e he
  rw [lastOf_snapshot]
  have := (emittedByAll_ids ts p0 e he).1
  have := h e.chunk
  omega

/-! ## C — the id stored with a chunk after commits -/

theorem commitChunk_commits_size (s : Store) (c : Nat) (cr : Bool) (ups : List Buf) :
    (s.commitChunk c cr ups).1.commits.size = s.commits.size := by
  rw [(StorePlumb.commitChunk_spec s c cr ups).2.2.1, Array.size_setIfInBounds]

theorem commitChunk_getD_mono (s : Store) (c : Nat) (cr : Bool) (ups : List Buf) (h : IdsOK s) (ch : Nat) :
    s.commits.getD ch 0 ≤ (s.commitChunk c cr ups).1.commits.getD ch 0 := by
  rw [commitChunk_getD]
  by_cases hc : ch = c ∧ c < s.commits.size
  · rw [if_pos hc]; exact Nat.le_succ_of_le (h ch)
  · rw [if_neg hc]; exact Nat.le_refl _

theorem commitLoop_getD_mono (cr : Bool) (cs : List Nat) :
    ∀ (s : Store) (ups : List Buf), IdsOK s → ∀ ch,
      s.commits.getD ch 0 ≤ (commitLoop cr cs s ups).1.commits.getD ch 0 := by
  induction cs with
  | nil => intro s ups _ ch; exact Nat.le_refl _
  | cons c cs ih =>
    intro s ups h ch
    rw [commitLoop_cons]
    exact Nat.le_trans (commitChunk_getD_mono s c cr ups h ch) (ih _ _ (commitChunk_idsOK s c cr ups h) ch)

theorem commit_getD_mono (s : Store) (t : Txn) (h : IdsOK s) (ch : Nat) :
    s.commits.getD ch 0 ≤ (s.commit t).commits.getD ch 0 := by
  rw [commit_eq', ← capStore_getD s t ch]
  exact commitLoop_getD_mono _ _ _ _ (capStore_idsOK s t h) ch

theorem commits_getD_mono (ts : List Txn) :
    ∀ (s : Store), IdsOK s → ∀ ch, s.commits.getD ch 0 ≤ (ts.foldl Store.commit s).commits.getD ch 0 := by
  induction ts with
  | nil => intro s _ ch; exact Nat.le_refl _
  | cons t ts ih =>
    intro s h ch
    exact Nat.le_trans (commit_getD_mono s t h ch) (ih _ (commit_idsOK s t h) ch)



/-- the id of every entry the chunk loop emits is stored with the entry's chunk when the loop ends (or a later one is) -/
theorem loopEmitted_le_commits (cr : Bool) (cs : List Nat) :
    ∀ (s : Store) (ups : List Buf), IdsOK s → (∀ c ∈ cs, c < s.commits.size) →
      ∀ e ∈ loopEmitted cr cs s ups, e.id ≤ (commitLoop cr cs s ups).1.commits.getD e.chunk 0 := by
  induction cs with
  | nil => intro s ups _ _ e he; cases he
  | cons c cs ih =>
    intro s ups h hlt e he
    rw [commitLoop_cons]
    rw [loopEmitted_cons] at he
    have h1 := commitChunk_idsOK s c cr ups h
    rcases List.mem_append.1 he with he | he
    · rcases chunkEmitted_cases cr c s ups with hce | ⟨hce, _⟩ <;> rw [hce] at he
      · rw [List.mem_singleton.1 he]
        refine Nat.le_trans ?_ (commitLoop_getD_mono cr cs _ _ h1 c)
        rw [commitChunk_getD, if_pos ⟨rfl, hlt c (by simp)⟩]
        exact Nat.le_refl _
      · cases he
    · exact ih _ _ h1 (fun c2 hc2 => by rw [commitChunk_commits_size]; exact hlt c2 (by simp [hc2])) e he

theorem emittedBy_le_commits (p : Store) (t : Txn) (h : IdsOK p) :
    ∀ e ∈ emittedBy p t, e.id ≤ (p.commit t).commits.getD e.chunk 0 := by
  intro e he
  rw [commit_eq']
  exact loopEmitted_le_commits _ _ _ _ (capStore_idsOK p t h) (capStore_dirty_lt p t) e he

/-- **entries logged before the state was taken fail the id test**: after the commits `ts`, every entry they emitted has an
    id at most the id stored with its chunk -/
theorem emittedByAll_le_commits (ts : List Txn) :
    ∀ (p : Store), IdsOK p → ∀ e ∈ emittedByAll p ts, e.id ≤ (ts.foldl Store.commit p).commits.getD e.chunk 0 := by
  induction ts with
  | nil => intro p _ e he; cases he
  | cons t ts ih =>
    intro p h e he
    simp only [emittedByAll] at he
    simp only [List.foldl_cons]
    rcases List.mem_append.1 he with he | he
    · exact Nat.le_trans (emittedBy_le_commits p t h e he) (commits_getD_mono ts _ (commit_idsOK p t h) e.chunk)
    · exact ih _ (commit_idsOK p t h) e he

theorem emittedByAll_append (ts1 ts2 : List Txn) :
    ∀ (p : Store), emittedByAll p (ts1 ++ ts2) = emittedByAll p ts1 ++ emittedByAll (ts1.foldl Store.commit p) ts2 := by
  induction ts1 with
  | nil => intro p; rfl
  | cons t ts1 ih =>
    intro p
    simp only [List.cons_append, emittedByAll, List.foldl_cons]
    rw [ih, List.append_assoc]

/-! ## D — reads in sync: the bytes an absent slot holds are ignored (`SlotRd`, `RdSync`)

`NumSync` asks for equal slots, raw bytes of ABSENT slots included. `Delete` leaves the bytes of the slot in place, and a later
`Merge` on the primary merges into them — but what reaches the log is the `Put` of the result. So a replica whose absent slots
hold other bytes (a restored state: none) still reads like the primary after every replay: `SlotRd` of every slot is one more
relation a lock-step pass keeps (`passInv_rd`). -/

/-- two slots read the same: the same presence bit, and the same bytes when present (the bytes an absent slot still holds
    — `Delete` leaves them — are ignored) -/
def SlotRd (a b : Bool × Bytes) : Prop := a.1 = b.1 ∧ (a.1 = true → a.2 = b.2)

theorem SlotRd.of_eq {a b : Bool × Bytes} (h : a = b) : SlotRd a b := VisEq.of_eq h

theorem applyData_rd_slot (hash hash2 : Bytes → Nat) (k k2 : NumKind) (c c2 : Col) (chunk : Nat) (ops : List Op) (i : Nat)
    (hk : c.kind = .num k) (hk2 : c2.kind = .num k2) (hc : chunk < c.nchunks) (hc2 : chunk < c2.nchunks)
    (hin : InBounds c ops) (hin2 : InBounds c2 ops) (hs : SlotRd (slot c2 i) (slot c i)) :
    SlotRd (slot (applyData hash2 c2 chunk (applyData hash c chunk ops).ops).col i) (slot (applyData hash c chunk ops).col i) := by
  rw [applyData_num hash c k hk chunk hc ops, applyData_num hash2 c2 k2 hk2 chunk hc2]
  exact foldCol_replay_vis k k2 ops c c2 i hin hin2 (Or.inr hs)

def ReadsEq (cp cq : Col) : Prop := ∀ i, SlotRd (slot cq i) (slot cp i)

theorem passInv_rd (k k2 : NumKind) (cs : List Nat) : PassInv (.num k) (.num k2) cs ReadsEq :=
  ⟨fun hash hash2 cp cq ch ops _ hkp hkq hc hc2 hw hw2 hco _ hs i =>
      applyData_rd_slot hash hash2 k k2 cp cq ch ops i hkp hkq hc hc2 (inBounds_of_chunk cp ch ops hw hc hco)
        (inBounds_of_chunk cq ch ops hw2 hc2 hco) (hs i),
    fun _ _ _ _ h1 _ h2 _ h i => by rw [h1, h2]; exact h i⟩

/-- the numeric column `x` of the replica `r` READS like the primary's: as `NumSync`, but an absent slot may hold different
    stale bytes on the two sides (`SlotRd`) -/
def RdSync (x : String) (p r : Store) : Prop :=
  ∃ cp cq k k2, p.findCol x = some cp ∧ r.findCol x = some cq ∧ cp.kind = .num k ∧ cq.kind = .num k2 ∧
    ColWF cp ∧ ColWF cq ∧ p.commits.size ≤ cp.nchunks ∧ r.commits.size ≤ cq.nchunks ∧
    ∀ i, SlotRd (slot cq i) (slot cp i)

theorem rdSync_iff {x : String} {p r : Store} : RdSync x p r ↔ ∃ k k2, SyncBy (.num k) (.num k2) ReadsEq x p r :=
  ⟨fun ⟨cp, cq, k, k2, h⟩ => ⟨k, k2, cp, cq, h⟩, fun ⟨k, k2, cp, cq, h⟩ => ⟨cp, cq, k, k2, h⟩⟩

theorem NumSync.rd {x : String} {p r : Store} (h : NumSync x p r) : RdSync x p r := by
  obtain ⟨cp, cq, k, k2, h1, h2, h3, h4, h5, h6, h7, h8, hs⟩ := h
  exact ⟨cp, cq, k, k2, h1, h2, h3, h4, h5, h6, h7, h8, fun i => SlotRd.of_eq (hs i)⟩

theorem RdSync.read {x : String} {p r : Store} (h : RdSync x p r) :
    ∃ cp cq, p.findCol x = some cp ∧ r.findCol x = some cq ∧ ∀ i, cq.read i = cp.read i := by
  obtain ⟨cp, cq, k, k2, hfp, hfr, hkp, hkr, hwp, hwr, _, _, hs⟩ := h
  refine ⟨cp, cq, hfp, hfr, fun i => ?_⟩
  rw [read_num_wf cq k2 hkr hwr, read_num_wf cp k hkp hwp]
  obtain ⟨h1, h2⟩ := hs i
  by_cases hb : (slot cq i).1 = true
  · rw [if_pos hb, if_pos (h1 ▸ hb), h2 hb]
  · rw [if_neg hb, if_neg (h1 ▸ hb)]

theorem commits_replay_rd (x : String) (hxr : x ≠ rowColumn) (kd : LoggerKind) (ts : List Txn)
    (p r : Store) (hckp : ComputedKinds p) (hckr : ComputedKinds r) (hok : ∀ t ∈ ts, TxnOK x t)
    (hdl : ∀ e ∈ emittedByAll p ts, Delivers e.updates e.chunk (e.received kd)) (h : RdSync x p r) :
    RdSync x (ts.foldl Store.commit p) (replayAll kd r (emittedByAll p ts)) := by
  obtain ⟨k, k2, h⟩ := rdSync_iff.1 h
  exact rdSync_iff.2 ⟨k, k2, commits_replay_by (kindsMatch_num rfl rfl) (passInv_rd k k2) x hxr kd ts p r hckp hckr hok
    hdl h (fun _ _ => Or.inl ⟨nofun, nofun⟩)⟩

/-! ## E — `readState` of a snapshot into a fresh target: `RdSync`, `NumSync`, `FillSync` -/

/-- `readState` is a sequence of commits: what every commit keeps, it keeps -/
theorem readState_invariant (P : Store → Prop) (hP : ∀ s t, P s → P (s.commit t)) (s0 : Store) (snap : Snap) (h : P s0) :
    P (s0.readState snap) :=
  foldl_invariant P _ _ s0 h (fun s _ _ hs => hP s _ hs)

theorem readState_computedKinds (s0 : Store) (snap : Snap) (h : ComputedKinds s0) : ComputedKinds (s0.readState snap) :=
  readState_invariant ComputedKinds commit_computedKinds s0 snap h

theorem readState_idsOK (s0 : Store) (snap : Snap) (h : IdsOK s0) : IdsOK (s0.readState snap) :=
  readState_invariant IdsOK commit_idsOK s0 snap h

theorem num_notComputed (s0 : Store) (hck : ComputedKinds s0) (x : String) (c0 : Col) (k : NumKind)
    (hf0 : s0.findCol x = some c0) (hk0 : c0.kind = .num k) : ∀ n c', s0.findCol n = some c' → x ∉ c'.computed := by
  intro n c' hc hx
  have := hck n c' hc x hx c0 hf0
  rw [hk0] at this
  cases this

/-- the fill list of the restored state: the set bits of the source (live rows of the source all in committed chunks,
    fill list of the target empty) -/
theorem fillSync_readState (s s0 : Store) (hn : NamesDistinct s) (hr : s.findCol rowColumn = none)
    (hcommitted : ∀ j, Bits.get s.fill j = true → j / 16384 < s.nChunks)
    (hfresh : ∀ j, Bits.get s0.fill j = false) : FillSync s (s0.readState (s.snapshot).1) := by
  intro j
  rw [readState_snapshot, readState_fill_upTo s s0 hn hr s.nChunks j, hfresh j]
  by_cases hb : Bits.get s.fill j = true
  · rw [if_pos ⟨hcommitted j hb, hb⟩, hb]
  · rw [if_neg (fun h => hb h.2)]
    simpa using hb

theorem readState_num (s s0 : Store) (x : String) (k : NumKind) (c c0 : Col)
    (hn : NamesDistinct s) (hr : s.findCol rowColumn = none)
    (hf : s.findCol x = some c) (hk : c.kind = .num k) (hcovc : s.commits.size ≤ c.nchunks)
    (hf0 : s0.findCol x = some c0) (hk0 : c0.kind = .num k) (hw0 : ColWF c0) (hcov0 : s0.commits.size ≤ c0.nchunks)
    (hck0 : ComputedKinds s0) :
    ∃ col', (s0.readState (s.snapshot).1).findCol x = some col' ∧ col'.kind = .num k ∧ ColWF col' ∧
      (s0.readState (s.snapshot).1).commits.size ≤ col'.nchunks ∧
      ∀ i, slot col' i =
        if i / 16384 < s.nChunks ∧ Bits.get c.bits i = true then (true, padTo k.width (c.data.getD i [])) else slot c0 i := by
  rw [readState_snapshot]
  obtain ⟨col', f, k', _, w', cv', _, _, _, sl⟩ := readState_upTo s s0 x k c c0 hn hr hf hk hcovc hf0 hk0 hw0 hcov0
    (num_notComputed s0 hck0 x c0 k hf0 hk0) s.nChunks (Nat.le_refl _)
  exact ⟨col', f, k', w', cv', sl⟩

/-- **the restored state is in sync with the source** (numeric column `x`, every slot: presence bit and raw bytes).
    Source `s`: distinct names, no column called `row`, `x` well-formed and covering the committed chunks, present slots
    hold a value (`hcanon`), no present slot beyond the committed chunks (`hlive`), absent slots hold no stale bytes
    (`hclean`). Target `s0`: the same column, no slot present, no bytes (`hfresh`, `hfreshd`). -/
theorem numSync_readState (s s0 : Store) (x : String) (k : NumKind) (c c0 : Col)
    (hn : NamesDistinct s) (hr : s.findCol rowColumn = none)
    (hf : s.findCol x = some c) (hk : c.kind = .num k) (hwc : ColWF c) (hcovc : s.commits.size ≤ c.nchunks)
    (hf0 : s0.findCol x = some c0) (hk0 : c0.kind = .num k) (hw0 : ColWF c0) (hcov0 : s0.commits.size ≤ c0.nchunks)
    (hck0 : ComputedKinds s0)
    (hcanon : ∀ i, Bits.get c.bits i = true → c.data.getD i [] ≠ [])
    (hlive : ∀ i, Bits.get c.bits i = true → i / 16384 < s.nChunks)
    (hclean : ∀ i, Bits.get c.bits i = false → c.data.getD i [] = [])
    (hfresh : ∀ i, Bits.get c0.bits i = false) (hfreshd : ∀ i, c0.data.getD i [] = []) :
    NumSync x s (s0.readState (s.snapshot).1) := by
  obtain ⟨col', f, k', w', cv', sl⟩ := readState_num s s0 x k c c0 hn hr hf hk hcovc hf0 hk0 hw0 hcov0 hck0
  refine ⟨c, col', k, k, hf, f, hk, k', hwc, w', hcovc, cv', fun i => ?_⟩
  rw [sl i]
  by_cases hb : Bits.get c.bits i = true
  · rw [if_pos ⟨hlive i hb, hb⟩, padTo_of_ne_nil _ _ (hcanon i hb)]
    unfold slot
    rw [hb, getD_eq]
  · rw [if_neg (fun h => hb h.2)]
    have hb' : Bits.get c.bits i = false := by simpa using hb
    unfold slot
    rw [hb', hfresh i, ← getD_eq, ← getD_eq, hclean i hb', hfreshd i]

/-- **the restored state reads like the source** — no condition on the bytes absent slots hold on either side -/
theorem rdSync_readState (s s0 : Store) (x : String) (k : NumKind) (c c0 : Col)
    (hn : NamesDistinct s) (hr : s.findCol rowColumn = none)
    (hf : s.findCol x = some c) (hk : c.kind = .num k) (hwc : ColWF c) (hcovc : s.commits.size ≤ c.nchunks)
    (hf0 : s0.findCol x = some c0) (hk0 : c0.kind = .num k) (hw0 : ColWF c0) (hcov0 : s0.commits.size ≤ c0.nchunks)
    (hck0 : ComputedKinds s0)
    (hcanon : ∀ i, Bits.get c.bits i = true → c.data.getD i [] ≠ [])
    (hlive : ∀ i, Bits.get c.bits i = true → i / 16384 < s.nChunks)
    (hfresh : ∀ i, Bits.get c0.bits i = false) :
    RdSync x s (s0.readState (s.snapshot).1) := by
  obtain ⟨col', f, k', w', cv', sl⟩ := readState_num s s0 x k c c0 hn hr hf hk hcovc hf0 hk0 hw0 hcov0 hck0
  refine ⟨c, col', k, k, hf, f, hk, k', hwc, w', hcovc, cv', fun i => ?_⟩
  rw [sl i]
  by_cases hb : Bits.get c.bits i = true
  · rw [if_pos ⟨hlive i hb, hb⟩, padTo_of_ne_nil _ _ (hcanon i hb)]
    apply SlotRd.of_eq
    unfold slot
    rw [hb, getD_eq]
  · rw [if_neg (fun h => hb h.2)]
    have hb' : Bits.get c.bits i = false := by simpa using hb
    have e1 : (slot c0 i).1 = false := hfresh i
    have e2 : (slot c i).1 = false := hb'
    exact ⟨e1.trans e2.symm, fun h => by rw [e1] at h; cases h⟩

/-- a new collection registers `expire` only -/
theorem new_findCol_none (cap : Nat) (lg : LoggerKind) (hash : Bytes → Nat) (x : String) (hx : "expire" ≠ x) :
    (Store.new cap lg hash).findCol x = none := by
  rw [new_eq_createColumn, (createColumn_frame _ _ _ _).2.2.2.2.2 x hx]
  rfl

/-! ## F — what a commit keeps of the conditions on the source -/

/-- present slots hold a value: kept by every op whose `Put` carries a value, when merge results are never empty -/
theorem foldl_slotEffect_canon (m : Bytes → Bytes → Bytes) (w : Nat) (hmerge : ∀ v d, m v d ≠ []) (L : List Op)
    (hput : ∀ o ∈ L, o.typ = opPut → valRaw o.val ≠ []) :
    ∀ (st : Bool × Bytes), (st.1 = true → st.2 ≠ []) →
      (L.foldl (slotEffect m w) st).1 = true → (L.foldl (slotEffect m w) st).2 ≠ [] := by
  induction L with
  | nil => intro st h; exact h
  | cons o L ih =>
    intro st h
    simp only [List.foldl_cons]
    apply ih (fun o' ho' => hput o' (by simp [ho']))
    unfold slotEffect
    by_cases h1 : o.typ = opPut
    · rw [if_pos h1]; exact fun _ => hput o (by simp) h1
    · rw [if_neg h1]
      by_cases h2 : o.typ = opMerge
      · rw [if_pos h2]; exact fun _ => hmerge _ _
      · rw [if_neg h2]
        by_cases h3 : o.typ = opDelete
        · rw [if_pos h3]; intro hb; cases hb
        · rw [if_neg h3]; exact h

theorem addressed_lt_nChunks (s : Store) (t : Txn) (L : List Op) (hL : ∀ o ∈ L, chunkOf o.idx ∈ t.dirtyChunks) (i : Nat)
    (hne : L.filter (fun o => o.idx = i) ≠ []) : i / 16384 < (s.commit t).nChunks := by
  obtain ⟨o, ho⟩ := List.exists_mem_of_ne_nil _ hne
  obtain ⟨ho1, ho2⟩ := List.mem_filter.1 ho
  have hd := hL o ho1
  rw [show o.idx = i by simpa using ho2] at hd
  exact commit_dirty_lt s t _ hd

/-- **the numeric column after a commit**: still registered, numeric, well-formed, covering; present slots hold a value
    (every `Put` carries one, merge results are never empty); no present slot beyond the committed chunks -/
theorem commit_num_source (s : Store) (t : Txn) (x : String) (k : NumKind) (col : Col)
    (hxr : x ≠ rowColumn) (hf : s.findCol x = some col) (hk : col.kind = .num k) (hw : ColWF col)
    (hcov : s.commits.size ≤ col.nchunks) (hck : ComputedKinds s) (hinv : ∀ v ∈ t.updates, ChunkOK v)
    (hput : ∀ o ∈ markerAll t.updates ++ allFor t.updates x, o.typ = opPut → valRaw o.val ≠ [])
    (hmerge : ∀ v d, col.merge v d ≠ [])
    (hcanon : ∀ i, Bits.get col.bits i = true → col.data.getD i [] ≠ [])
    (hlive : ∀ i, Bits.get col.bits i = true → i / 16384 < s.nChunks) :
    ∃ col', (s.commit t).findCol x = some col' ∧ col'.kind = .num k ∧ col'.merge = col.merge ∧ ColWF col' ∧
      (s.commit t).commits.size ≤ col'.nchunks ∧
      (∀ i, Bits.get col'.bits i = true → col'.data.getD i [] ≠ []) ∧
      (∀ i, Bits.get col'.bits i = true → i / 16384 < (s.commit t).nChunks) := by
  obtain ⟨col', f, k', m', w', n1, n2, sl⟩ := commit_readback s t x k col hxr hf hk hw hcov
    (notComputed_of_computedKinds s hck x col hf (by rw [hk]; rfl) t.updates) (fun v hv _ => hinv v hv)
  refine ⟨col', f, k', m', w', commit_cov s t col col' hcov n1 n2, fun i hb => ?_, fun i hb => ?_⟩
  · have h := foldl_slotEffect_canon col.merge k.width hmerge
      ((markerAll t.updates ++ allFor t.updates x).filter (fun o => o.idx = i))
      (fun o ho => hput o (List.mem_filter.1 ho).1) (slot col i)
      (fun hb0 => by
        show (col.data[i]?).getD [] ≠ []
        rw [← getD_eq]; exact hcanon i hb0)
    rw [← sl i] at h
    rw [getD_eq]
    exact h hb
  · by_cases hne : (markerAll t.updates ++ allFor t.updates x).filter (fun o => o.idx = i) = []
    · have e := sl i
      rw [hne] at e
      unfold slot at e
      exact Nat.lt_of_lt_of_le (hlive i ((Prod.mk.inj e).1.symm.trans hb)) (commit_size_mono s t)
    · exact addressed_lt_nChunks s t _ (issued_chunk_dirty t x (fun v hv _ => hinv v hv)) i hne

theorem commit_fill_committed (s : Store) (t : Txn) (hinv : ∀ v ∈ t.updates, ChunkOK v)
    (h : ∀ j, Bits.get s.fill j = true → j / 16384 < s.nChunks) :
    ∀ j, Bits.get (s.commit t).fill j = true → j / 16384 < (s.commit t).nChunks := by
  intro j hb
  rw [commit_fill s t (fun m hm _ => hinv m hm) j] at hb
  by_cases hne : (markerAll t.updates).filter (fun o => o.idx = j) = []
  · rw [hne] at hb
    exact Nat.lt_of_lt_of_le (h j hb) (commit_size_mono s t)
  · exact addressed_lt_nChunks s t _
      (fun o ho => issued_chunk_dirty t "" (fun v hv _ => hinv v hv) o (List.mem_append_left _ ho)) j hne

end ColumnVerif.Store
