import ColumnVerif.Conc.Machine
/-!
# Invariants of the commit-protocol machine (all schedules)

Each invariant is a `structure` of ∀-clauses over the world, with
* an `init_…` lemma (it holds in every `Init` world),
* a *frame* lemma: the invariant reads some fields of the world and some projection of the program
  counters (`wchunk`, `atA`, `owes`, `pendId`, …), and a step that leaves those unchanged keeps it.
  Every step has the form `{ w with …, pc := setPc w t p }`, so the pc part is `proj_setPc`;
* a `step_…` lemma. The few `Step` constructors that touch what the invariant reads are argued one by
  one: the acting thread against the others (`setPc_cases`), the chunk acted on against the others,
  `InvM.unique` to rule out a second thread inside the same latch. The frame lemma closes all the other
  constructors at once (`| _ =>`, the pc equation of the constructor being found by `assumption`).

`InvW` and `InvS` have the same shape: two per-chunk quantities agree (columns A and B; applied ids and
logger stream) unless some thread is inside a window of its commit on that chunk (`atA`, `owes`), and
then they differ by exactly that commit.

Dependencies: `InvM` (mutual exclusion) stands alone; `InvW`, `InvAcc`, `InvS` need `InvM`; `InvRd` needs
`InvM` and `InvW`; `InvIds` and `InvT` stand alone; `InvDesc` needs `InvM`, `InvIds` and
`cfg.idInsideLatch = true`. `Inv` bundles those that hold for every `ProtoCfg`; `reach_inv` /
`reach_invDesc` carry them along every run.
-/
namespace ColumnVerif.Conc

/-! ### classification of program counters -/

/-- the chunk whose write latch the pc implies -/
def wchunk : PC → Option Nat
  | .held c _ => some c
  | .loaded c _ _ => some c
  | .wroteAcc c _ => some c
  | .wroteA c _ => some c
  | .wroteB c _ => some c
  | .emitted c _ => some c
  | _ => none

/-- the chunk whose read latch the pc implies -/
def rchunk : PC → Option Nat
  | .rheld c => some c
  | .readA c _ => some c
  | .readAB c _ _ => some c
  | _ => none

/-- (chunk, id) of a commit that has written column A and not yet column B -/
def atA : PC → Option (Nat × Nat)
  | .wroteA c id => some (c, id)
  | _ => none

/-- an id drawn but not yet in an `applied` record -/
def pendId : PC → Option Nat
  | .pre _ (some id) => some id
  | .held _ (some id) => some id
  | .loaded _ id _ => some id
  | _ => none

/-- (chunk, id) of a commit applied (record appended) and not yet handed to the logger -/
def owes : PC → Option (Nat × Nat)
  | .wroteAcc c id => some (c, id)
  | .wroteA c id => some (c, id)
  | .wroteB c id => some (c, id)
  | _ => none

/-- the chunk the thread is committing (from `begin` to `release`) -/
def workChunk : PC → Option Nat
  | .pre c _ => some c
  | p => wchunk p

/-- 1 iff the commit of chunk `c` is past `storeAcc` and not yet released -/
def inflight (p : PC) (c : Nat) : Nat :=
  match p with
  | .wroteAcc d _ => if d = c then 1 else 0
  | .wroteA d _ => if d = c then 1 else 0
  | .wroteB d _ => if d = c then 1 else 0
  | .emitted d _ => if d = c then 1 else 0
  | _ => 0

/-- (chunk, id) of an id held inside the latch section, before `storeAcc` -/
def latchId : PC → Option (Nat × Nat)
  | .held c (some id) => some (c, id)
  | .loaded c id _ => some (c, id)
  | _ => none

section
variable {cfg : ProtoCfg} {merge : Nat → Nat → Nat} {w0 w w' : W}

theorem setPc_self (w : W) (t : Nat) (p : PC) : setPc w t p t = p := by simp [setPc]
theorem setPc_ne (w : W) {t u : Nat} (p : PC) (h : u ≠ t) : setPc w t p u = w.pc u := by
  simp [setPc, h]

theorem setPc_cases {α : Type} (f : PC → α) {w : W} {t u : Nat} {p : PC} {x : α}
    (h : f (setPc w t p u) = x) : u = t ∧ f p = x ∨ u ≠ t ∧ f (w.pc u) = x := by
  unfold setPc at h
  split at h
  · exact Or.inl ⟨‹_›, h⟩
  · exact Or.inr ⟨‹_›, h⟩

/-- A projection of the pc that the step of thread `t` (from `q` to `p`) does not change is unchanged
    for all threads. `f p = f q` holds by computation, but only once `p` is known from the goal: an
    explicit `rfl` would be elaborated too early and identify `p` with `q`. -/
theorem proj_setPc {α : Type} (f : PC → α) {w : W} {t : Nat} {p q : PC} (hpc : w.pc t = q)
    (h : f p = f q := by rfl) : ∀ u, f (setPc w t p u) = f (w.pc u) := by
  intro u
  unfold setPc
  split
  · next e => rw [e, hpc, h]
  · rfl

theorem setPc_back {w : W} {t u : Nat} {p q : PC} (h : setPc w t p u = q) (hne : p ≠ q := by simp) :
    w.pc u = q := by
  rcases setPc_cases (·) h with ⟨_, e⟩ | ⟨_, e⟩
  · exact absurd e hne
  · exact e

theorem setPc_keep (f : PC → Option (Nat × Nat)) {w : W} {t d : Nat} {p : PC}
    (ht : ∀ i, f (w.pc t) ≠ some (d, i)) :
    (∃ u i, f (w.pc u) = some (d, i)) → ∃ u i, f (setPc w t p u) = some (d, i) :=
  fun ⟨u, i, hu⟩ => ⟨u, i, by rwa [setPc_ne _ _ fun (e : u = t) => ht i (e ▸ hu)]⟩

theorem mem_push {α : Type} {a : Nat → List α} {c d : Nat} {x y : α} :
    y ∈ (if d = c then x :: a d else a d) ↔ d = c ∧ y = x ∨ y ∈ a d := by
  by_cases h : d = c <;> simp [h]

/-! ### M1 — mutual exclusion -/

structure InvM (w : W) : Prop where
  /-- a thread inside a write-latch section of `c` is the holder of `c` -/
  whold : ∀ t c, wchunk (w.pc t) = some c → w.holder c = some t
  /-- the holder of `c` is inside a write-latch section of `c` -/
  hpc : ∀ t c, w.holder c = some t → wchunk (w.pc t) = some c
  /-- a thread inside a read-latch section of `c` is registered as a reader of `c` -/
  rhold : ∀ t c, rchunk (w.pc t) = some c → t ∈ w.readers c
  /-- writers exclude readers -/
  excl : ∀ t c, w.holder c = some t → w.readers c = []

theorem InvM.frame (h : InvM w) (hh : w'.holder = w.holder) (hr : w'.readers = w.readers)
    (hw : ∀ u, wchunk (w'.pc u) = wchunk (w.pc u)) (hrc : ∀ u, rchunk (w'.pc u) = rchunk (w.pc u)) :
    InvM w' := by
  constructor
  · intro t c; rw [hw, hh]; exact h.whold t c
  · intro t c; rw [hw, hh]; exact h.hpc t c
  · intro t c; rw [hrc, hr]; exact h.rhold t c
  · intro t c; rw [hh, hr]; exact h.excl t c

theorem init_invM (hi : Init w) : InvM w := by
  refine ⟨fun t c h => ?_, fun t c h => ?_, fun t c h => ?_, fun _ c _ => hi.readers c⟩
  · rw [hi.pc] at h; cases h
  · rw [hi.holder] at h; cases h
  · rw [hi.pc] at h; cases h

theorem step_invM (h : InvM w) (hs : Step cfg merge w w') : InvM w' := by
  cases hs with
  | acquire t c id hpc hh hrd =>
    constructor <;> intro u d hu
    · rcases setPc_cases wchunk hu with ⟨rfl, e⟩ | ⟨_, hu⟩
      · cases e; exact if_pos rfl
      · have := h.whold u d hu
        have hdc : d ≠ c := fun e => by rw [e, hh] at this; cases this
        simpa only [hdc, if_false] using this
    · by_cases hdc : d = c
      · subst hdc; simp only [if_true, Option.some.injEq] at hu; subst hu; simp only [setPc_self]; rfl
      · simp only [hdc, if_false] at hu
        have := h.hpc u d hu
        have hut : u ≠ t := fun e => by rw [e, hpc] at this; cases this
        simpa only [setPc_ne _ _ hut] using this
    · exact h.rhold u d (by simpa only [proj_setPc rchunk (p := .held c id) hpc] using hu)
    · by_cases hdc : d = c
      · subst hdc; exact hrd
      · simp only [hdc, if_false] at hu; exact h.excl u d hu
  | release t c id hpc =>
    have hht := h.whold t c (hpc ▸ rfl)
    constructor <;> intro u d hu
    · rcases setPc_cases wchunk hu with ⟨rfl, e⟩ | ⟨hut, hu⟩
      · cases e
      · have := h.whold u d hu
        have hdc : d ≠ c := fun e => by rw [e, hht] at this; exact hut (Option.some.inj this).symm
        simpa only [hdc, if_false] using this
    · by_cases hdc : d = c
      · subst hdc; simp only [if_true] at hu; cases hu
      · simp only [hdc, if_false] at hu
        have := h.hpc u d hu
        have hut : u ≠ t := fun e => by rw [e, hpc] at this; exact hdc (Option.some.inj this).symm
        simpa only [setPc_ne _ _ hut] using this
    · exact h.rhold u d (by simpa only [proj_setPc rchunk (p := .idle) hpc] using hu)
    · by_cases hdc : d = c
      · subst hdc; simp only [if_true] at hu; cases hu
      · simp only [hdc, if_false] at hu; exact h.excl u d hu
  | racquire t c hpc _ hh =>
    constructor <;> intro u d hu
    · exact h.whold u d (by simpa only [proj_setPc wchunk (p := .rheld c) hpc] using hu)
    · simpa only [proj_setPc wchunk (p := .rheld c) hpc] using h.hpc u d hu
    · rcases setPc_cases rchunk hu with ⟨rfl, e⟩ | ⟨_, hu⟩
      · cases e; exact mem_push.mpr (Or.inl ⟨rfl, rfl⟩)
      · exact mem_push.mpr (Or.inr (h.rhold u d hu))
    · have hdc : d ≠ c := fun e => by rw [e, hh] at hu; cases hu
      simp only [hdc, if_false]; exact h.excl u d hu
  | rrelease t c a b hpc =>
    constructor <;> intro u d hu
    · exact h.whold u d (by simpa only [proj_setPc wchunk (p := .idle) hpc] using hu)
    · simpa only [proj_setPc wchunk (p := .idle) hpc] using h.hpc u d hu
    · rcases setPc_cases rchunk hu with ⟨rfl, e⟩ | ⟨hut, hu⟩
      · cases e
      · have := h.rhold u d hu
        by_cases hdc : d = c
        · subst hdc; simp only [if_true]; exact (List.mem_erase_of_ne hut).mpr this
        · simpa only [hdc, if_false] using this
    · have := h.excl u d hu
      by_cases hdc : d = c
      · subst hdc; simp only [if_true, this]; rfl
      · simpa only [hdc, if_false] using this
  | _ => exact h.frame rfl rfl (proj_setPc _ (by assumption)) (proj_setPc _ (by assumption))

theorem InvM.rd_free (h : InvM w) {t c : Nat} (hr : rchunk (w.pc t) = some c) :
    w.holder c = none := by
  have hm := h.rhold t c hr
  cases hh : w.holder c with
  | none => rfl
  | some u => rw [h.excl u c hh] at hm; cases hm

theorem InvM.unique {w : W} (h : InvM w) {t u c : Nat} (ht : wchunk (w.pc t) = some c)
    (hu : wchunk (w.pc u) = some c) : t = u := by
  have a := h.whold t c ht
  have b := h.whold u c hu
  rw [a] at b; simpa using b

theorem InvM.rd_ne (h : InvM w) {t u c d : Nat} (hw : wchunk (w.pc t) = some c)
    (hr : rchunk (w.pc u) = some d) : d ≠ c := fun e => by
  have := h.rd_free hr
  rw [e, h.whold t c hw] at this; cases this

/-! ### C10 — writer side: columns A and B agree outside the `writeA … writeB` window -/

structure InvW (w : W) : Prop where
  /-- the columns of a chunk agree unless a commit is between `writeA` and `writeB` on it … -/
  agree : ∀ c, w.colA c = w.colB c ∨ ∃ t id, atA (w.pc t) = some (c, id)
  /-- … and then column A already carries the commit's id -/
  colA : ∀ t c id, atA (w.pc t) = some (c, id) → w.colA c = id

theorem atA_eq {p : PC} {c id : Nat} (h : atA p = some (c, id)) : p = .wroteA c id := by
  cases p <;> cases h
  rfl

theorem InvW.same_free (h : InvW w) (hm : InvM w) (c : Nat) (hh : w.holder c = none) :
    w.colA c = w.colB c := by
  rcases h.agree c with e | ⟨t, id, hp⟩
  · exact e
  · have := hm.whold t c (atA_eq hp ▸ rfl)
    rw [hh] at this; cases this

theorem init_invW (hi : Init w) : InvW w := by
  refine ⟨fun c => Or.inl (hi.same c), fun t c id h => ?_⟩
  rw [hi.pc] at h; cases h

theorem InvW.frame (h : InvW w) (ha : w'.colA = w.colA) (hb : w'.colB = w.colB)
    (hp : ∀ u, atA (w'.pc u) = atA (w.pc u)) : InvW w' := by
  constructor
  · intro c; simp only [ha, hb, hp]; exact h.agree c
  · intro t c id; rw [hp, ha]; exact h.colA t c id

theorem step_invW (hm : InvM w) (h : InvW w) (hs : Step cfg merge w w') : InvW w' := by
  cases hs with
  | writeA t c id hpc =>
    refine ⟨fun d => ?_, fun u d i hu => ?_⟩
    · by_cases hdc : d = c
      · exact Or.inr ⟨t, id, by simp only [setPc_self, hdc]; rfl⟩
      · exact (h.agree d).imp (fun e => by simpa only [hdc, if_false] using e)
          (setPc_keep atA fun i e => by rw [hpc] at e; cases e)
    · rcases setPc_cases atA hu with ⟨rfl, e⟩ | ⟨hut, hu⟩
      · cases e; exact if_pos rfl
      · -- `u` is mid-commit on `d`, so `d` is not the chunk of `t`
        have hdc : d ≠ c := fun e => hut (hm.unique (by rw [atA_eq hu, e]; rfl) (by rw [hpc]; rfl))
        simp only [hdc, if_false]; exact h.colA u d i hu
  | writeB t c id hpc =>
    refine ⟨fun d => ?_, fun u d i hu => ?_⟩
    · by_cases hdc : d = c
      · subst hdc; exact Or.inl (by simp only [if_true]; exact h.colA t d id (hpc ▸ rfl))
      · exact (h.agree d).imp (fun e => by simpa only [hdc, if_false] using e)
          (setPc_keep atA fun i e => by rw [hpc] at e; cases e; exact hdc rfl)
    · rcases setPc_cases atA hu with ⟨_, e⟩ | ⟨_, hu⟩
      · cases e
      · exact h.colA u d i hu
  | _ => exact h.frame rfl rfl (proj_setPc _ (by assumption))

/-! ### C10 — reader side -/

structure InvRd (w : W) : Prop where
  /-- what a reader has read is still what the column holds (no writer can get in) -/
  readA : ∀ t c a, w.pc t = .readA c a → a = w.colA c
  readAB : ∀ t c a b, w.pc t = .readAB c a b → a = w.colA c ∧ b = w.colB c
  /-- every recorded observation shows one version -/
  obs : ∀ p ∈ w.obs, p.2.1 = p.2.2

theorem init_invRd (hi : Init w) : InvRd w := by
  refine ⟨fun t c a h => ?_, fun t c a b h => ?_, fun p hp => ?_⟩
  · rw [hi.pc] at h; cases h
  · rw [hi.pc] at h; cases h
  · rw [hi.obs] at hp; cases hp

/-- the columns may change, but not on a chunk somebody is reading -/
theorem InvRd.frame (h : InvRd w)
    (ha : ∀ u c, rchunk (w.pc u) = some c → w'.colA c = w.colA c)
    (hb : ∀ u c, rchunk (w.pc u) = some c → w'.colB c = w.colB c) (ho : w'.obs = w.obs)
    (hra : ∀ u c a, w'.pc u = .readA c a → w.pc u = .readA c a)
    (hrab : ∀ u c a b, w'.pc u = .readAB c a b → w.pc u = .readAB c a b) : InvRd w' := by
  refine ⟨fun t c a hp => ?_, fun t c a b hp => ?_, ho ▸ h.obs⟩
  · have hp := hra t c a hp
    rw [ha t c (hp ▸ rfl)]; exact h.readA t c a hp
  · have hp := hrab t c a b hp
    rw [ha t c (hp ▸ rfl), hb t c (hp ▸ rfl)]; exact h.readAB t c a b hp

theorem step_invRd (hm : InvM w) (hw : InvW w) (h : InvRd w) (hs : Step cfg merge w w') :
    InvRd w' := by
  cases hs with
  | writeA t c id hpc =>
    exact h.frame (fun _ _ hr => if_neg (hm.rd_ne (by rw [hpc]; rfl) hr)) (fun _ _ _ => rfl) rfl
      (fun _ _ _ => setPc_back) (fun _ _ _ _ => setPc_back)
  | writeB t c id hpc =>
    exact h.frame (fun _ _ _ => rfl) (fun _ _ hr => if_neg (hm.rd_ne (by rw [hpc]; rfl) hr)) rfl
      (fun _ _ _ => setPc_back) (fun _ _ _ _ => setPc_back)
  | rreadA t c hpc =>
    refine ⟨fun u d a hp => ?_, fun u d a b hp => h.readAB u d a b (setPc_back hp), h.obs⟩
    rcases setPc_cases (·) hp with ⟨_, e⟩ | ⟨_, hp⟩
    · cases e; rfl
    · exact h.readA u d a hp
  | rreadB t c a hpc =>
    refine ⟨fun u d a' hp => h.readA u d a' (setPc_back hp), fun u d a' b hp => ?_, h.obs⟩
    rcases setPc_cases (·) hp with ⟨rfl, e⟩ | ⟨_, hp⟩
    · cases e; exact ⟨h.readA u _ _ hpc, rfl⟩
    · exact h.readAB u d a' b hp
  | rrelease t c a b hpc =>
    refine ⟨fun u d a' hp => h.readA u d a' (setPc_back hp),
      fun u d a' b' hp => h.readAB u d a' b' (setPc_back hp), fun p hp => ?_⟩
    rcases List.mem_cons.mp hp with rfl | hp
    · -- the reader saw the current columns, and no writer holds the chunk
      obtain ⟨ha, hb⟩ := h.readAB t c a b hpc
      exact ha.trans ((hw.same_free hm c (hm.rd_free (by rw [hpc]; rfl))).trans hb.symm)
    · exact h.obs p hp
  | _ =>
    exact h.frame (fun _ _ _ => rfl) (fun _ _ _ => rfl) rfl (fun _ _ _ => setPc_back)
      (fun _ _ _ _ => setPc_back)

/-! ### C09 — the merged value is the fold of the applied commits -/

structure InvAcc (merge : Nat → Nat → Nat) (w0 w : W) : Prop where
  fold : ∀ c, w.acc c = foldAcc merge (w0.acc c) (w.applied c)
  /-- the value read by the first half of a merge is still current (the thread holds the latch) -/
  seen : ∀ t c id s, w.pc t = .loaded c id s → s = w.acc c

theorem init_invAcc (merge : Nat → Nat → Nat) (hi : Init w) : InvAcc merge w w := by
  refine ⟨fun c => ?_, fun t c id s h => ?_⟩
  · rw [hi.applied]; rfl
  · rw [hi.pc] at h; cases h

theorem InvAcc.frame (h : InvAcc merge w0 w) (hacc : w'.acc = w.acc) (ha : w'.applied = w.applied)
    (hl : ∀ u c id s, w'.pc u = .loaded c id s → w.pc u = .loaded c id s) : InvAcc merge w0 w' := by
  constructor
  · intro c; rw [hacc, ha]; exact h.fold c
  · intro t c id s hp; rw [hacc]; exact h.seen t c id s (hl t c id s hp)

theorem step_invAcc (hm : InvM w) (h : InvAcc merge w0 w) (hs : Step cfg merge w w') :
    InvAcc merge w0 w' := by
  cases hs with
  | load t c id hpc =>
    refine ⟨h.fold, fun u d i s hp => ?_⟩
    rcases setPc_cases (·) hp with ⟨_, e⟩ | ⟨_, hp⟩
    · cases e; rfl
    · exact h.seen u d i s hp
  | storeAcc t c id seen hpc =>
    refine ⟨fun d => ?_, fun u d i s hp => ?_⟩
    · by_cases hdc : d = c
      · subst hdc; simp only [if_true, foldAcc]; rw [← h.fold d, h.seen t d id seen hpc]
      · simp only [hdc, if_false]; exact h.fold d
    · rcases setPc_cases (·) hp with ⟨_, e⟩ | ⟨hut, hp⟩
      · cases e
      · have hdc : d ≠ c := fun e => hut (hm.unique (by rw [hp, e]; rfl) (by rw [hpc]; rfl))
        simp only [hdc, if_false]; exact h.seen u d i s hp
  | _ => exact h.frame rfl rfl (fun _ _ _ _ => setPc_back)

/-! ### C15-b — ids are fresh: bounded by the counter, above the initial counter, one owner each -/

structure InvIds (w0 w : W) : Prop where
  mono : w0.next ≤ w.next
  /-- an id a thread has drawn and not yet applied was drawn in this run … -/
  pend_bound : ∀ t id, pendId (w.pc t) = some id → w0.next < id ∧ id ≤ w.next
  /-- … is held by that thread only … -/
  pend_inj : ∀ t u id, pendId (w.pc t) = some id → pendId (w.pc u) = some id → t = u
  /-- … and is in no record yet -/
  pend_fresh : ∀ t id, pendId (w.pc t) = some id → ∀ c, ∀ r ∈ w.applied c, r.id ≠ id
  rec_bound : ∀ c, ∀ r ∈ w.applied c, w0.next < r.id ∧ r.id ≤ w.next
  /-- ids of records are globally distinct -/
  rec_inj : ∀ c d, ∀ r ∈ w.applied c, ∀ s ∈ w.applied d, r.id = s.id → c = d ∧ r = s
  nodup : ∀ c, (idsOf w c).Nodup

theorem init_invIds (hi : Init w) : InvIds w w := by
  refine ⟨Nat.le_refl _, fun t id h => ?_, fun t u id h => ?_, fun t id h => ?_, fun c r hr => ?_,
    fun c d r hr => ?_, fun c => ?_⟩
  · rw [hi.pc] at h; cases h
  · rw [hi.pc] at h; cases h
  · rw [hi.pc] at h; cases h
  · rw [hi.applied] at hr; cases hr
  · rw [hi.applied] at hr; cases hr
  · unfold idsOf; rw [hi.applied]; exact List.nodup_nil

theorem InvIds.frame (h : InvIds w0 w) (hn : w'.next = w.next) (ha : w'.applied = w.applied)
    (hp : ∀ u, pendId (w'.pc u) = pendId (w.pc u)) : InvIds w0 w' := by
  constructor
  · rw [hn]; exact h.mono
  · intro t id; rw [hp, hn]; exact h.pend_bound t id
  · intro t u id; rw [hp, hp]; exact h.pend_inj t u id
  · intro t id; rw [hp, ha]; exact h.pend_fresh t id
  · rw [ha, hn]; exact h.rec_bound
  · rw [ha]; exact h.rec_inj
  · intro c; unfold idsOf; rw [ha]; exact h.nodup c

/-- thread `t` draws the next id: it is above every id in use -/
theorem InvIds.draw (h : InvIds w0 w) (t : Nat) {p : PC} (hp : pendId p = some (w.next + 1)) :
    InvIds w0 { w with next := w.next + 1, pc := setPc w t p } := by
  have hm := h.mono
  refine ⟨Nat.le_succ_of_le hm, fun u id hu => ?_, fun u v id hu hv => ?_, fun u id hu d r hr => ?_,
    fun d r hr => ?_, h.rec_inj, h.nodup⟩
  · rcases setPc_cases pendId hu with ⟨_, e⟩ | ⟨_, hu⟩
    · cases hp.symm.trans e; exact ⟨Nat.lt_succ_of_le hm, Nat.le_refl _⟩
    · exact ⟨(h.pend_bound u id hu).1, Nat.le_succ_of_le (h.pend_bound u id hu).2⟩
  · rcases setPc_cases pendId hu with ⟨rfl, e⟩ | ⟨_, hu'⟩ <;>
      rcases setPc_cases pendId hv with ⟨rfl, e'⟩ | ⟨_, hv'⟩
    · rfl
    · cases hp.symm.trans e; exact absurd (h.pend_bound v _ hv').2 (Nat.not_succ_le_self _)
    · cases hp.symm.trans e'; exact absurd (h.pend_bound u _ hu').2 (Nat.not_succ_le_self _)
    · exact h.pend_inj u v id hu' hv'
  · rcases setPc_cases pendId hu with ⟨_, e⟩ | ⟨_, hu⟩
    · cases hp.symm.trans e; exact Nat.ne_of_lt (Nat.lt_succ_of_le (h.rec_bound d r hr).2)
    · exact h.pend_fresh u id hu d r hr
  · exact ⟨(h.rec_bound d r hr).1, Nat.le_succ_of_le (h.rec_bound d r hr).2⟩

theorem step_invIds (h : InvIds w0 w) (hs : Step cfg merge w w') : InvIds w0 w' := by
  cases hs with
  | beginEarlyId t c rest _ _ _ => exact h.draw t rfl
  | draw t c _ => exact h.draw t rfl
  | storeAcc t c id seen hpc =>
    have ht : pendId (w.pc t) = some id := hpc ▸ rfl
    have hcase : ∀ {u i}, pendId (setPc w t (.wroteAcc c id) u) = some i →
        u ≠ t ∧ pendId (w.pc u) = some i := fun hu => by
      rcases setPc_cases pendId hu with ⟨_, e⟩ | e
      · cases e
      · exact e
    refine ⟨h.mono, fun u i hu => h.pend_bound u i (hcase hu).2,
      fun u v i hu hv => h.pend_inj u v i (hcase hu).2 (hcase hv).2,
      fun u i hu d r hr => ?_, fun d r hr => ?_, fun d e r hr s hs he => ?_, fun d => ?_⟩
    · rcases mem_push.mp hr with ⟨_, rfl⟩ | hr
      · exact fun e => (hcase hu).1 (h.pend_inj u t i (hcase hu).2 (e ▸ ht))
      · exact h.pend_fresh u i (hcase hu).2 d r hr
    · rcases mem_push.mp hr with ⟨_, rfl⟩ | hr
      · exact h.pend_bound t id ht
      · exact h.rec_bound d r hr
    · rcases mem_push.mp hr with ⟨rfl, rfl⟩ | hr' <;> rcases mem_push.mp hs with ⟨rfl, rfl⟩ | hs'
      · exact ⟨rfl, rfl⟩
      · exact absurd he.symm (h.pend_fresh t id ht e s hs')
      · exact absurd he (h.pend_fresh t id ht d r hr')
      · exact h.rec_inj d e r hr' s hs' he
    · by_cases hdc : d = c
      · subst hdc
        simp only [idsOf, if_true, List.map_cons, List.nodup_cons]
        refine ⟨fun hmem => ?_, h.nodup d⟩
        obtain ⟨r, hr, e⟩ := List.mem_map.mp hmem
        exact h.pend_fresh t id ht d r hr e
      · simp only [idsOf, hdc, if_false]; exact h.nodup d
  | acquire t c id hpc _ _ => exact h.frame rfl rfl (proj_setPc _ hpc (by cases id <;> rfl))
  | _ => exact h.frame rfl rfl (proj_setPc _ (by assumption))

/-! ### C15-a — with the id drawn inside the latch, ids increase per chunk -/

structure InvDesc (w : W) : Prop where
  desc : ∀ c, Desc (idsOf w c)
  /-- no id is drawn before the latch is taken -/
  noEarly : ∀ t c id, w.pc t ≠ .pre c (some id)
  /-- an id drawn inside the latch section of `c` is above everything applied to `c` so far -/
  fresh : ∀ t c id, latchId (w.pc t) = some (c, id) → ∀ r ∈ w.applied c, r.id < id

theorem init_invDesc (hi : Init w) : InvDesc w := by
  refine ⟨fun c => ?_, fun t c id h => ?_, fun t c id h => ?_⟩
  · unfold idsOf; rw [hi.applied]; trivial
  · rw [hi.pc] at h; cases h
  · rw [hi.pc] at h; cases h

theorem wchunk_of_latchId {p : PC} {c id : Nat} (h : latchId p = some (c, id)) : wchunk p = some c := by
  unfold latchId at h
  split at h <;> cases h <;> rfl

theorem InvDesc.frame (h : InvDesc w) (ha : w'.applied = w.applied)
    (hl : ∀ u, latchId (w'.pc u) = latchId (w.pc u))
    (hpre : ∀ u c id, w'.pc u = .pre c (some id) → w.pc u = .pre c (some id)) : InvDesc w' := by
  constructor
  · intro c; unfold idsOf; rw [ha]; exact h.desc c
  · intro t c id e; exact h.noEarly t c id (hpre t c id e)
  · intro t c id; rw [hl, ha]; exact h.fresh t c id

theorem step_invDesc (hc : cfg.idInsideLatch = true) (hm : InvM w) (hi : InvIds w0 w) (h : InvDesc w)
    (hs : Step cfg merge w w') : InvDesc w' := by
  cases hs with
  | beginEarlyId t c rest _ _ hf => rw [hc] at hf; cases hf
  | acquire t c id hpc _ _ =>
    cases id with
    | some i => exact absurd hpc (h.noEarly t c i)
    | none => exact h.frame rfl (proj_setPc _ hpc) (fun _ _ _ => setPc_back)
  | draw t c hpc =>
    refine ⟨h.desc, fun u d i e => h.noEarly u d i (setPc_back e), fun u d i hu r hr => ?_⟩
    rcases setPc_cases latchId hu with ⟨_, e⟩ | ⟨_, hu⟩
    · cases e; exact Nat.lt_succ_of_le (hi.rec_bound _ r hr).2
    · exact h.fresh u d i hu r hr
  | storeAcc t c id seen hpc =>
    have hl : latchId (w.pc t) = some (c, id) := hpc ▸ rfl
    refine ⟨fun d => ?_, fun u d i e => h.noEarly u d i (setPc_back e), fun u d i hu r hr => ?_⟩
    · by_cases hdc : d = c
      · subst hdc
        simp only [idsOf, if_true, List.map_cons]
        refine ⟨fun x hx => ?_, h.desc d⟩
        obtain ⟨r, hr, rfl⟩ := List.mem_map.mp hx
        exact h.fresh t d id hl r hr
      · simp only [idsOf, hdc, if_false]; exact h.desc d
    · rcases setPc_cases latchId hu with ⟨_, e⟩ | ⟨hut, hu⟩
      · cases e
      · -- `u` is inside the latch section of `d`, so `d ≠ c` and `applied d` has not changed
        have hdc : d ≠ c := fun e =>
          hut (hm.unique (wchunk_of_latchId (e ▸ hu)) (wchunk_of_latchId hl))
        simp only [hdc, if_false] at hr; exact h.fresh u d i hu r hr
  | _ => exact h.frame rfl (proj_setPc _ (by assumption)) (fun _ _ _ => setPc_back)

/-! ### C15-c — the logger stream of a chunk is its apply order -/

/-- ids handed to the logger for chunk `c`, most recent first -/
def emittedOf (w : W) (c : Nat) : List Nat := (w.stream.filter (fun p => p.1 = c)).map (·.2)

structure InvS (w : W) : Prop where
  /-- the logger has everything applied to a chunk unless a commit is between `storeAcc` and `emit`
      on it … -/
  eq : ∀ c, emittedOf w c = idsOf w c ∨ ∃ t id, owes (w.pc t) = some (c, id)
  /-- … and then exactly that commit is missing -/
  pend : ∀ t c id, owes (w.pc t) = some (c, id) → idsOf w c = id :: emittedOf w c

theorem wchunk_of_owes {p : PC} {c id : Nat} (h : owes p = some (c, id)) : wchunk p = some c := by
  cases p <;> cases h <;> rfl

theorem init_invS (hi : Init w) : InvS w := by
  refine ⟨fun c => Or.inl ?_, fun t c id h => ?_⟩
  · unfold emittedOf idsOf; rw [hi.stream, hi.applied]; rfl
  · rw [hi.pc] at h; cases h

theorem InvS.frame (h : InvS w) (hs : w'.stream = w.stream) (ha : w'.applied = w.applied)
    (hp : ∀ u, owes (w'.pc u) = owes (w.pc u)) : InvS w' := by
  have e1 : ∀ c, emittedOf w' c = emittedOf w c := fun c => by unfold emittedOf; rw [hs]
  have e2 : ∀ c, idsOf w' c = idsOf w c := fun c => by unfold idsOf; rw [ha]
  constructor
  · intro c; simp only [e1, e2, hp]; exact h.eq c
  · intro t c id; rw [hp, e1, e2]; exact h.pend t c id

theorem step_invS (hm : InvM w) (h : InvS w) (hs : Step cfg merge w w') : InvS w' := by
  cases hs with
  | storeAcc t c id seen hpc =>
    have hw : wchunk (w.pc t) = some c := hpc ▸ rfl
    refine ⟨fun d => ?_, fun u d i hu => ?_⟩
    · by_cases hdc : d = c
      · exact Or.inr ⟨t, id, by simp only [setPc_self, hdc]; rfl⟩
      · exact (h.eq d).imp (fun e => by simpa only [idsOf, emittedOf, hdc, if_false] using e)
          (setPc_keep owes fun i e => by rw [hpc] at e; cases e)
    · rcases setPc_cases owes hu with ⟨rfl, e⟩ | ⟨hut, hu⟩
      · cases e
        simp only [idsOf, if_true, List.map_cons]
        -- before the step the logger had everything applied to `c`: nobody else is inside its latch
        rcases h.eq c with e | ⟨v, j, hv⟩
        · exact congrArg (id :: ·) e.symm
        · rw [hm.unique (wchunk_of_owes hv) hw, hpc] at hv; cases hv
      · have hdc : d ≠ c := fun e => hut (hm.unique (wchunk_of_owes (e ▸ hu)) hw)
        simpa only [idsOf, emittedOf, hdc, if_false] using h.pend u d i hu
  | emit t c id hpc =>
    have ht : owes (w.pc t) = some (c, id) := hpc ▸ rfl
    have hem : ∀ {d}, d ≠ c → ((c, id) :: w.stream).filter (·.1 = d) = w.stream.filter (·.1 = d) :=
      fun hdc => List.filter_cons_of_neg (by simpa using Ne.symm hdc)
    refine ⟨fun d => ?_, fun u d i hu => ?_⟩
    · by_cases hdc : d = c
      · subst hdc
        refine Or.inl ?_
        simp only [emittedOf, List.filter_cons, decide_true, if_true, List.map_cons]
        exact (h.pend t d id ht).symm
      · exact (h.eq d).imp (fun e => by simpa only [idsOf, emittedOf, hem hdc] using e)
          (setPc_keep owes fun i e => by rw [ht] at e; cases e; exact hdc rfl)
    · rcases setPc_cases owes hu with ⟨_, e⟩ | ⟨hut, hu⟩
      · cases e
      · have hdc : d ≠ c := fun e => hut (hm.unique (wchunk_of_owes (e ▸ hu)) (wchunk_of_owes ht))
        simpa only [idsOf, emittedOf, hem hdc] using h.pend u d i hu
  | _ => exact h.frame rfl rfl (proj_setPc _ (by assumption))

/-! ### C09 `applied_once` — every listed chunk of a transaction is applied exactly once -/

/-- number of records thread `t` has in `applied c` -/
def recsOf (w : W) (t c : Nat) : Nat := ((w.applied c).filter (fun r => r.tid = t)).length

structure InvT (w0 w : W) : Prop where
  /-- the chunk being committed is the head of the thread's `todo` -/
  head : ∀ t c, workChunk (w.pc t) = some c → ∃ rest, w.todo t = c :: rest
  /-- records + remaining occurrences = initial occurrences (+1 while the commit is applied but
      its chunk not yet popped from `todo`) -/
  count : ∀ t c, recsOf w t c + (w.todo t).count c = (w0.todo t).count c + inflight (w.pc t) c
  /-- the programs' deltas never change, and every record carries the delta of its thread -/
  delta : ∀ t, w.delta t = w0.delta t
  rec_delta : ∀ c, ∀ r ∈ w.applied c, r.delta = w0.delta r.tid

theorem init_invT (hi : Init w) : InvT w w := by
  refine ⟨fun t c h => ?_, fun t c => ?_, fun _ => rfl, fun c r hr => ?_⟩
  · rw [hi.pc] at h; cases h
  · unfold recsOf; rw [hi.applied, hi.pc]; exact Nat.zero_add _
  · rw [hi.applied] at hr; cases hr

theorem InvT.frame (h : InvT w0 w) (ht : w'.todo = w.todo) (ha : w'.applied = w.applied)
    (hd : w'.delta = w.delta) (hw : ∀ u, workChunk (w'.pc u) = workChunk (w.pc u))
    (hi : ∀ u, inflight (w'.pc u) = inflight (w.pc u)) : InvT w0 w' := by
  constructor
  · intro t c; rw [hw, ht]; exact h.head t c
  · intro t c; unfold recsOf; rw [ha, ht, hi]; exact h.count t c
  · intro t; rw [hd]; exact h.delta t
  · rw [ha]; exact h.rec_delta

/-- thread `t` turns to the head of its `todo` (with or without drawing an id) -/
theorem InvT.start (h : InvT w0 w) {t c : Nat} {rest : List Nat} (hpc : w.pc t = .idle)
    (htodo : w.todo t = c :: rest) (n : Nat) (id : Option Nat) :
    InvT w0 { w with next := n, pc := setPc w t (.pre c id) } := by
  refine ⟨fun u d hu => ?_, fun u d => ?_, h.delta, h.rec_delta⟩
  · rcases setPc_cases workChunk hu with ⟨rfl, e⟩ | ⟨_, hu⟩
    · cases e; exact ⟨rest, htodo⟩
    · exact h.head u d hu
  · simp only [proj_setPc inflight (p := .pre c id) hpc]; exact h.count u d

theorem step_invT (h : InvT w0 w) (hs : Step cfg merge w w') : InvT w0 w' := by
  cases hs with
  | begin t c rest hpc htodo _ => exact h.start hpc htodo _ _
  | beginEarlyId t c rest hpc htodo _ => exact h.start hpc htodo _ _
  | storeAcc t c id seen hpc =>
    refine ⟨fun u d hu => ?_, fun u d => ?_, h.delta, fun d r hr => ?_⟩
    · exact h.head u d (by simpa only [proj_setPc workChunk (p := .wroteAcc c id) hpc] using hu)
    · -- the new record and the new pc count for thread `t` and chunk `c` only
      have hc := h.count u d
      by_cases hut : u = t
      · subst hut
        simp only [recsOf, setPc_self, hpc, inflight] at hc ⊢
        by_cases hdc : d = c
        · subst hdc; simp only [if_true, List.filter_cons, decide_true, List.length_cons]; omega
        · simp only [hdc, if_false, Ne.symm hdc]; exact hc
      · simp only [recsOf, setPc_ne _ _ hut] at hc ⊢
        by_cases hdc : d = c
        · subst hdc
          simpa only [if_true, List.filter_cons, decide_eq_true_eq, Ne.symm hut, if_false] using hc
        · simpa only [hdc, if_false] using hc
    · rcases mem_push.mp hr with ⟨_, rfl⟩ | hr
      · exact h.delta t
      · exact h.rec_delta d r hr
  | release t c id hpc =>
    obtain ⟨rest, hrest⟩ := h.head t c (hpc ▸ rfl)
    refine ⟨fun u d hu => ?_, fun u d => ?_, h.delta, h.rec_delta⟩
    · rcases setPc_cases workChunk hu with ⟨_, e⟩ | ⟨hut, hu⟩
      · cases e
      · simp only [hut, if_false]; exact h.head u d hu
    · have hc := h.count u d
      by_cases hut : u = t
      · -- `c` leaves `todo t` as the commit stops being in flight
        subst hut
        rw [hpc, hrest] at hc
        simp only [recsOf, setPc_self, if_true, hrest, List.tail_cons, inflight, List.count_cons,
          beq_iff_eq] at hc ⊢
        omega
      · simp only [setPc_ne _ _ hut, hut, if_false]; exact hc
  | _ => exact h.frame rfl rfl rfl (proj_setPc _ (by assumption)) (proj_setPc _ (by assumption))

/-! ### all invariants along every run -/

/-- the invariants that hold for every protocol configuration -/
structure Inv (merge : Nat → Nat → Nat) (w0 w : W) : Prop where
  m : InvM w
  wr : InvW w
  rd : InvRd w
  acc : InvAcc merge w0 w
  ids : InvIds w0 w
  str : InvS w
  todo : InvT w0 w

theorem init_inv (merge : Nat → Nat → Nat) (hi : Init w) : Inv merge w w :=
  ⟨init_invM hi, init_invW hi, init_invRd hi, init_invAcc merge hi, init_invIds hi, init_invS hi,
    init_invT hi⟩

theorem step_inv (h : Inv merge w0 w) (hs : Step cfg merge w w') : Inv merge w0 w' :=
  ⟨step_invM h.m hs, step_invW h.m h.wr hs, step_invRd h.m h.wr h.rd hs, step_invAcc h.m h.acc hs,
    step_invIds h.ids hs, step_invS h.m h.str hs, step_invT h.todo hs⟩

theorem reach_inv (hi : Init w0) (hr : Reach cfg merge w0 w) : Inv merge w0 w := by
  induction hr with
  | refl => exact init_inv merge hi
  | step _ hs ih => exact step_inv ih hs

theorem reach_invDesc (hc : cfg.idInsideLatch = true) (hi : Init w0) (hr : Reach cfg merge w0 w) :
    InvDesc w := by
  induction hr with
  | refl => exact init_invDesc hi
  | step hr' hs ih => exact step_invDesc hc (reach_inv hi hr').m (reach_inv hi hr').ids ih hs

end

/-! ### a concrete world and run (non-vacuity witness shared by the property files) -/

namespace Demo

/-- threads 0 and 1 each commit chunk 0 (delta 5); every other thread only reads -/
def w0 : W where
  next := 0
  holder := fun _ => none
  readers := fun _ => []
  colA := fun _ => 0
  colB := fun _ => 0
  acc := fun _ => 0
  applied := fun _ => []
  stream := []
  obs := []
  pc := fun _ => .idle
  todo := fun t => if t < 2 then [0] else []
  delta := fun _ => 5

theorem init_w0 : Init w0 :=
  ⟨fun _ => rfl, fun _ => rfl, fun _ => rfl, rfl, rfl, fun _ => rfl, fun _ => rfl⟩

/-- thread 0 commits chunk 0 (id 1) — 9 steps —, then thread 2 reads chunk 0 — 4 steps -/
theorem run_good (cfg : ProtoCfg) (h : cfg.idInsideLatch = true) (merge : Nat → Nat → Nat) :
    ∃ w, Reach cfg merge w0 w ∧ idsOf w 0 = [1] ∧ w.stream = [(0, 1)] ∧ w.obs = [(0, 1, 1)] ∧
      w.acc 0 = merge 0 5 ∧ w.applied 0 = [⟨0, 1, 5⟩] ∧ w.pc 0 = .idle ∧ w.todo 0 = [] := by
  exact ⟨_, Reach.refl
    |>.step (.begin w0 0 0 [] rfl rfl h)
    |>.step (.acquire _ 0 0 none rfl rfl rfl)
    |>.step (.draw _ 0 0 rfl)
    |>.step (.load _ 0 0 1 rfl)
    |>.step (.storeAcc _ 0 0 1 0 rfl)
    |>.step (.writeA _ 0 0 1 rfl)
    |>.step (.writeB _ 0 0 1 rfl)
    |>.step (.emit _ 0 0 1 rfl)
    |>.step (.release _ 0 0 1 rfl)
    |>.step (.racquire _ 2 0 rfl rfl rfl)
    |>.step (.rreadA _ 2 0 rfl)
    |>.step (.rreadB _ 2 0 1 rfl)
    |>.step (.rrelease _ 2 0 1 1 rfl), rfl, rfl, rfl, rfl, rfl, rfl, rfl⟩

end Demo

end ColumnVerif.Conc
