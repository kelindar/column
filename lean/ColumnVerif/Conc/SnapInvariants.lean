import ColumnVerif.Conc.SnapMachine
/-!
# Invariants of the snapshot machine (all schedules) — property C08

The idea: under latch mutual exclusion (`InvM`) everything else the machine maintains is a statement
about *one chunk and the program counter of the writer that holds its latch* (`holderPc`, `idle` for a
free latch). `Chunk w c q` collects those statements, by cases on the phase `q` of the holder; the
invariant carried along every run is `Inv`: `InvM`, the snapshot thread's flags `InvR`, and
`Chunk w c (holderPc w c)` for every `c`.

A step of writer `t` on chunk `c` leaves `holderPc` and the fields of every other chunk alone
(`Inv.chunk_off`, `Chunk.frame`), so only chunk `c` is looked at, with the old and the new pc of `t` in
place of `q` (`Inv.section_step`): the clauses whose text does not change are taken over by
`{ hc with … }`, the others are the content of the step. The snapshot thread's steps change no pc; they touch the clauses that
read `recorder`, `spc`, `snapRead` and the ghosts.

The clauses of `Chunk`:
* content strictly decreasing, ids in `(0, next]`, `lastId` = head of the content or the id drawn and
  not yet applied;
* the log restricted to the chunk is strictly decreasing and contained in the content, and below the
  id of a commit whose append is still open;
* for a chunk read as `(l, cont)`: `newer log c l ++ cont` (what `Restore` would produce from the live
  log) is a suffix of the content; while the recorder is on it is the *whole* content, minus the commit
  of a holder that has applied and not yet appended (`tight`); a holder that saw the recorder on will
  append exactly the missing commit (`late`);
* after `sCopy` the restored block is a suffix of `contentAtCopy`, a suffix of the content;
* `doneBeforeOpen c` is a suffix of the finished part of the content, and of the content read.

"Suffix" (`<:+`) because lists are most-recent-first: a suffix is the chunk after a prefix of its
commits in apply order.

`InvC`, `InvL`, `InvN` state the same facts thread by thread (`∀ t c, IsDrawn (w.pc t) c id → …`);
they follow from `Inv` (`Inv.c`, `Inv.l`, `Inv.n`) since a thread inside the latch section of `c` is
the holder of `c`.
-/
namespace ColumnVerif.Conc.Snap

/-! ### classification of program counters -/

/-- the chunk whose write latch the pc implies -/
def latchChunk : WPC → Option Nat
  | .held c => some c
  | .drawn c _ => some c
  | .applied c _ => some c
  | .sawRecorder c _ _ => some c
  | .recorded c _ => some c
  | _ => none

/-- (chunk, id) of a commit that is applied while its latch section has not finished -/
def postId : WPC → Option (Nat × Nat)
  | .applied c id => some (c, id)
  | .sawRecorder c id _ => some (c, id)
  | .recorded c id => some (c, id)
  | _ => none

/-- (chunk, id) of a commit that is applied and whose log append is still open -/
def pendLog : WPC → Option (Nat × Nat)
  | .applied c id => some (c, id)
  | .sawRecorder c id _ => some (c, id)
  | _ => none

/-- the commit of the pc is applied (content extended), latch not yet released -/
def isPost : WPC → Bool
  | .applied _ _ => true
  | .sawRecorder _ _ _ => true
  | .recorded _ _ => true
  | _ => false

/-- the pc is inside the latch section of `c` -/
def InLatch (p : WPC) (c : Nat) : Prop := latchChunk p = some c
def IsHeld (p : WPC) (c : Nat) : Prop := p = .held c
def IsDrawn (p : WPC) (c id : Nat) : Prop := p = .drawn c id
def IsApplied (p : WPC) (c id : Nat) : Prop := p = .applied c id
def IsRecorded (p : WPC) (c id : Nat) : Prop := p = .recorded c id
/-- applied, latch section not finished -/
def IsPost (p : WPC) (c id : Nat) : Prop := postId p = some (c, id)
/-- applied, log append still open -/
def IsPend (p : WPC) (c id : Nat) : Prop := pendLog p = some (c, id)
def SawOn (p : WPC) (c id : Nat) : Prop := p = .sawRecorder c id true

theorem InLatch.inj {p : WPC} {c d : Nat} (hc : InLatch p c) (hd : InLatch p d) : c = d :=
  Option.some.inj (hc.symm.trans hd)

theorem IsPost.latch {p : WPC} {c id : Nat} (h : IsPost p c id) : InLatch p c := by
  cases p <;> simp_all [IsPost, postId, InLatch, latchChunk]
theorem IsPend.post {p : WPC} {c id : Nat} (h : IsPend p c id) : IsPost p c id := by
  cases p <;> simp_all [IsPend, pendLog, IsPost, postId]
theorem SawOn.pend {p : WPC} {c id : Nat} (h : SawOn p c id) : IsPend p c id := by cases h; rfl
theorem IsApplied.pend {p : WPC} {c id : Nat} (h : IsApplied p c id) : IsPend p c id := by
  cases h; rfl

theorem setPc_self (w : W) (t : Nat) (p : WPC) : setPc w t p t = p := by simp [setPc]
theorem setPc_ne (w : W) {t u : Nat} (p : WPC) (h : u ≠ t) : setPc w t p u = w.pc u := by
  simp [setPc, h]

theorem proj_setPc {α : Type} (f : WPC → α) {w : W} {t : Nat} {p : WPC} (h : f p = f (w.pc t))
    (u : Nat) : f (setPc w t p u) = f (w.pc u) := by
  by_cases hut : u = t
  · rw [hut, setPc_self, h]
  · rw [setPc_ne w p hut]

/-! ### the log of a chunk -/

/-- ids logged for chunk `c`, most recent first -/
def logOf (log : List (Nat × Nat)) (c : Nat) : List Nat := (log.filter (fun p => p.1 = c)).map (·.2)

/-- ids logged for chunk `c` that are newer than `l`, most recent first (what `Restore` replays) -/
def newer (log : List (Nat × Nat)) (c l : Nat) : List Nat :=
  (log.filter (fun p => p.1 = c ∧ p.2 > l)).map (·.2)

theorem logOf_cons_same (log : List (Nat × Nat)) (c id : Nat) :
    logOf ((c, id) :: log) c = id :: logOf log c := by simp [logOf]

theorem logOf_cons_ne (log : List (Nat × Nat)) {c d : Nat} (id : Nat) (h : c ≠ d) :
    logOf ((c, id) :: log) d = logOf log d := by simp [logOf, h]

theorem newer_cons_same (log : List (Nat × Nat)) {c id l : Nat} (h : l < id) :
    newer ((c, id) :: log) c l = id :: newer log c l := by simp [newer, h]

theorem newer_cons_ne (log : List (Nat × Nat)) {c d : Nat} (id l : Nat) (h : c ≠ d) :
    newer ((c, id) :: log) d l = newer log d l := by simp [newer, h]

theorem mem_logOf_of_mem_newer {log : List (Nat × Nat)} {c l x : Nat} (h : x ∈ newer log c l) :
    x ∈ logOf log c ∧ l < x := by
  simp only [newer, logOf, List.mem_map, List.mem_filter, decide_eq_true_eq] at *
  obtain ⟨p, ⟨hp, h1, h2⟩, rfl⟩ := h
  exact ⟨⟨p, ⟨hp, h1⟩, rfl⟩, h2⟩

theorem newer_eq_nil {log : List (Nat × Nat)} {c l : Nat} (h : ∀ x ∈ logOf log c, x ≤ l) :
    newer log c l = [] :=
  List.eq_nil_iff_forall_not_mem.2 fun x hx =>
    have ⟨hm, hl⟩ := mem_logOf_of_mem_newer hx
    Nat.not_le_of_lt hl (h x hm)

theorem restored_eq {w : W} {c l : Nat} {cont : List Nat} (h : w.snapRead c = some (l, cont)) :
    restored w c = some (newer w.snapLog c l ++ cont) := by
  unfold restored; rw [h]; rfl

theorem le_headD_of_mem {l : List Nat} (hs : l.Pairwise (· > ·)) {x : Nat} (hx : x ∈ l) :
    x ≤ l.headD 0 := by
  cases l with
  | nil => simp at hx
  | cons a t =>
    rcases List.mem_cons.1 hx with rfl | h
    · exact Nat.le_refl _
    · exact Nat.le_of_lt ((List.pairwise_cons.1 hs).1 x h)

theorem headD_lt_of_cons_append {id : Nat} {n cont : List Nat}
    (hs : (id :: (n ++ cont)).Pairwise (· > ·)) (hp : 0 < id) : cont.headD 0 < id := by
  cases cont with
  | nil => exact hp
  | cons a t => exact (List.pairwise_cons.1 hs).1 a (by simp)

theorem suffix_cons_of {α : Type} {l m : List α} (a : α) (h : l <:+ m) : l <:+ a :: m :=
  h.trans (List.suffix_cons a m)

theorem suffix_drop {α : Type} {l m : List α} (h : l <:+ m) : ∃ k, l = m.drop k :=
  ⟨_, List.suffix_iff_eq_drop.1 h⟩

/-! ### N1 — mutual exclusion of the chunk latch -/

structure InvM (w : W) : Prop where
  /-- a writer inside the latch section of `c` is the holder of `c` -/
  whold : ∀ t c, InLatch (w.pc t) c → w.holder c = some t
  /-- the holder of `c` is inside the latch section of `c` -/
  hpc : ∀ t c, w.holder c = some t → InLatch (w.pc t) c

theorem InvM.unique {w : W} (h : InvM w) {t u c : Nat} (ht : InLatch (w.pc t) c)
    (hu : InLatch (w.pc u) c) : t = u :=
  Option.some.inj ((h.whold t c ht).symm.trans (h.whold u c hu))

theorem init_invM {w : W} (hi : Init w) : InvM w := by
  constructor
  · intro t c h; rw [hi.pc] at h; cases h
  · intro t c h; rw [hi.holder] at h; cases h

theorem InvM.frame {w w' : W} (h : InvM w) (hh : w'.holder = w.holder)
    (hl : ∀ u, latchChunk (w'.pc u) = latchChunk (w.pc u)) : InvM w' := by
  constructor
  · intro t c ht; rw [hh]; exact h.whold t c ((hl t).symm.trans ht)
  · intro t c ht; exact (hl t).trans (h.hpc t c (hh ▸ ht))

theorem step_invM {w w' : W} (h : InvM w) (hs : Step w w') : InvM w' := by
  cases hs with
  | begin t c rest hpc htodo => exact h.frame rfl (proj_setPc latchChunk (by rw [hpc]; rfl))
  | acquire t c hpc hh =>
    constructor
    · intro u d (hu : InLatch (setPc w t (.held c) u) d)
      show (if d = c then some t else w.holder d) = some u
      by_cases hut : u = t
      · rw [hut, setPc_self] at hu
        rw [hut, if_pos (InLatch.inj hu rfl)]
      · rw [setPc_ne w _ hut] at hu
        have hd := h.whold u d hu
        rwa [if_neg fun e => by rw [e, hh] at hd; cases hd]
    · intro u d (hu : (if d = c then some t else w.holder d) = some u)
      show InLatch (setPc w t (.held c) u) d
      by_cases hd : d = c
      · rw [if_pos hd] at hu
        rw [← Option.some.inj hu, setPc_self, hd]; rfl
      · rw [if_neg hd] at hu
        -- `t` is outside every latch section, so it is not the holder of `d`
        rw [setPc_ne w _ fun e => by have := h.hpc u d hu; rw [e, hpc] at this; cases this]
        exact h.hpc u d hu
  | draw t c hpc => exact h.frame rfl (proj_setPc latchChunk (by rw [hpc]; rfl))
  | apply t c id hpc => exact h.frame rfl (proj_setPc latchChunk (by rw [hpc]; rfl))
  | loadRecorder t c id hpc => exact h.frame rfl (proj_setPc latchChunk (by rw [hpc]; rfl))
  | appendLog t c id hpc => exact h.frame rfl (proj_setPc latchChunk (by rw [hpc]; rfl))
  | skipLog t c id hpc => exact h.frame rfl (proj_setPc latchChunk (by rw [hpc]; rfl))
  | release t c id hpc =>
    have ht : InLatch (w.pc t) c := by rw [hpc]; rfl
    constructor
    · intro u d (hu : InLatch (setPc w t .idle u) d)
      show (if d = c then none else w.holder d) = some u
      by_cases hut : u = t
      · rw [hut, setPc_self] at hu; cases hu
      · rw [setPc_ne w _ hut] at hu
        have hd : d ≠ c := fun e => hut (h.unique (e ▸ hu) ht)
        rw [if_neg hd]
        exact h.whold u d hu
    · intro u d (hu : (if d = c then none else w.holder d) = some u)
      show InLatch (setPc w t .idle u) d
      by_cases hd : d = c
      · rw [if_pos hd] at hu; cases hu
      · rw [if_neg hd] at hu
        have hl := h.hpc u d hu
        have hut : u ≠ t := fun e => hd (InLatch.inj (e ▸ hl) ht)
        rwa [setPc_ne w _ hut]
  | sOpen chunks hspc => exact h.frame rfl fun _ => rfl
  | sRead c rest hspc hh => exact h.frame rfl fun _ => rfl
  | sClose hspc => exact h.frame rfl fun _ => rfl
  | sCopy hspc => exact h.frame rfl fun _ => rfl

/-! ### N2 — the recorder flag -/

structure InvR (w : W) : Prop where
  /-- the recorder is installed exactly between `sOpen` and `sClose` -/
  flag : w.recorder = match w.spc with | .opened _ => true | _ => false
  /-- nothing is read before the recorder is opened -/
  read_ns : w.spc = .notStarted → ∀ c, w.snapRead c = none
  /-- the snapshot's log is empty until `sCopy` -/
  snaplog : w.spc ≠ .copied → w.snapLog = []

theorem init_invR {w : W} (hi : Init w) : InvR w :=
  ⟨by rw [hi.recorder, hi.spc], fun _ => hi.snapRead, fun _ => hi.snapLog⟩

theorem step_invR {w w' : W} (h : InvR w) (hs : Step w w') : InvR w' := by
  cases hs with
  | sOpen chunks hspc => exact ⟨rfl, nofun, fun _ => h.snaplog (by rw [hspc]; nofun)⟩
  | sRead c rest hspc hh =>
    exact ⟨h.flag.trans (by rw [hspc]), nofun, fun _ => h.snaplog (by rw [hspc]; nofun)⟩
  | sClose hspc => exact ⟨rfl, nofun, fun _ => h.snaplog (by rw [hspc]; nofun)⟩
  | sCopy hspc => exact ⟨h.flag.trans (by rw [hspc]), nofun, fun hne => absurd rfl hne⟩
  | _ => exact ⟨h.flag, h.read_ns, h.snaplog⟩

/-! ### one chunk and the pc of its holder -/

/-- the pc of the writer that holds the latch of `c`; `idle` when the latch is free -/
def holderPc (w : W) (c : Nat) : WPC :=
  match w.holder c with
  | none => .idle
  | some t => w.pc t

theorem holderPc_free {w : W} {c : Nat} (h : w.holder c = none) : holderPc w c = .idle := by
  unfold holderPc; rw [h]

theorem holderPc_held {w : W} {t c : Nat} (h : w.holder c = some t) : holderPc w c = w.pc t := by
  unfold holderPc; rw [h]

theorem InvM.holderPc_off {w w' : W} (hm : InvM w) {t d : Nat} {p : WPC}
    (hnl : ¬ InLatch (w.pc t) d) (hho : w'.holder d = w.holder d) (hpc : w'.pc = setPc w t p) :
    holderPc w' d = holderPc w d := by
  unfold holderPc
  rw [hho, hpc]
  cases hh : w.holder d with
  | none => rfl
  | some u => exact setPc_ne w p fun e => hnl (e ▸ hm.hpc u d hh)

theorem finishedOf_eq (w : W) (c : Nat) :
    finishedOf w c = match holderPc w c with
      | .applied .. | .sawRecorder .. | .recorded .. => (w.content c).tail
      | _ => w.content c := by
  unfold finishedOf holderPc
  cases w.holder c with
  | none => rfl
  | some t => cases w.pc t <;> rfl

/-- What holds of chunk `c` while the holder of its latch is at `q` (`idle`: the latch is free).
    `R := newer w.log c l ++ cont` below is what `Restore` would make of a chunk read as `(l, cont)`
    with the log as it is.
    `generalizing := false`: otherwise each `match` abstracts the earlier fields that mention `q`, and
    the later fields come to depend on them. -/
structure Chunk (w : W) (c : Nat) (q : WPC) : Prop where
  sorted : (w.content c).Pairwise (· > ·)
  pos : ∀ x ∈ w.content c, 0 < x
  bound : ∀ x ∈ w.content c, x ≤ w.next
  last : match (generalizing := false) q with
    | .drawn _ id => w.lastId c = id ∧ id ≤ w.next ∧ 0 < id ∧ ∀ x ∈ w.content c, x < id
    | .applied _ id | .sawRecorder _ id _ | .recorded _ id =>
      w.lastId c = id ∧ (w.content c).head? = some id
    | _ => w.lastId c = (w.content c).headD 0
  log_sorted : (logOf w.log c).Pairwise (· > ·)
  log_mem : ∀ x ∈ logOf w.log c, x ∈ w.content c
  /-- a commit whose append is still open is newer than everything logged for its chunk -/
  pend : match (generalizing := false) q with
    | .applied _ id | .sawRecorder _ id _ => ∀ x ∈ logOf w.log c, x < id
    | _ => True
  /-- the id stored with the chunk is the head of the content read -/
  read_last : ∀ l cont, w.snapRead c = some (l, cont) → l = cont.headD 0
  suffix : ∀ l cont, w.snapRead c = some (l, cont) → newer w.log c l ++ cont <:+ w.content c
  /-- while the recorder is on, `R` lacks at most the commit the holder has applied and not yet
      appended; a holder that saw the recorder off took its latch before `sOpen`, so that its chunk
      cannot have been read -/
  tight : ∀ l cont, w.snapRead c = some (l, cont) → w.recorder = true →
    match (generalizing := false) q with
    | .applied _ id => w.content c = id :: (newer w.log c l ++ cont)
    | .sawRecorder _ _ on => on = true
    | _ => newer w.log c l ++ cont = w.content c
  /-- a holder that saw the recorder on will append the one missing commit, also after `sClose` -/
  late : ∀ l cont, w.snapRead c = some (l, cont) →
    match (generalizing := false) q with
    | .sawRecorder _ id on => on = true → w.content c = id :: (newer w.log c l ++ cont)
    | _ => True
  cut : w.spc = .copied → ∀ l cont, w.snapRead c = some (l, cont) →
    newer w.snapLog c l ++ cont <:+ w.contentAtCopy c
  atcopy : w.spc = .copied → w.contentAtCopy c <:+ w.content c
  done : w.spc ≠ .notStarted → w.doneBeforeOpen c <:+
    match (generalizing := false) q with
    | .applied .. | .sawRecorder .. | .recorded .. => (w.content c).tail
    | _ => w.content c
  /-- every commit finished before `sOpen` is in the content read -/
  done_read : ∀ l cont, w.snapRead c = some (l, cont) → w.doneBeforeOpen c <:+ cont

theorem Chunk.read_suffix {w : W} {c l : Nat} {q : WPC} {cont : List Nat} (h : Chunk w c q)
    (hr : w.snapRead c = some (l, cont)) : cont <:+ w.content c :=
  (List.suffix_append _ _).trans (h.suffix l cont hr)

theorem Chunk.post {w : W} {c id : Nat} {q : WPC} (h : Chunk w c q) (hq : IsPost q c id) :
    w.lastId c = id ∧ (w.content c).head? = some id := by
  have := h.last
  cases q <;> cases hq <;> exact this

theorem Chunk.pend_gt {w : W} {c id : Nat} {q : WPC} (h : Chunk w c q) (hq : IsPend q c id) :
    ∀ x ∈ logOf w.log c, x < id := by
  have := h.pend
  cases q <;> cases hq <;> exact this

theorem Chunk.last_head {w : W} {c : Nat} {q : WPC} (h : Chunk w c q) (hq : ∀ d id, q ≠ .drawn d id) :
    w.lastId c = (w.content c).headD 0 := by
  have := h.last
  cases q with
  | drawn d id => exact absurd rfl (hq d id)
  | applied | sawRecorder | recorded => rw [this.1, List.headD_eq_head?_getD, this.2]; rfl
  | _ => exact this

/-- The clauses read `next` (which only grows), the fields at `c`, the log through `logOf · c` and
    `newer · c`, and of `spc` whether it is `notStarted` or `copied`; they read neither `pc` nor `holder`.
    An agreement that is not given at a call holds by `rfl`. -/
theorem Chunk.frame {w w' : W} {c : Nat} {q : WPC} (h : Chunk w c q)
    (next : w.next ≤ w'.next := by exact Nat.le_refl _)
    (lastId : w'.lastId c = w.lastId c := by rfl)
    (content : w'.content c = w.content c := by rfl)
    (log : logOf w'.log c = logOf w.log c := by rfl)
    (replay : ∀ l, newer w'.log c l = newer w.log c l := by exact fun _ => rfl)
    (recorder : w'.recorder = w.recorder := by rfl)
    (snapRead : w'.snapRead c = w.snapRead c := by rfl)
    (started : w'.spc ≠ .notStarted → w.spc ≠ .notStarted := by exact fun h => h)
    (copied : w'.spc = .copied → w.spc = .copied := by exact fun h => h)
    (snapLog : w'.snapLog = w.snapLog := by rfl)
    (atCopy : w'.contentAtCopy c = w.contentAtCopy c := by rfl)
    (doneBefore : w'.doneBeforeOpen c = w.doneBeforeOpen c := by rfl) : Chunk w' c q :=
  {
    sorted := by rw [content]; exact h.sorted
    pos := by rw [content]; exact h.pos
    bound := by rw [content]; exact fun x hx => Nat.le_trans (h.bound x hx) next
    last := by
      have := h.last
      rw [content, lastId]
      cases q with
      | drawn d id => exact ⟨this.1, Nat.le_trans this.2.1 next, this.2.2⟩
      | _ => exact this
    log_sorted := by rw [log]; exact h.log_sorted
    log_mem := by rw [log, content]; exact h.log_mem
    pend := by rw [log]; exact h.pend
    read_last := by rw [snapRead]; exact h.read_last
    suffix := by simp only [snapRead, replay, content]; exact h.suffix
    tight := by simp only [snapRead, replay, content, recorder]; exact h.tight
    late := by simp only [snapRead, replay, content]; exact h.late
    cut := by rw [snapRead, snapLog, atCopy]; exact fun hc => h.cut (copied hc)
    atcopy := by rw [atCopy, content]; exact fun hc => h.atcopy (copied hc)
    done := by rw [doneBefore, content]; exact fun hs => h.done (started hs)
    done_read := by rw [snapRead, doneBefore]; exact h.done_read }

theorem init_chunk {w : W} (hi : Init w) (c : Nat) : Chunk w c (holderPc w c) := by
  obtain ⟨hb, hl, hs, hp⟩ := hi.content_ok c
  have hr : ∀ {l cont}, w.snapRead c ≠ some (l, cont) := by rw [hi.snapRead]; nofun
  have hc : w.spc ≠ .copied := by rw [hi.spc]; nofun
  rw [holderPc_free (hi.holder c)]
  exact {
    sorted := hs, pos := hp, bound := hb, last := hl
    log_sorted := by rw [hi.log]; exact List.Pairwise.nil
    log_mem := by rw [hi.log]; nofun
    pend := trivial
    read_last := fun _ _ h => absurd h hr
    suffix := fun _ _ h => absurd h hr
    tight := fun _ _ h => absurd h hr
    late := fun _ _ _ => trivial
    cut := fun h => absurd h hc
    atcopy := fun h => absurd h hc
    done := fun h => absurd hi.spc h
    done_read := fun _ _ h => absurd h hr }

/-! ### all invariants along every run -/

structure Inv (w : W) : Prop where
  m : InvM w
  r : InvR w
  chunk : ∀ c, Chunk w c (holderPc w c)

theorem init_inv {w : W} (hi : Init w) : Inv w :=
  ⟨init_invM hi, init_invR hi, init_chunk hi⟩

theorem Inv.chunk_at {w : W} (h : Inv w) {t c : Nat} {q : WPC} (hq : w.pc t = q) (hl : InLatch q c) :
    Chunk w c q := by
  subst hq
  have := h.chunk c
  rwa [holderPc_held (h.m.whold t c hl)] at this

theorem Inv.chunk_off {w w' : W} (h : Inv w) {t d : Nat} {p : WPC} (hnl : ¬ InLatch (w.pc t) d)
    (frame : Chunk w d (holderPc w d) → Chunk w' d (holderPc w d))
    (hpc : w'.pc = setPc w t p := by rfl) (holder : w'.holder d = w.holder d := by rfl) :
    Chunk w' d (holderPc w' d) :=
  h.m.holderPc_off hnl holder hpc ▸ frame (h.chunk d)

theorem Inv.section_step {w w' : W} (h : Inv w) {t c : Nat} {q p : WPC} (hq : w.pc t = q)
    (hl : InLatch q c) (off : ∀ d, d ≠ c → Chunk w d (holderPc w d) → Chunk w' d (holderPc w d))
    (at_c : Chunk w c q → Chunk w' c p)
    (hpc : w'.pc = setPc w t p := by rfl) (holder : w'.holder = w.holder := by rfl) (d : Nat) :
    Chunk w' d (holderPc w' d) := by
  by_cases hd : d = c
  · rw [hd, holderPc_held (holder ▸ h.m.whold t c (hq ▸ hl)), hpc, setPc_self]
    exact at_c (h.chunk_at hq hl)
  · exact h.chunk_off (fun hl' => hd (hl'.inj (hq ▸ hl))) (off d hd) hpc (holder ▸ rfl)

theorem step_chunk {w w' : W} (h : Inv w) (hs : Step w w') : ∀ d, Chunk w' d (holderPc w' d) := by
  cases hs with
  | begin t c rest hpc htodo => exact fun d => h.chunk_off (by rw [hpc]; nofun) (·.frame)
  | acquire t c hpc hh =>
    intro d
    by_cases hd : d = c
    · subst hd
      have hc := h.chunk d
      rw [holderPc_free hh] at hc
      rw [holderPc_held (t := t) (if_pos rfl)]
      show Chunk _ d (setPc w t (.held d) t)
      rw [setPc_self]
      exact { hc with }
    · exact h.chunk_off (by rw [hpc]; nofun) (·.frame) (holder := if_neg hd)
  | draw t c hpc =>
    exact h.section_step (p := .drawn c _) hpc rfl
      (fun d hd hc => hc.frame (next := Nat.le_succ _) (lastId := if_neg hd))
      fun hc => { hc with
        bound := fun x hx => Nat.le_succ_of_le (hc.bound x hx)
        last := ⟨if_pos rfl, Nat.le_refl _, Nat.succ_pos _,
          fun x hx => Nat.lt_succ_of_le (hc.bound x hx)⟩ }
  | apply t c id hpc =>
    refine h.section_step (p := .applied c id) hpc rfl
      (fun d hd hc => hc.frame (content := if_neg hd)) fun hc => ?_
    obtain ⟨hlast, hle, hpos, hgt⟩ := hc.last
    -- `Chunk` does not read the pcs: take a world in which the new content of `c` is in plain sight
    have hc' : Chunk { w with content := fun _ => id :: w.content c } c (.applied c id) := { hc with
      sorted := List.pairwise_cons.2 ⟨hgt, hc.sorted⟩
      pos := List.forall_mem_cons.2 ⟨hpos, hc.pos⟩
      bound := List.forall_mem_cons.2 ⟨hle, hc.bound⟩
      last := ⟨hlast, rfl⟩
      log_mem := fun x hx => List.mem_cons_of_mem _ (hc.log_mem x hx)
      pend := fun x hx => hgt x (hc.log_mem x hx)
      suffix := fun l cont hr => suffix_cons_of id (hc.suffix l cont hr)
      tight := fun l cont hr hrec => congrArg (id :: ·) (hc.tight l cont hr hrec).symm
      atcopy := fun hs => suffix_cons_of id (hc.atcopy hs) }
    exact hc'.frame (content := if_pos rfl)
  | loadRecorder t c id hpc =>
    exact h.section_step (p := .sawRecorder c id w.recorder) hpc rfl (fun d hd hc => hc.frame)
      fun hc => { hc with
        tight := fun _ _ _ hrec => hrec
        late := hc.tight }
  | appendLog t c id hpc =>
    refine h.section_step (p := .recorded c id) hpc rfl
      (fun d hd hc => hc.frame (log := logOf_cons_ne w.log id (Ne.symm hd))
        (replay := fun l => newer_cons_ne w.log id l (Ne.symm hd))) fun hc => ?_
    -- the appended id is newer than the id read, so that it is replayed: `R` becomes the content
    have full l cont (hr : w.snapRead c = some (l, cont)) :
        newer ((c, id) :: w.log) c l ++ cont = w.content c := by
      have e := hc.late l cont hr rfl
      have hs := hc.sorted
      rw [e] at hs
      have hlt : l < id := hc.read_last l cont hr ▸
        headD_lt_of_cons_append hs (hc.pos id (e ▸ List.mem_cons_self))
      rw [newer_cons_same w.log hlt, e]; rfl
    exact { hc with
      log_sorted := logOf_cons_same w.log c id ▸ List.pairwise_cons.2 ⟨hc.pend, hc.log_sorted⟩
      log_mem := logOf_cons_same w.log c id ▸
        List.forall_mem_cons.2 ⟨List.mem_of_head? hc.last.2, hc.log_mem⟩
      pend := trivial
      suffix := fun l cont hr => full l cont hr ▸ List.suffix_refl _
      tight := fun l cont hr _ => full l cont hr
      late := fun _ _ _ => trivial }
  | skipLog t c id hpc =>
    exact h.section_step (p := .recorded c id) hpc rfl (fun d hd hc => hc.frame)
      fun hc => { hc with
        pend := trivial
        tight := fun l cont hr hrec => nomatch hc.tight l cont hr hrec
        late := fun _ _ _ => trivial }
  | release t c id hpc =>
    intro d
    have hl : InLatch (w.pc t) c := by rw [hpc]; rfl
    by_cases hd : d = c
    · subst hd
      have hc := h.chunk_at hpc rfl
      rw [holderPc_free (if_pos rfl)]
      exact { hc with
        last := hc.last_head nofun
        done := fun hs => (hc.done hs).trans (List.tail_suffix _) }
    · exact h.chunk_off (fun hl' => hd (hl'.inj hl)) (·.frame) (holder := if_neg hd)
  | sOpen chunks hspc =>
    intro d
    have hc := h.chunk d
    have unread := h.r.read_ns hspc d
    exact { hc with
      tight := fun _ _ hr => nomatch unread.symm.trans hr
      cut := nofun
      atcopy := nofun
      done := fun _ => finishedOf_eq w d ▸ List.suffix_refl _
      done_read := fun _ _ hr => nomatch unread.symm.trans hr }
  | sRead c rest hspc hh =>
    intro d
    have hstart : w.spc ≠ .notStarted := by rw [hspc]; nofun
    by_cases hd : d = c
    · subst hd
      have hc := h.chunk d
      show Chunk _ d (holderPc w d)
      rw [holderPc_free hh] at hc ⊢
      have nil : newer w.log d (w.lastId d) = [] := newer_eq_nil fun x hx =>
        hc.last ▸ le_headD_of_mem hc.sorted (hc.log_mem x hx)
      have hc' : Chunk { w with snapRead := fun _ => some (w.lastId d, w.content d),
                                spc := .opened rest } d .idle := { hc with
        read_last := fun _ _ hr => by cases hr; exact hc.last
        suffix := fun _ _ hr => by cases hr; rw [nil]; exact List.suffix_refl _
        tight := fun _ _ hr _ => by cases hr; rw [nil]; rfl
        late := fun _ _ _ => trivial
        cut := nofun
        atcopy := nofun
        done := fun _ => hc.done hstart
        done_read := fun _ _ hr => by cases hr; exact hc.done hstart }
      exact hc'.frame (snapRead := if_pos rfl)
    · exact (h.chunk d).frame (snapRead := if_neg hd) (started := fun _ => hstart) (copied := nofun)
  | sClose hspc =>
    intro d
    have hc := h.chunk d
    exact { hc with
      tight := nofun
      cut := nofun
      atcopy := nofun
      done := fun _ => hc.done (by rw [hspc]; nofun) }
  | sCopy hspc =>
    intro d
    have hc := h.chunk d
    exact { hc with
      cut := fun _ => hc.suffix
      atcopy := fun _ => List.suffix_refl _
      done := fun _ => hc.done (by rw [hspc]; nofun) }

theorem step_inv {w w' : W} (h : Inv w) (hs : Step w w') : Inv w' :=
  ⟨step_invM h.m hs, step_invR h.r hs, step_chunk h hs⟩

theorem reach_inv {w0 w : W} (hi : Init w0) (hr : Reach w0 w) : Inv w := by
  induction hr with
  | refl => exact init_inv hi
  | step _ hs ih => exact step_inv ih hs

/-! ### N1, N3 — the same facts thread by thread -/

structure InvC (w : W) : Prop where
  sorted : ∀ c, (w.content c).Pairwise (· > ·)
  pos : ∀ c, ∀ x ∈ w.content c, 0 < x
  bound : ∀ c, ∀ x ∈ w.content c, x ≤ w.next
  /-- no writer, or a writer that has not drawn its id yet: `lastId` is the head of the content -/
  last_free : ∀ c, w.holder c = none → w.lastId c = (w.content c).headD 0
  last_held : ∀ t c, IsHeld (w.pc t) c → w.lastId c = (w.content c).headD 0
  /-- id drawn, not yet applied: `lastId` is that id, and it is above everything applied -/
  drawn_last : ∀ t c id, IsDrawn (w.pc t) c id → w.lastId c = id
  drawn_le : ∀ t c id, IsDrawn (w.pc t) c id → id ≤ w.next
  drawn_pos : ∀ t c id, IsDrawn (w.pc t) c id → 0 < id
  drawn_gt : ∀ t c id x, IsDrawn (w.pc t) c id → x ∈ w.content c → x < id
  /-- applied, latch not yet released: the id is `lastId` and the head of the content -/
  post_last : ∀ t c id, IsPost (w.pc t) c id → w.lastId c = id
  post_head : ∀ t c id, IsPost (w.pc t) c id → (w.content c).head? = some id

theorem Inv.c {w : W} (h : Inv w) : InvC w where
  sorted c := (h.chunk c).sorted
  pos c := (h.chunk c).pos
  bound c := (h.chunk c).bound
  last_free c hh := (holderPc_free hh ▸ h.chunk c).last
  last_held _ _ ht := (h.chunk_at ht rfl).last
  drawn_last _ _ _ ht := (h.chunk_at ht rfl).last.1
  drawn_le _ _ _ ht := (h.chunk_at ht rfl).last.2.1
  drawn_pos _ _ _ ht := (h.chunk_at ht rfl).last.2.2.1
  drawn_gt _ _ _ x ht := (h.chunk_at ht rfl).last.2.2.2 x
  post_last _ _ _ ht := ((h.chunk_at rfl ht.latch).post ht).1
  post_head _ _ _ ht := ((h.chunk_at rfl ht.latch).post ht).2

structure InvL (w : W) : Prop where
  /-- the logged ids of a chunk are strictly decreasing (most recent first) -/
  sorted : ∀ c, (logOf w.log c).Pairwise (· > ·)
  /-- every logged commit of a chunk has been applied to it -/
  mem : ∀ c x, x ∈ logOf w.log c → x ∈ w.content c
  /-- the commit of a writer that has not appended yet is newer than everything logged for its chunk -/
  pend_gt : ∀ t c id x, IsPend (w.pc t) c id → x ∈ logOf w.log c → x < id

theorem Inv.l {w : W} (h : Inv w) : InvL w where
  sorted c := (h.chunk c).log_sorted
  mem c := (h.chunk c).log_mem
  pend_gt _ _ _ x ht := (h.chunk_at rfl ht.post.latch).pend_gt ht x

/-- For a chunk that has been read as `(l, cont)`: `newer log c l ++ cont` (= what `Restore` would
    produce from the current log) is a suffix of the content; it is the *whole* content — minus the
    commit of the current holder while that is applied and not yet appended — as long as the recorder
    is on, and for a writer that saw the recorder on. -/
structure InvN (w : W) : Prop where
  suffix : ∀ c l cont, w.snapRead c = some (l, cont) → newer w.log c l ++ cont <:+ w.content c
  free : ∀ c l cont, w.snapRead c = some (l, cont) → w.recorder = true → w.holder c = none →
    newer w.log c l ++ cont = w.content c
  held : ∀ t c l cont, w.snapRead c = some (l, cont) → w.recorder = true → IsHeld (w.pc t) c →
    newer w.log c l ++ cont = w.content c
  drawn : ∀ t c id l cont, w.snapRead c = some (l, cont) → w.recorder = true →
    IsDrawn (w.pc t) c id → newer w.log c l ++ cont = w.content c
  recorded : ∀ t c id l cont, w.snapRead c = some (l, cont) → w.recorder = true →
    IsRecorded (w.pc t) c id → newer w.log c l ++ cont = w.content c
  applied : ∀ t c id l cont, w.snapRead c = some (l, cont) → w.recorder = true →
    IsApplied (w.pc t) c id → w.content c = id :: (newer w.log c l ++ cont)
  sawOn : ∀ t c id l cont, w.snapRead c = some (l, cont) →
    SawOn (w.pc t) c id → w.content c = id :: (newer w.log c l ++ cont)

theorem Inv.n {w : W} (h : Inv w) : InvN w where
  suffix c := (h.chunk c).suffix
  free c l cont hr hrec hh := (holderPc_free hh ▸ h.chunk c).tight l cont hr hrec
  held _ _ l cont hr hrec ht := (h.chunk_at ht rfl).tight l cont hr hrec
  drawn _ _ _ l cont hr hrec ht := (h.chunk_at ht rfl).tight l cont hr hrec
  recorded _ _ _ l cont hr hrec ht := (h.chunk_at ht rfl).tight l cont hr hrec
  applied _ _ _ l cont hr hrec ht := (h.chunk_at ht rfl).tight l cont hr hrec
  sawOn _ _ _ l cont hr ht := (h.chunk_at ht rfl).late l cont hr rfl

/-! ### consequences used by the property file -/

theorem Inv.restored_cut {w : W} (h : Inv w) (hc : w.spc = .copied) {c l : Nat} {cont : List Nat}
    (hread : w.snapRead c = some (l, cont)) :
    newer w.snapLog c l ++ cont <:+ w.contentAtCopy c ∧ w.contentAtCopy c <:+ w.content c ∧
      w.doneBeforeOpen c <:+ newer w.snapLog c l ++ cont :=
  ⟨(h.chunk c).cut hc l cont hread, (h.chunk c).atcopy hc,
    ((h.chunk c).done_read l cont hread).trans (List.suffix_append _ _)⟩

theorem Inv.restored_suffix {w : W} (h : Inv w) {c l : Nat} {cont : List Nat}
    (hread : w.snapRead c = some (l, cont)) : newer w.snapLog c l ++ cont <:+ w.content c := by
  by_cases hc : w.spc = .copied
  · exact (h.restored_cut hc hread).1.trans (h.restored_cut hc hread).2.1
  · rw [h.r.snaplog hc]; exact (h.chunk c).read_suffix hread

theorem Inv.lastId_head {w : W} (h : Inv w) {c : Nat} (hnd : ∀ t id, w.pc t ≠ .drawn c id) :
    w.lastId c = (w.content c).headD 0 := by
  cases hh : w.holder c with
  | none => exact (holderPc_free hh ▸ h.chunk c).last
  | some t =>
    have hl := h.m.hpc t c hh
    refine (h.chunk_at rfl hl).last_head fun d id e => hnd t id ?_
    rw [e] at hl ⊢
    rw [hl.inj rfl]

theorem Inv.recorded_tight {w : W} (h : Inv w) (hrec : w.recorder = true) {c l : Nat} {cont : List Nat}
    (hread : w.snapRead c = some (l, cont)) :
    newer w.log c l ++ cont = w.content c ∨
      ∃ t id, (w.pc t = .applied c id ∨ w.pc t = .sawRecorder c id true) ∧
        w.content c = id :: (newer w.log c l ++ cont) := by
  cases hh : w.holder c with
  | none => exact Or.inl ((holderPc_free hh ▸ h.chunk c).tight l cont hread hrec)
  | some t =>
    have hl := h.m.hpc t c hh
    have hc := h.chunk_at rfl hl
    have ht := hc.tight l cont hread hrec
    have hlate := hc.late l cont hread
    cases hp : w.pc t with
    | applied d id =>
      rw [hp] at hl ht
      obtain rfl : c = d := hl.inj rfl
      exact Or.inr ⟨t, id, Or.inl hp, ht⟩
    | sawRecorder d id on =>
      rw [hp] at hl ht hlate
      obtain rfl : c = d := hl.inj rfl
      cases ht
      exact Or.inr ⟨t, id, Or.inr hp, hlate rfl⟩
    | _ => rw [hp] at ht; exact Or.inl ht

end ColumnVerif.Conc.Snap
